import SciVerif.Lemmas.C03Round
import SciVerif.Lemmas.C03Reject
import SciVerif.Facts.C03F1
import SciVerif.Facts.C03F2
import SciVerif.Facts.C03F3
import SciVerif.Facts.C03F4
import SciVerif.Facts.C03F7
import SciVerif.Facts.C03PrefShape
import SciVerif.Facts.C03Positive
import SciVerif.Facts.C03PrefixDefs

/-!
# C03 — A unit expression means the product of its table entries

The property theorems (helper lemmas: `Lemmas/C03*.lean`; kernel-decided facts about the
regenerated table: `Facts/C03*.lean`; `Facts/C03PrefShape` and `Facts/C03PrefixDefs` are imported so that
the two audited table facts no theorem here needs are built with this file).  `T` is an arbitrary table; the theorems with `table` in
the name, and the counterexample, are about the table regenerated from the live package (`Gen.tables`).
-/
namespace SciVerif.C03
open Facts

/-- Atom parser soundness, for EVERY string: an accepted text is a number literal matched by the
    number pattern, a key of the system-unit table followed by an exponent text, or exactly `prefix ++ symbol ++ exponent text` with an
    admissible prefix–symbol pair — no foreign character is swallowed, no inadmissible prefix passes. -/
theorem C03_atom_sound (T : Tables) (hT : noBlankHead T) (s : Str) (a : Atom)
    (h : atomParse T s = .ok a) :
    (∃ parts q, numberParts s = some parts ∧ floatOfParts parts = some q ∧ a = ⟨q, []⟩) ∨
    (∃ n e x, a = ⟨1, [(.sys n, e)]⟩ ∧ (T.findSys n).isSome = true ∧ s = n ++ x ∧ expTextOf x e) ∨
    (∃ p b e x, a = ⟨1, [(.std p b, e)]⟩ ∧ s = p ++ b ++ x ∧ expTextOf x e ∧ admissible T p b) := by
  rcases atomParse_cases T s a h with h1 | ⟨u, e, _, hu, rfl⟩
  · exact Or.inl h1
  · obtain ⟨x, hx, ⟨n, rfl, hf, hs⟩ | ⟨p, b, rfl, hs, hadm⟩⟩ := unitParse_sound T hT s u e hu
    · exact Or.inr (Or.inl ⟨n, e, x, rfl, hf, hs, hx⟩)
    · exact Or.inr (Or.inr ⟨p, b, e, x, rfl, hs, hx, hadm⟩)

/-- … in particular on the shipped table (the side condition is part of fact F4: `factF4_noBlank`). -/
theorem C03_atom_sound_table (s p b : Str) (e : Frac)
    (h : atomParse Gen.tables s = .ok ⟨1, [(.std p b, e)]⟩) :
    ∃ x, s = p ++ b ++ x ∧ expTextOf x e ∧ admissible Gen.tables p b := by
  rcases C03_atom_sound Gen.tables (factF4_noBlank C03_fact_F4) s _ h with
    ⟨_, _, _, _, h1⟩ | ⟨_, _, _, h1, _⟩ | ⟨p', b', e', x, h1, hs, hx, hadm⟩
  · cases h1
  · cases h1
  · cases h1; exact ⟨x, hs, hx, hadm⟩

/-- Rejection (unknown symbol, inadmissible prefix, extra characters in front of a symbol): a text
    that is not a number literal, that `unitParse` does not read as a system-unit key (`hsys`; so for
    a text without the system-unit mark in front) and that cannot be read as admissible prefix ++
    symbol ++ exponent characters is rejected. -/
theorem C03_reject_unreadable (T : Tables) (hT : noBlankHead T) (s : Str)
    (hnum : numberParts s = none) (hsys : ∀ n e, unitParse T s ≠ .ok (.sys n, e))
    (hno : ∀ p b x, s = p ++ b ++ x → ¬ admissible T p b) :
    ∃ err, atomParse T s = .error err := by
  cases h : atomParse T s with
  | error err => exact ⟨err, rfl⟩
  | ok a =>
    exfalso
    rcases atomParse_cases T s a h with ⟨parts, _, hp, _⟩ | ⟨u, e, _, hu, _⟩
    · rw [hnum] at hp; cases hp
    · obtain ⟨x, _, ⟨n, rfl, _⟩ | ⟨p, b, rfl, hs, hadm⟩⟩ := unitParse_sound T hT s u e hu
      · exact hsys n e hu
      · exact hno p b x hs hadm

/-- A prefix the unit does not admit is never accepted: whatever `atomParse` returns for any text,
    a returned prefix is a key of the prefix table that the returned unit's row admits. -/
theorem C03_reject_prefix (T : Tables) (hT : noBlankHead T) (s p b : Str) (e : Frac) (hp : p ≠ [])
    (h : atomParse T s = .ok ⟨1, [(.std p b, e)]⟩) :
    ∃ row ∈ T.units, row.sym = b ∧ p ∈ T.prefixKeys ∧ admits T row p = true := by
  rcases C03_atom_sound T hT s _ h with ⟨_, _, _, _, h1⟩ | ⟨_, _, _, h1, _⟩ | ⟨p', b', e', x, h1, _, _, hadm⟩
  · cases h1
  · cases h1
  · cases h1
    obtain ⟨row, hr, hsym, hor⟩ := hadm
    rcases hor with h0 | h0
    · exact absurd h0 hp
    · exact ⟨row, hr, hsym, h0⟩

/-- Atom parser completeness from the table facts F1–F4: every admissible prefix ++ symbol ++
    exponent text is accepted and yields exactly that prefix, symbol and exponent. -/
theorem C03_atom_complete (T : Tables) (h1 : factF1 T = true) (h2 : factF2 T = true)
    (h3 : factF3 T = true) (h4 : factF4 T = true) (u : UnitRow) (hu : u ∈ T.units)
    (p : Str) (hp : p ∈ [] :: admPrefixes T u) (x : Str) (e : Frac) (hx : expTextOf x e) :
    atomParse T (p ++ u.sym ++ x) = .ok ⟨1, [(.std p u.sym, e)]⟩ := by
  unfold atomParse
  rw [numberParts_none_of_symbol T h4 u hu p x, unitParse_complete T h1 h2 h3 h4 u hu p hp x e hx]

/-- … on the shipped table, with the facts decided by the kernel over the whole table. -/
theorem C03_atom_complete_table (u : UnitRow) (hu : u ∈ Gen.tables.units)
    (p : Str) (hp : p ∈ [] :: admPrefixes Gen.tables u) (x : Str) (e : Frac) (hx : expTextOf x e) :
    atomParse Gen.tables (p ++ u.sym ++ x) = .ok ⟨1, [(.std p u.sym, e)]⟩ :=
  C03_atom_complete Gen.tables C03_fact_F1 C03_fact_F2 C03_fact_F3 C03_fact_F4 u hu p hp x e hx

/-- `check_unique_symbols`' condition on the shipped table: two admitted prefix ++ symbol texts
    are equal only if they are the same prefix and the same table row. -/
theorem C03_table_unique (u1 u2 : UnitRow) (hu1 : u1 ∈ Gen.tables.units) (hu2 : u2 ∈ Gen.tables.units)
    (p1 p2 : Str) (hp1 : p1 ∈ [] :: admPrefixes Gen.tables u1) (hp2 : p2 ∈ [] :: admPrefixes Gen.tables u2)
    (h : p1 ++ u1.sym = p2 ++ u2.sym) : u1 = u2 ∧ p1 = p2 :=
  reading_unique Gen.tables C03_fact_F1 u1 u2 hu1 hu2 p1 p2 hp1 hp2 h

/-- Exponent bookkeeping of `Atom.__mul__`: the exponent of every unit in the product is the sum. -/
theorem C03_mul_exponents (a b : Atom) (v : UnitId) (ha : densOk a.units) (hb : densOk b.units) :
    expR (a.mul b).units v = expR a.units v + sumR b.units v ∧ densOk (a.mul b).units ∧
    (a.mul b).mag = a.mag * b.mag :=
  ⟨(mergeAdd_spec a.units b.units v ha hb).1, (mergeAdd_spec a.units b.units v ha hb).2, rfl⟩

/-- Exponent bookkeeping of `Atom.__truediv__`: the difference; dividing by a zero number raises. -/
theorem C03_div_exponents (a b c : Atom) (v : UnitId) (ha : densOk a.units) (hb : densOk b.units)
    (h : a.div b = some c) :
    expR c.units v = expR a.units v - sumR b.units v ∧ densOk c.units ∧ c.mag = a.mag / b.mag ∧ b.mag ≠ 0 := by
  obtain ⟨hne, rfl⟩ := Atom.div_eq_some h
  exact ⟨(mergeSub_spec a.units b.units v ha hb).1, (mergeSub_spec a.units b.units v ha hb).2, rfl, hne⟩

/-- The specification obeys the same laws: the exponent of a unit in a multiset union is the sum,
    in a negated multiset the negative. -/
theorem C03_spec_exponents (l1 l2 : List (UnitId × Rat)) (u : UnitId) :
    expOf (l1 ++ l2) u = expOf l1 u + expOf l2 u ∧ expOf (negExps l1) u = - expOf l1 u :=
  ⟨expOf_append l1 l2 u, expOf_neg l1 u⟩

/-- The binary pass of the solver over `a0 op1 a1 op2 a2 …` (any length) is the left fold. -/
theorem C03_binary_pass_fold (a0 : Atom) (ops : List (Bool × Atom)) :
    binPass [] (.val (some a0) :: chainToks ops) =
      match foldChain a0 ops with
      | some r => .ok [.val (some r)]
      | none => .error .zeroDiv := by
  have e : binPass [] (.val (some a0) :: chainToks ops) = binPass [.val (some a0)] (chainToks ops) := by
    simp [binPass]
  rw [e, binPass_chain a0 ops]
  cases foldChain a0 ops <;> rfl

/-- total exponent a chain of operands contributes to a unit: `+` for `*`, `−` for `/` -/
def chainSum (v : UnitId) : List (Bool × Atom) → Rat
  | [] => 0
  | (true, b) :: rest => sumR b.units v + chainSum v rest
  | (false, b) :: rest => - sumR b.units v + chainSum v rest

/-- Token level (any number of operands): the atom the solver's binary pass returns for
    `a0 op1 a1 …` has, for every unit, the exponent `a0 ± a1 ± …`. -/
theorem C03_chain_exponents (a0 r : Atom) (ops : List (Bool × Atom)) (v : UnitId)
    (h0 : densOk a0.units) (hops : ∀ x ∈ ops, densOk x.2.units) (h : foldChain a0 ops = some r) :
    expR r.units v = expR a0.units v + chainSum v ops ∧ densOk r.units := by
  fun_induction foldChain a0 ops
  case case1 => cases h; simp [chainSum, h0]
  case case2 a0 b rest ih =>
    obtain ⟨e1, d1, _⟩ := C03_mul_exponents a0 b v h0 (hops _ List.mem_cons_self)
    obtain ⟨e2, d2⟩ := ih d1 (fun x hx => hops x (List.mem_cons_of_mem _ hx)) h
    exact ⟨by rw [e2, e1]; simp only [chainSum]; ring, d2⟩
  case case3 a0 b rest c hd ih =>
    obtain ⟨e1, d1, _⟩ := C03_div_exponents a0 b c v h0 (hops _ List.mem_cons_self) hd
    obtain ⟨e2, d2⟩ := ih d1 (fun x hx => hops x (List.mem_cons_of_mem _ hx)) h
    exact ⟨by rw [e2, e1]; simp only [chainSum]; ring, d2⟩
  case case4 => cases h

/-- THE EXPRESSION THEOREM, TEXT LEVEL.  For every unit AST `a` that has a denotation `d` over the
    tables (admissible prefix–symbol pairs, system units, number literals, products, quotients,
    parentheses; `*` `/` left-associative) and EVERY rendering `s` of it — any blanks around leaves
    and parentheses — the character scan with the parenthesis depth counter, the recursive solution
    of parenthesised arguments and the passes of `UnitSolver` return an atom whose number is the
    coefficient of `d` and whose exponent of every unit is the exponent `d` gives it.
    (`T` arbitrary; the side conditions are the kernel-decided table facts.) -/
theorem C03_expr_denotation (T : Tables) (h1 : factF1 T = true) (h2 : factF2 T = true)
    (h3 : factF3 T = true) (h4 : factF4 T = true) (h7 : factF7 T = true)
    (a : U) (s : Str) (hs : Renders a s) (hla : a.leftAssoc = true) (d : Den) (hd : denote T a = some d) :
    ∃ r, unitSolver T s = .ok r ∧ r.mag = d.coef ∧ ∀ u, expR r.units u = expOf d.exps u := by
  obtain ⟨hp, v, hv, hag⟩ := evalU_denote T ⟨h1, h2, h3, h4, h7⟩ a d hd
  exact ⟨v, unitSolver_renders T a s hs hp hla v hv, hag.mag, hag.exps⟩

/-- … on the shipped table, for the rendering without blanks. -/
theorem C03_expr_denotation_table (a : U) (hla : a.leftAssoc = true) (d : Den)
    (hd : denote Gen.tables a = some d) :
    ∃ r, unitSolver Gen.tables a.render = .ok r ∧ r.mag = d.coef ∧
      ∀ u, expR r.units u = expOf d.exps u :=
  C03_expr_denotation Gen.tables C03_fact_F1 C03_fact_F2 C03_fact_F3 C03_fact_F4 C03_fact_F7
    a a.render (renders_render a) hla d hd

/-- The fuel `unitSolver` supplies (`2·length + 2`) always suffices: the model of `UnitSolver` never
    reports a fuel error, for EVERY input text (so a `fuel` answer of the driver is impossible). -/
theorem C03_fuel_suffices (T : Tables) (s : Str) : unitSolver T s ≠ .error .fuel :=
  unitSolver_no_fuel T s

/-- Dimension vector, TEXT LEVEL: for every rendering of an AST with denotation `d`,
    `BaseUnits(text)` succeeds and its dimension vector is `Σ e·dim(u)` over `d`. -/
theorem C03_dims_total (T : Tables) (h1 : factF1 T = true) (h2 : factF2 T = true) (h3 : factF3 T = true)
    (h4 : factF4 T = true) (h7 : factF7 T = true) (hpos : factPositive T = true)
    (a : U) (s : Str) (hs : Renders a s) (hla : a.leftAssoc = true) (d : Den) (hd : denote T a = some d) :
    ∃ b, baseUnitsOfText T s = .ok b ∧ b.dims.map Frac.toRat = specDims T d.exps :=
  baseUnits_dims_total T ⟨h1, h2, h3, h4, h7⟩ hpos a s hs hla d hd

/-- Conversion factor of `Quantity(1,text)`, TEXT LEVEL, over ℝ: for every rendering of an AST with
    denotation `d`, the quantity is built and its value in base units — number × factors moved
    by the "dimensionless" block × magnitude of its units, each factor `x ** (n/d)` read as the real
    power — is the numeric coefficient times `Π (prefix·unit)^e` over `d` (the fold over the whole
    exponent map; zero exponents, un-normalised fractions and `rebase` included). -/
theorem C03_quantity_factor (T : Tables) (h1 : factF1 T = true) (h2 : factF2 T = true) (h3 : factF3 T = true)
    (h4 : factF4 T = true) (h7 : factF7 T = true) (hpos : factPositive T = true)
    (a : U) (s : Str) (hs : Renders a s) (hla : a.leftAssoc = true) (d : Den) (hd : denote T a = some d) :
    ∃ q, quantityOfText T s = .ok q ∧ q.total = ((d.coef : ℚ) : ℝ) * specFactor T d.exps := by
  obtain ⟨q, hq⟩ := quantity_exists T ⟨h1, h2, h3, h4, h7⟩ hpos a s hs hla d hd
  exact ⟨q, hq, quantity_total T ⟨h1, h2, h3, h4, h7⟩ hpos a s hs hla d hd q hq⟩

/-- Full statement for `BaseUnits(text).magnitude`: the conversion factor of the expression,
    numeric factors included. -/
def C03_baseunits_factor_statement (T : Tables) : Prop :=
  ∀ (a : U) (s : Str) (d : Den), Renders a s → a.leftAssoc = true → denote T a = some d →
    ∃ b, baseUnitsOfText T s = .ok b ∧ magR b.factors = ((d.coef : ℚ) : ℝ) * specFactor T d.exps

/-- Proved part: `BaseUnits(text)` succeeds and its magnitude is `Π (prefix·unit)^e` over the whole
    exponent map — which is the conversion factor exactly when the expression's numeric coefficient
    is 1 (guard `d.coef = 1`); a numeric factor is discarded (known finding). -/
theorem C03_baseunits_factor_partial (T : Tables) (h1 : factF1 T = true) (h2 : factF2 T = true)
    (h3 : factF3 T = true) (h4 : factF4 T = true) (h7 : factF7 T = true) (hpos : factPositive T = true)
    (a : U) (s : Str) (hs : Renders a s) (hla : a.leftAssoc = true) (d : Den) (hd : denote T a = some d) :
    ∃ b, baseUnitsOfText T s = .ok b ∧ magR b.factors = specFactor T d.exps ∧
      (d.coef = 1 → magR b.factors = ((d.coef : ℚ) : ℝ) * specFactor T d.exps) := by
  obtain ⟨v, b, _, _, htext, _, hmag, _⟩ := baseUnits_total T ⟨h1, h2, h3, h4, h7⟩ hpos a s hs hla d hd
  exact ⟨b, htext, hmag, fun hc => by rw [hmag, hc]; simp⟩

/-- The full statement fails on the code as it is (mirrored by the model): `BaseUnits('2*m')` has
    magnitude 1, the table product is 2. -/
theorem C03_baseunits_factor_counterexample : ¬ C03_baseunits_factor_statement Gen.tables := by
  intro h
  let a : U := .mul (.num ['2']) (.atom [] ['m'] [])
  have hd : denote Gen.tables a = some ⟨2, [(.std [] ['m'], 1)]⟩ := by decide +kernel
  obtain ⟨b, hb, hmag⟩ := h a a.render _ (renders_render a) (by decide) hd
  obtain ⟨b', hb', hmag', _⟩ := C03_baseunits_factor_partial Gen.tables C03_fact_F1 C03_fact_F2 C03_fact_F3
    C03_fact_F4 C03_fact_F7 C03_fact_positive a a.render (renders_render a) (by decide) _ hd
  rw [hb] at hb'
  cases hb'
  rw [hmag'] at hmag
  have hk : keyMag Gen.tables (.std [] ['m']) = 1 := by
    have : unitMag Gen.tables (.std [] ['m']) = some 1 := by decide +kernel
    simp [keyMag, this]
  rw [specFactor_cons, specFactor_nil, hk] at hmag
  norm_num at hmag

/-- Conversion factor over ℝ: for a positive table magnitude, adding exponents of the same unit
    multiplies the factors (`x^(e₁+e₂) = x^e₁·x^e₂`), subtracting divides, and the factor of a
    prefixed unit is the product of the prefix factor and the unit factor — so the factor of the
    merged exponent map is the product of `(prefix·unit)^e` over all terms. -/
theorem C03_factor (x y : ℝ) (hx : 0 < x) (hy : 0 < y) (e1 e2 : Frac) (h1 : e1.den ≠ 0) (h2 : e2.den ≠ 0) :
    x ^ (((e1.add e2).toRat : ℚ) : ℝ) = x ^ ((e1.toRat : ℚ) : ℝ) * x ^ ((e2.toRat : ℚ) : ℝ) ∧
    x ^ (((e1.sub e2).toRat : ℚ) : ℝ) = x ^ ((e1.toRat : ℚ) : ℝ) / x ^ ((e2.toRat : ℚ) : ℝ) ∧
    (x * y) ^ ((e1.toRat : ℚ) : ℝ) = x ^ ((e1.toRat : ℚ) : ℝ) * y ^ ((e1.toRat : ℚ) : ℝ) := by
  refine ⟨?_, ?_, ?_⟩
  · rw [Frac.toRat_add e1 e2 h1 h2, Rat.cast_add, Real.rpow_add hx]
  · rw [Frac.toRat_sub e1 e2 h1 h2, Rat.cast_sub, Real.rpow_sub hx]
  · exact Real.mul_rpow hx.le hy.le

/-- all magnitudes of the shipped table are positive (so `C03_factor` applies to every entry) -/
theorem C03_magnitudes_positive_table :
    (∀ p ∈ Gen.tables.prefixes, 0 < p.mag) ∧ (∀ u ∈ Gen.tables.units, 0 < u.mag) ∧
    (∀ u ∈ Gen.tables.sys, 0 < u.mag) :=
  factPositive_prop C03_fact_positive

/-- Dimension vector: what `BaseUnits.__init__` accumulates for ANY exponent dict (unnormalised
    `Fraction` arithmetic, zero exponents skipped) is `Σ e·dim(u)` over the dict entries. -/
theorem C03_dims (T : Tables) (hT : tableDimsOk T) (m : ExpMap) (b : BaseUnits) (hm : densOk m)
    (h : baseUnitsOfMap T m = some b) :
    b.dims.map Frac.toRat = specDims T (m.map (fun ue => (ue.1, ue.2.toRat))) :=
  baseUnitsOfMap_dims T hT m b hm h

/-- the shipped table satisfies the side condition of `C03_dims` (fact `factPositive`) -/
theorem C03_dims_table_ok : tableDimsOk Gen.tables :=
  tableDimsOk_of_positive C03_fact_positive

/-- Exponent text round trip: `Fraction.from_string(str(e))` is the rebased fraction, for every
    fraction (digit rendering then the exponent-text reader), and `rebase` keeps the value and is
    idempotent. -/
theorem C03_exponent_roundtrip (e : Frac) :
    Frac.fromString e.str = some e.rebase ∧
    (e.den ≠ 0 → e.rebase.toRat = e.toRat ∧ e.rebase.rebase = e.rebase) :=
  ⟨(fromString_str e).1, fun he => ⟨(rebase_spec e he).1, rebase_idem e⟩⟩

/-- Single atoms: the text `get_unit_base` writes for a key the tables allow (prefix ++ symbol ++
    exponent text, nothing for exponent 1) is parsed back to exactly that key with the rebased exponent. -/
theorem C03_atom_roundtrip (T : Tables) (h1 : factF1 T = true) (h2 : factF2 T = true) (h3 : factF3 T = true)
    (h4 : factF4 T = true) (h7 : factF7 T = true) (u : UnitId) (e : Frac) (hg : goodKey T u) :
    atomParse T (entryText u e) = .ok ⟨1, [(u, e.rebase)]⟩ :=
  (entry_roundtrip T ⟨h1, h2, h3, h4, h7⟩ u e hg).1

/-- RENDER / PARSE ROUND TRIP for whole exponent maps: the `expression` text `BaseUnits` renders for
    a dict over keys the tables allow (distinct keys, non-zero denominators; exponents need not be
    normalised, zero exponents allowed) is accepted by `BaseUnits(text)` again and gives the same
    dict entries, the same expression and the same magnitude. -/
theorem C03_render_roundtrip (T : Tables) (h1 : factF1 T = true) (h2 : factF2 T = true) (h3 : factF3 T = true)
    (h4 : factF4 T = true) (h7 : factF7 T = true)
    (m : ExpMap) (b : BaseUnits) (txt : Str) (hm : densOk m) (hk : keysNodup m)
    (hg : ∀ ue ∈ m, goodKey T ue.1) (hb : baseUnitsOfMap T m = some b) (ht : b.expr = some txt) :
    ∃ b2, baseUnitsOfText T txt = .ok b2 ∧ b2.entries = b.entries ∧ b2.expression = b.expression ∧
      magR b2.factors = magR b.factors :=
  render_roundtrip T ⟨h1, h2, h3, h4, h7⟩ m b txt hm hk hg hb ht

/-- `C03_render_roundtrip` on the shipped table. -/
theorem C03_render_roundtrip_table (m : ExpMap) (b : BaseUnits) (txt : Str) (hm : densOk m)
    (hk : keysNodup m) (hg : ∀ ue ∈ m, goodKey Gen.tables ue.1)
    (hb : baseUnitsOfMap Gen.tables m = some b) (ht : b.expr = some txt) :
    ∃ b2, baseUnitsOfText Gen.tables txt = .ok b2 ∧ b2.entries = b.entries ∧
      b2.expression = b.expression ∧ magR b2.factors = magR b.factors :=
  render_roundtrip Gen.tables ⟨C03_fact_F1, C03_fact_F2, C03_fact_F3, C03_fact_F4, C03_fact_F7⟩ m b txt hm hk hg hb ht

/-- REJECTION, TEXT LEVEL.  Take ANY text `lead ++ piece ++ post` where `piece` (no `(`, `*`, `/`
    in it) is an operand of the top level standing before the first parenthesis: `lead` is empty
    or any parenthesis-free text ending in `*` or `/`, and `post` is empty or begins with `(`, `*`
    or `/` and is otherwise ARBITRARY (balanced or not).  If the atom parser refuses the stripped
    operand text, then `UnitSolver(text)`, `BaseUnits(text)` and `Quantity(1,text)` all fail with
    the same error, which is not the model's fuel error. -/
theorem C03_reject_operand (T : Tables) (lead piece post : Str) (hl : leadOk lead)
    (hp : tokPlain piece) (hpost : stopsAt post) (hne : strip piece ≠ [])
    (hbad : ∃ e, atomParse T (strip piece) = .error e) :
    ∃ err, unitSolver T (lead ++ piece ++ post) = .error err ∧ err ≠ .fuel ∧
      baseUnitsOfText T (lead ++ piece ++ post) = .error err ∧
      quantityOfText T (lead ++ piece ++ post) = .error err :=
  reject_all T _ (unitSolver_badText T _ (BadText.of_operand hl hp hpost hne hbad))

/-- … with the property's three reasons spelled out: an operand whose stripped text is not a number
    literal, is not a system-unit text and cannot be split as admissible prefix ++ symbol ++
    exponent characters (unknown symbol, prefix the unit does not admit, foreign characters in
    front of a valid symbol) makes the whole compound text fail. -/
theorem C03_reject_operand_unreadable (T : Tables) (hT : noBlankHead T) (lead piece post : Str)
    (hl : leadOk lead) (hp : tokPlain piece) (hpost : stopsAt post) (hne : strip piece ≠ [])
    (hnum : numberParts (strip piece) = none)
    (hsys : ∀ n e, unitParse T (strip piece) ≠ .ok (.sys n, e))
    (hno : ∀ p b x, strip piece = p ++ b ++ x → ¬ admissible T p b) :
    ∃ err, unitSolver T (lead ++ piece ++ post) = .error err ∧ err ≠ .fuel ∧
      baseUnitsOfText T (lead ++ piece ++ post) = .error err ∧
      quantityOfText T (lead ++ piece ++ post) = .error err :=
  C03_reject_operand T lead piece post hl hp hpost hne
    (C03_reject_unreadable T hT (strip piece) hnum hsys hno)


/-- REJECTION, TEXT LEVEL, ANY DEPTH.  `BadText T s` (`Lemmas/C03Reject.lean`) describes, purely on the
    characters of `s`, a text in which the scan of `UnitSolver` reaches an operand the atom parser
    refuses — at the start, behind an operator sign, inside the first parenthesised group (to any
    nesting depth, recursively) or behind it — or whose first `(` is never closed or whose first
    group has several comma-separated arguments (also inside groups, recursively); what follows
    the offending place is ARBITRARY.  Every such text is rejected by `UnitSolver(text)`,
    `BaseUnits(text)` and `Quantity(1,text)` with the same error, which is not the fuel error. -/
theorem C03_reject_text (T : Tables) (s : Str) (h : BadText T s) :
    ∃ err, unitSolver T s = .error err ∧ err ≠ .fuel ∧
      baseUnitsOfText T s = .error err ∧ quantityOfText T s = .error err :=
  reject_all T s (unitSolver_badText T s h)

/-- … with the property's reasons for the refusal of the operand (not a number literal, not a
    system-unit text, no reading as admissible prefix ++ symbol ++ exponent characters) as the
    hypothesis of the base case: such an operand, put behind `pre op` (any parenthesis-free `pre`)
    and inside one more parenthesised group `pre2 ( … ) tail`, is rejected. -/
theorem C03_reject_nested_unreadable (T : Tables) (hT : noBlankHead T) (piece post : Str)
    (hp : tokPlain piece) (hpost : stopsAt post) (hne : strip piece ≠ [])
    (hnum : numberParts (strip piece) = none)
    (hsys : ∀ n e, unitParse T (strip piece) ≠ .ok (.sys n, e))
    (hno : ∀ p b x, strip piece = p ++ b ++ x → ¬ admissible T p b)
    (pre pre2 inner tail : Str) (op : Char) (hpre : '(' ∉ pre) (hop : op = '*' ∨ op = '/')
    (hpre2 : '(' ∉ pre2) (hin : innerOk inner 1 = true) (hinner : strip inner = pre ++ op :: (piece ++ post)) :
    ∃ err, unitSolver T (pre2 ++ '(' :: (inner ++ ')' :: tail)) = .error err ∧ err ≠ .fuel := by
  have h0 : BadText T (piece ++ post) :=
    .first piece post hp hpost hne (C03_reject_unreadable T hT (strip piece) hnum hsys hno)
  have h1 : BadText T (strip inner) := hinner ▸ .afterOp pre op _ hpre hop h0
  obtain ⟨err, h, hf, _⟩ := C03_reject_text T _ (.inPar pre2 inner tail hpre2 hin h1)
  exact ⟨err, h, hf⟩

/-- REJECTION OF A MISSING OPERAND, TEXT LEVEL.  (1) A text that begins (after blanks) with `*` or
    `/` is rejected, whatever follows.  (2) A text `pre c rest` with `c` one of `*`, `/` behind any
    parenthesis-free `pre`, where `rest` is blank (operator at the end) or is blanks followed by
    another `*` or `/` and then ANYTHING (two operator signs in a row), is rejected.  In both cases
    `UnitSolver`, `BaseUnits(text)` and `Quantity(1,text)` fail with the same, non-fuel error. -/
theorem C03_reject_missing_operand (T : Tables) (c : Char) (hc : isOpChar c) :
    (∀ (l rest : Str), blank l →
      ∃ err, unitSolver T (l ++ c :: rest) = .error err ∧ err ≠ .fuel ∧
        baseUnitsOfText T (l ++ c :: rest) = .error err ∧ quantityOfText T (l ++ c :: rest) = .error err) ∧
    (∀ (pre rest : Str), '(' ∉ pre →
      ((∃ mid c2 post, rest = mid ++ c2 :: post ∧ blank mid ∧ isOpChar c2) ∨ blank rest) →
      ∃ err, unitSolver T (pre ++ c :: rest) = .error err ∧ err ≠ .fuel ∧
        baseUnitsOfText T (pre ++ c :: rest) = .error err ∧ quantityOfText T (pre ++ c :: rest) = .error err) :=
  ⟨fun l rest hl => reject_all T _ (unitSolver_missing_left T l c rest hl hc),
    fun pre rest hpre hshape => reject_all T _ (unitSolver_missing_right T pre c rest hpre hc hshape)⟩

/-! ## non-vacuity: concrete instances of the hypotheses and of the conclusions -/
example : ∃ u ∈ Gen.tables.units, u.sym = ['m'] ∧ ['d','a'] ∈ [] :: admPrefixes Gen.tables u := by
  decide +kernel
example : expTextOf ['-','3',':','2'] ⟨-3, 2⟩ := by
  right; decide +kernel
example : atomParse Gen.tables ['d','a','m','2'] = .ok ⟨1, [(.std ['d','a'] ['m'], ⟨2, 1⟩)]⟩ := by
  decide +kernel
example : atomParse Gen.tables ['x','k','m'] = .error .badPrefix := by decide +kernel
example : atomParse Gen.tables ['k','a','u'] = .error .badPrefix := by decide +kernel
example : atomParse Gen.tables ['m','m','m'] = .error .badPrefix := by decide +kernel
example : densOk [(.std [] ['m'], ⟨1, 2⟩)] := by intro x hx; simp at hx; subst hx; decide
example : foldChain ⟨1, [(.std [] ['m'], ⟨1, 1⟩)]⟩ [(false, ⟨1, [(.std [] ['s'], ⟨2, 1⟩)]⟩)] =
    some ⟨1, [(.std [] ['m'], ⟨1, 1⟩), (.std [] ['s'], ⟨-2, 1⟩)]⟩ := by decide +kernel
example : noBlankHead Gen.tables := factF4_noBlank C03_fact_F4
example : goodKey Gen.tables (.std ['k'] ['m']) ∧ goodKey Gen.tables (.sys ['#','S','A','D','O']) := by
  constructor
  · obtain ⟨u, hu, hs, hp⟩ : ∃ u ∈ Gen.tables.units, u.sym = ['m'] ∧ ['k'] ∈ [] :: admPrefixes Gen.tables u := by
      decide +kernel
    exact ⟨u, hu, hs, hp⟩
  · show (Gen.tables.findSys ['#','S','A','D','O']).isSome = true
    decide +kernel
example : ((baseUnitsOfMap Gen.tables [(.std ['k'] ['m'], ⟨2, 4⟩), (.std [] ['g'], ⟨0, 3⟩),
    (.std [] ['s'], ⟨-2, 1⟩)]).bind (·.expr)) = some "km1:2*s-2".toList := by decide +kernel
example : Renders (.mul (.atom ['k'] ['g'] []) (.par (.div (.atom [] ['m'] ['2']) (.atom [] ['s'] ['2']))))
    ("kg * ( m2/s2 )".toList) := by
  have h := Renders.mul _ _ _ _
    (Renders.leaf (.atom ['k'] ['g'] []) ['k','g'] [] [' '] rfl rfl rfl)
    (Renders.par _ _ [' '] [] rfl rfl
      (Renders.div _ _ _ _ (Renders.leaf (.atom [] ['m'] ['2']) ['m','2'] [' '] [] rfl rfl rfl)
        (Renders.leaf (.atom [] ['s'] ['2']) ['s','2'] [] [' '] rfl rfl rfl)))
  exact h
example : (denote Gen.tables (.mul (.atom ['k'] ['g'] []) (.par (.div (.atom [] ['m'] ['2'])
    (.atom [] ['s'] ['2']))))).isSome = true := by decide +kernel
example : (baseUnitsOfMap Gen.tables [(.std ['k'] ['m'], ⟨1, 2⟩), (.std [] ['s'], ⟨-2, 1⟩)]).map
    (fun b => b.dims.map Frac.value) =
    some [.pair 1 2, .int 0, .pair (-2) 1, .int 0, .int 0, .int 0, .int 0, .int 0] := by decide +kernel

/-- `kg * xkm /(s` : the operand ` xkm ` (foreign character in front of `km`) after `kg *`,
    followed by an unbalanced rest — hypotheses of `C03_reject_operand` on the shipped table -/
example : ∃ err, unitSolver Gen.tables ("kg *".toList ++ " xkm ".toList ++ "/(s".toList) = .error err ∧
    err ≠ .fuel ∧ baseUnitsOfText Gen.tables ("kg *".toList ++ " xkm ".toList ++ "/(s".toList) = .error err ∧
    quantityOfText Gen.tables ("kg *".toList ++ " xkm ".toList ++ "/(s".toList) = .error err := by
  refine C03_reject_operand Gen.tables _ _ _ (Or.inr ⟨"kg ".toList, '*', by simp, Or.inl rfl, by decide⟩)
    (by intro c hc; simp at hc; rcases hc with rfl | rfl | rfl | rfl | rfl <;> decide)
    (Or.inr ⟨'/', "(s".toList, by simp, Or.inr (Or.inr rfl)⟩) (by decide +kernel)
    ⟨.badPrefix, by decide +kernel⟩

/-- `kg*(m/( xkm *s)) /J(` : the refused operand `xkm` two groups deep, an unbalanced rest behind
    — an instance of `BadText` on the shipped table; and `m*(s` (group never closed) -/
example : BadText Gen.tables ("kg*(m/( xkm *s)) /J(".toList) ∧ BadText Gen.tables ("m*(s".toList) := by
  have hp : tokPlain "xkm ".toList := by
    intro c hc; simp at hc; rcases hc with rfl | rfl | rfl | rfl <;> decide
  have h0 : BadText Gen.tables ("xkm ".toList ++ "*s".toList) :=
    .first _ _ hp (Or.inr ⟨'*', ['s'], rfl, Or.inr (Or.inl rfl)⟩) (by decide +kernel)
      ⟨.badPrefix, by decide +kernel⟩
  have e1 : strip " xkm *s".toList = "xkm ".toList ++ "*s".toList := by decide +kernel
  have h1 : BadText Gen.tables ([] ++ '(' :: (" xkm *s".toList ++ ')' :: [])) :=
    .inPar [] _ [] (by simp) (by decide +kernel) (by rw [e1]; exact h0)
  have h2 : BadText Gen.tables ("m".toList ++ '/' :: ([] ++ '(' :: (" xkm *s".toList ++ ')' :: []))) :=
    .afterOp _ '/' _ (by decide) (Or.inr rfl) h1
  have e2 : strip "m/( xkm *s)".toList =
      "m".toList ++ '/' :: ([] ++ '(' :: (" xkm *s".toList ++ ')' :: [])) := by decide +kernel
  have h3 : BadText Gen.tables ([] ++ '(' :: ("m/( xkm *s)".toList ++ ')' :: " /J(".toList)) :=
    .inPar [] _ _ (by simp) (by decide +kernel) (by rw [e2]; exact h2)
  have h4 : BadText Gen.tables
      ("kg".toList ++ '*' :: ([] ++ '(' :: ("m/( xkm *s)".toList ++ ')' :: " /J(".toList))) :=
    .afterOp _ '*' _ (by decide) (Or.inl rfl) h3
  -- the two texts are cut up by `simp`, which reads a string literal at once; the unifier would
  -- have to decode it step by step
  have e3 : "kg*(m/( xkm *s)) /J(".toList =
      "kg".toList ++ '*' :: ([] ++ '(' :: ("m/( xkm *s)".toList ++ ')' :: " /J(".toList)) := by simp
  have e4 : "m*(s".toList = "m".toList ++ '*' :: ([] ++ '(' :: "s".toList) := by simp
  rw [e3, e4]
  exact ⟨h4, .afterOp "m".toList '*' _ (by decide) (Or.inl rfl)
    (.open [] "s".toList (by simp) (by decide +kernel))⟩

/-- `kg* /m(`, `kg*m/ ` and ` *m)(` are instances of `C03_reject_missing_operand` -/
example : (∃ err, unitSolver Gen.tables ("kg".toList ++ '*' :: (" ".toList ++ '/' :: "m(".toList)) = .error err) ∧
    (∃ err, unitSolver Gen.tables ("kg*m".toList ++ '/' :: " ".toList) = .error err) ∧
    (∃ err, unitSolver Gen.tables (" ".toList ++ '*' :: "m)(".toList) = .error err) := by
  refine ⟨?_, ?_, ?_⟩
  · obtain ⟨err, h, _⟩ := (C03_reject_missing_operand Gen.tables '*' (Or.inl rfl)).2 "kg".toList
      (" ".toList ++ '/' :: "m(".toList) (by decide) (Or.inl ⟨" ".toList, '/', "m(".toList, rfl, by unfold blank; decide, Or.inr rfl⟩)
    exact ⟨err, h⟩
  · obtain ⟨err, h, _⟩ := (C03_reject_missing_operand Gen.tables '/' (Or.inr rfl)).2 "kg*m".toList
      " ".toList (by decide) (Or.inr (by unfold blank; decide))
    exact ⟨err, h⟩
  · obtain ⟨err, h, _⟩ := (C03_reject_missing_operand Gen.tables '*' (Or.inl rfl)).1 " ".toList
      "m)(".toList (by unfold blank; decide)
    exact ⟨err, h⟩

/-- `kg*(m,s)/J` (several arguments in a group) is an instance of `BadText` -/
example : BadText Gen.tables ("kg*".toList ++ '(' :: ("m".toList ++ ',' :: "s)/J".toList)) :=
  .comma _ _ _ (by decide) (by decide)

end SciVerif.C03
