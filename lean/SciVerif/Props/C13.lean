import SciVerif.Lemmas.C13Tables
import SciVerif.Lemmas.C13Escapes
import SciVerif.Lemmas.C13Programs
import SciVerif.Lemmas.C13EscapesRepaired
import SciVerif.Props.C14

/-!
# C13 — DIP node paths follow indentation and values are the literals written

`parseLines` is `DIP.parse` on the queue of logical lines (after `_get_queue`): every line is
lexed by `determine`, the nodes go through the main loop, the result is the final node list.  It is defined in
`Lemmas/C13Run.lean`, not beside `parseText` in `Model/C13Core.lean`: the driver runs `parseText`, `parseLines` is the
form the theorems are stated in, and `C13_text_is_lines` ties the two.
-/
namespace SciVerif.C13

/-- `HierarchyList.register`, for *every* sequence of name-bearing lines: after the lines `ls`
    (text order) and one more line `(d, nm)` the parent stack is that line followed by exactly
    the chain "nearest earlier line with a smaller indentation, then the nearest before that
    with a still smaller one, …", so the dotted path the code assigns is the specified path. -/
theorem C13_paths (ls : List (Nat × Str)) (d : Nat) (nm : Str) :
    registerAll [] (ls ++ [(d, nm)]) = (d, nm) :: anc d ls.reverse ∧
    pathOf (registerAll [] (ls ++ [(d, nm)])) = specPath ls.reverse d nm := by
  have h := registerAll_stackAfter [] (ls ++ [(d, nm)])
  simp only [stackAfter, List.append_nil, List.reverse_append, List.reverse_cons, List.reverse_nil,
    List.nil_append, List.singleton_append] at h
  have h0 : registerAll [] (ls ++ [(d, nm)]) = (d, nm) :: anc d ls.reverse := h
  refine ⟨h0, ?_⟩
  rw [h0]
  simp [pathOf, specPath]

/-- the specified chain really is "parent of parent of …": its head is the nearest earlier line
    with a smaller indentation and its tail is the chain of that line; indentation strictly
    decreases along it. -/
theorem C13_chain_is_iterated_parent (m : Nat) (earlier : List (Nat × Str)) :
    parent? m earlier = (anc m earlier).head? ∧
    (anc m earlier =
      match earlier.dropWhile (fun p => !decide (p.1 < m)) with
      | [] => []
      | p :: rest => p :: anc p.1 rest) ∧
    (anc m earlier).Pairwise (fun a b => b.1 < a.1) ∧ ∀ a ∈ anc m earlier, a.1 < m :=
  ⟨parent?_eq_head m earlier, anc_eq_iterate_parent m earlier, anc_sorted m earlier⟩

example : specPath [(2, "b".toList), (5, "x".toList), (0, "a".toList)] 4 "c".toList = "a.b.c".toList := by
  repeat rw [toList_lit rfl]
  decide

/-- The main loop on lexed nodes: replacing every indentation `k` by `f k` for a strictly
    monotone `f` gives the same node list (same paths, order, types, units, values), error for
    error.  Tables included (`TableNode.parse` only copies the indentation). -/
theorem C13_indent_invariance_nodes (P : Params) (f : Nat → Nat) (hf : ∀ a b, a < b → f a < f b)
    (hT : TableIndentOnly P f) (nds : List Node) :
    parseNodes P (nds.map (reindent f)) = parseNodes P nds := by
  have h := runNodes_reindent P f (orderEmb_of_strictMono f hf) hT nds {}
  have h0 : mapState f ({} : State) = {} := rfl
  rw [h0] at h
  simp only [parseNodes, h, bind, Except.bind]
  cases runNodes P {} nds with
  | error x => rfl
  | ok s => rfl

/-- the executable parameters used by the driver satisfy the table hypothesis -/
theorem C13_table_copies_indent (tbl : List UnitRow) (f : Nat → Nat) : TableIndentOnly (mkParams tbl) f := by
  intro nd
  simp only [mkParams, expandTable, reindent]
  cases expandTable0 nd.raw nd.name with
  | error x => rfl
  | ok l => simp [Except.map, reindent, Function.comp_def]

/-- Text level: lines written as `k` blanks followed by a body (whose first character is not a
    blank and not `#`) — re-indenting every line from `k` to `f k` blanks, `f` strictly monotone,
    does not change what `parse` returns.  ("The number of blanks per level does not matter.") -/
theorem C13_indent_invariance (P : Params) (f : Nat → Nat) (hf : ∀ a b, a < b → f a < f b)
    (hT : TableIndentOnly P f) (lines : List (Nat × Str))
    (hb : ∀ l ∈ lines, ∃ c r, encode l.2 = c :: r ∧ isWs c = false ∧ c ≠ '#') :
    parseLines P (lines.map (fun l => List.replicate (f l.1) ' ' ++ l.2)) =
      parseLines P (lines.map (fun l => List.replicate l.1 ' ' ++ l.2)) := by
  simp only [parseLines, mapM_determine_reindent f lines hb, bind, Except.bind]
  cases (lines.map (fun l => List.replicate l.1 ' ' ++ l.2)).mapM determine with
  | error x => rfl
  | ok nds => exact C13_indent_invariance_nodes P f hf hT nds

example : ∃ c r, encode "ab".toList = c :: r ∧ isWs c = false ∧ c ≠ '#' :=
  ⟨'a', "b".toList, by simp [encode, replaceAll], by decide, by decide⟩
example : ∀ a b : Nat, a < b → 3 * a + 2 < 3 * b + 2 := by intro a b h; omega

/-- a blank line, or a comment line at any indentation, is lexed to an `EmptyNode` -/
theorem C13_blank_comment_lexed (s : Str) (k : Nat) (c : Str) :
    (isBlank (encode s) = true → determine s = .ok { kind := .empty }) ∧
    determine (List.replicate k ' ' ++ '#' :: c) = .ok { kind := .empty } :=
  ⟨determine_blank s, determine_comment k c⟩

/-- inserting a blank line or a comment line anywhere in the queue does not change what `parse` returns -/
theorem C13_blank_comment_invariance (P : Params) (a b : List Str) (l : Str)
    (hl : isBlank (encode l) = true ∨ ∃ k c, l = List.replicate k ' ' ++ '#' :: c) :
    parseLines P (a ++ l :: b) = parseLines P (a ++ b) := by
  have hd : determine l = .ok { kind := .empty } := by
    rcases hl with h | ⟨k, c, rfl⟩
    · exact determine_blank l h
    · exact determine_comment k c
  exact parseLines_empty P a b l hd

example : isBlank (encode (List.replicate 4 ' ')) = true := by
  have := encode_spaces 4 []
  simp only [List.append_nil] at this
  rw [this]
  simp [encode, replaceAll, isBlank, isWs]

/-- **From the string given to `add_string`.**  For a text without triple quotes, `DIP.add_string` + `_get_queue`
    + `parse` (split at newlines, strip the blank lines at both ends, queue every line) is `parse` on the list of
    its lines: `parseText` (what the driver runs against the real code) and `parseLines` (what the theorems above
    talk about) agree on `lines` joined by newlines, for every non-empty list of newline-free lines — blank
    lines at the ends included (they are stripped, and by `C13_blank_comment_invariance` do not matter). -/
theorem C13_text_is_lines (P : Params) (lines : List Str) (hne : lines ≠ [])
    (hnl : ∀ l ∈ lines, ∀ c ∈ l, c ≠ '\n') (hq : ∀ l ∈ lines, hasTriple l = false) :
    parseText P (joinWith ['\n'] lines) = parseLines P lines := by
  unfold parseText
  rw [splitOn_join '\n' lines hne hnl]
  obtain ⟨pre, post, hdec, hpre, hpost⟩ := strip_decomp lines
  generalize hS : stripBlankLines lines = S at *
  subst hdec
  have hSq : ∀ l ∈ S, hasTriple l = false := fun l hl => hq l (by simp [hl])
  rw [getQueue_noTriple S hSq]
  have h1 := parseLines_empties P (pre ++ S) [] post
    (fun l hl => determine_blank l (isBlank_encode l (hpost l hl) (hnl l (by simp [hl]))))
  have h2 := parseLines_empties P [] S pre
    (fun l hl => determine_blank l (isBlank_encode l (hpre l hl) (hnl l (by simp [hl]))))
  simp only [List.append_nil, List.nil_append] at h1 h2
  rw [h1, h2]
  rfl

example : joinWith ['\n'] ["".toList, "a int = 1".toList, "  b int = 2".toList, " ".toList] =
    "\na int = 1\n  b int = 2\n ".toList := by
  repeat rw [toList_lit rfl]
  decide

/-- One parameter per distinct path, in order of first appearance: whenever `parse` succeeds the
    paths of the returned nodes are pairwise different, every node has a value object, and the
    nodes created while reading a prefix `a` of the program come first, in the same order
    (later lines only append new paths or modify existing entries in place). -/
theorem C13_one_per_node_in_order (P : Params) (a b : List Node) (ns : List ENode)
    (h : parseNodes P (a ++ b) = .ok ns) :
    (ns.map (·.name)).Nodup ∧ (∀ e ∈ ns, e.value.isSome = true) ∧
    ∃ s1, runNodes P {} a = .ok s1 ∧ (s1.nodes.map (·.name)) <+: (ns.map (·.name)) := by
  obtain ⟨s, hr, h⟩ := Util.bind_eq_ok h
  obtain ⟨hns, hval⟩ := validate_ok h
  subst hns
  obtain ⟨ext, _, hnd⟩ := runNodes_grows P (a ++ b) {} s hr
  refine ⟨hnd (by simp [names]), hval, ?_⟩
  rw [runNodes_append] at hr
  obtain ⟨s1, h1, hr⟩ := Util.bind_eq_ok hr
  obtain ⟨ext2, h2, _⟩ := runNodes_grows P b s1 s hr
  exact ⟨s1, h1, ⟨ext2, h2.symm⟩⟩

/-- the path a new entry gets is the one `register` computed for its line (so, by `C13_paths`,
    the specified path), and its type, width/sign, dimension and unit are the ones written -/
theorem C13_new_entry_is_as_written (P : Params) (s s' : State) (nd : Node) (t : Ty) (nm : Str)
    (hk : nd.kind = .typed t) (hn : nd.name = some nm)
    (hnew : ∀ e ∈ s.nodes, e.name ≠ pathOf (push s.stack nd.indent nm))
    (h : stepPlain P s nd = .ok s') :
    ∃ v, initValue P t nd.dims nd.raw = .ok v ∧
      s'.nodes = s.nodes ++ [newEntry (pathOf (push s.stack nd.indent nm)) t nd v] := by
  obtain ⟨_, ⟨pre, e, e', post, h1, _, h3, _⟩ | ⟨t', v, hk', _, hi, h2⟩⟩ :=
    stepPlain_value_ok P s s' nd nm (.inr ⟨t, hk⟩) hn h
  · exact absurd h3 (hnew e (by rw [h1]; simp))
  · obtain rfl : t' = t := by rw [hk] at hk'; injection hk' with h; exact h.symm
    exact ⟨v, hi, h2⟩

/-! ### literal round trip: `determine (render d) = node d`

`LineD` (in `Lemmas/C13Determine.lean`) describes a line as written: a possibly dotted name, then either
nothing (group), `= value` (modification), `type[dims] = value` (definition) or `type[dims]`
(declaration); the type keyword carries its width / sign suffix (`TyD`), dimensions are written
with digit strings (`DimD`), the value is a bare word (booleans, numbers in any notation, `none`,
bare strings, inline arrays without blanks), a double- or single-quoted text, or a triple-quoted
text (`Lit`), followed by an optional unit and an optional `# comment`; every gap has an
arbitrary number of blanks. -/

/-- For every well-formed line description `d`, every indentation `k`: lexing the rendered text
    gives back exactly the node `d` denotes — indentation, name, type with width/sign, dimension
    bounds, the value text between the quotes (or the bare word) with the escape marks undone,
    and the unit.  `NoEsc`: the rendered line contains no backslash and no newline (escaped quotes
    inside quoted strings are therefore not covered by this theorem). -/
theorem C13_literal_roundtrip (k : Nat) (d : LineD) (hd : d.Ok) (hesc : NoEsc d.render) :
    determine (List.replicate k ' ' ++ d.render) = .ok { d.node with indent := k } :=
  determine_render k d hd hesc

example : (LineD.modify "a.b".toList 0 1 { lit := .dq "x # y".toList, cm := some (1, " say \"hi\"".toList) }).Ok ∧
    NoEsc (LineD.modify "a.b".toList 0 1 { lit := .dq "x # y".toList, cm := some (1, " say \"hi\"".toList) }).render :=
  by
  repeat rw [toList_lit rfl]
  exact ⟨⟨⟨⟨'a', _, rfl⟩, by decide⟩, by show ∀ c ∈ _, c ≠ '"'; decide, by intro n x h; cases h⟩, by decide⟩

/-- value text without `$` is stored literally (the `$@NN` escape marks are the only rewriting) -/
theorem C13_value_text_literal (s : Str) (h : ∀ c ∈ s, c ≠ '$') : decode s = s := decode_noDollar s h

example : (LineD.define "a.b".toList 1 (.int true (some .w64)) (some [.range "2".toList [], .exact "3".toList]) 0 2
    { lit := .bare "[[1,2,3],[4,5,6]]".toList, unit := some (1, "km/h".toList), cm := some (3, " c".toList) }).render
    = "a.b  uint64[2:,3]=  [[1,2,3],[4,5,6]]  km/h   # c".toList := by
  repeat rw [toList_lit rfl]
  decide

/-- `DIP._get_queue`: a line without `"""` is queued unchanged; a line with `"""` swallows the
    following lines up to and including the next one containing `"""` and queues ONE logical line
    (head ++ block lines joined by newlines ++ closing line without its leading blanks);
    a block that is never closed makes parsing fail. -/
theorem C13_block_grouping (hd cl l : Str) (blk rest t : List Str) (hhd : hasTriple hd = true)
    (hblk : ∀ x ∈ blk, hasTriple x = false) (hcl : hasTriple cl = true) (hl : hasTriple l = false) :
    getQueue (l :: t) = (getQueue t).map (fun q => l :: q) ∧
    getQueue (hd :: (blk ++ cl :: rest)) =
      (getQueue rest).map (fun q => (hd ++ joinWith ['\n'] blk ++ lstrip cl) :: q) ∧
    getQueue (hd :: blk) = .error .fail :=
  ⟨getQueue_plain l t hl, getQueue_block hd cl blk rest hhd hblk hcl, getQueue_unterminated hd blk hhd hblk⟩

/-- Block values end to end: the head line `<k blanks>name type[dims] = """`, arbitrary block lines
    (free of `"`, backslash and `$`) and the closing line `<j blanks>""" [unit] [# comment]` are grouped
    into one logical line, and that line is lexed to the definition node whose raw value is exactly
    the block lines joined by newlines (the newline marks `$@02` are put in and taken out again). -/
theorem C13_block_value_roundtrip (k j : Nat) (nm : Str) (a : Nat) (ty : TyD) (dims : Option (List DimD)) (b c : Nat)
    (blk rest : List Str) (unit cm : Option (Nat × Str))
    (hn : NameOk nm) (hd : DimsOk dims) (hu : ∀ n x, unit = some (n, x) → UnitOk x)
    (htail : NoEsc (renderTail unit cm))
    (hblk : ∀ l ∈ blk, ∀ x ∈ l, x ≠ '"' ∧ x ≠ '\\' ∧ x ≠ '$') :
    let logical := List.replicate k ' ' ++ (definePrefix nm a ty dims b c ++
      ('"' :: '"' :: '"' :: (blockText blk ++ '"' :: '"' :: '"' :: renderTail unit cm)))
    getQueue ((List.replicate k ' ' ++ (definePrefix nm a ty dims b c ++ ['"', '"', '"'])) ::
        (blk ++ (List.replicate j ' ' ++ '"' :: '"' :: '"' :: renderTail unit cm) :: rest)) =
      (getQueue rest).map (fun q => logical :: q) ∧
    determine logical = .ok (blockNode k nm ty dims (blockText blk) unit) :=
  block_value_roundtrip k j nm a ty dims b c blk rest unit cm hn hd hu htail hblk

/-- **Table expansion** (`TableNode.parse`).  A table written as header lines `name type[dims] [unit]`,
    an empty line and `k ≥ 1` rows of simple cells (one blank between cells, split as the `_csv` reader
    does, as many cells as header lines) expands to exactly the column definitions: in header order,
    named `table.column`, with the type, width/sign and unit of the header, dimension `[k]`, carrying the
    cells of that column in row order (read as JSON exactly when the header declares an inner dimension). -/
theorem C13_table_expansion (tname : Str) (cols : List ColD) (rows : List (List Str))
    (hcols : cols ≠ []) (hcok : ∀ c ∈ cols, c.Ok) (hrows : rows ≠ [])
    (hr : ∀ r ∈ rows, r.length = cols.length ∧ ∀ c ∈ r, SimpleCell c) :
    expandTable0 (some (.text (renderTable cols rows))) (some tname) = .ok (columnNodes tname cols rows) :=
  expandTable0_render tname cols rows hcols hcok hrows hr

example : renderTable [{ cname := "x".toList, ty := .int false none }, { cname := "y".toList, ty := .float none, unit := some (0, "s".toList) }]
    [["0".toList, "1.5".toList], ["1".toList, "2.5".toList]] = "x int\ny float s\n\n0 1.5\n1 2.5".toList := by
  repeat rw [toList_lit rfl]
  decide

/-- `none`, `true`, `false`, and any other text for a string parameter -/
theorem C13_cast_keywords (ty : Ty) (dims : Option (List Dim)) (s : Str) (hs : (s == "none".toList) = false) :
    castText ty dims "none".toList = .ok .none ∧
    castText .bool none "true".toList = .ok (.scalar (.bool true)) ∧
    castText .bool none "false".toList = .ok (.scalar (.bool false)) ∧
    castText .str none s = .ok (.scalar (.str s)) := by
  refine ⟨by simp [castText], ?_, ?_, ?_⟩
  · simp only [castText, castScalar, kw_none, kw_true]; rfl
  · simp only [castText, castScalar, kw_none, kw_true, kw_false]; rfl
  · rw [castText_scalar hs]; rfl

/-- an integer literal `[+-]digits` is stored as the integer the digits denote -/
theorem C13_cast_int_literal (sg : Option Bool) (d : Str) (hd : allDigits d = true) :
    castText .int none (signText sg ++ d) =
      .ok (.scalar (.num (((if signNeg sg then -(digitsToNat d : Int) else (digitsToNat d : Int)) : Int) : Rat))) := by
  have hnone := (numWord_not_keyword _ (by simp [(allDigits_iff hd).1]) (intLit_chars sg d (allDigits_iff hd).2)).1
  rw [castText_scalar hnone, castScalar, castInt_lit sg d hd]
  rfl

/-- a float literal in decimal or scientific notation (`23.3`, `.5`, `5.`, `-1.5E-3`, `1e+5`, …) is
    stored as the rational number it denotes: `±(ip + fp / 10^|fp|) · 10^(±exp)` -/
theorem C13_cast_float_literal (f : FloatD) (hf : f.Ok) :
    castText .float none f.render = .ok (.scalar (.num f.value)) := by
  have hnone := (numWord_not_keyword _ (floatD_render_ne f hf) (floatD_chars f hf)).1
  rw [castText_scalar hnone, castScalar, castFloat_lit f hf]
  rfl

example : (FloatD.mk (some true) "1".toList (some "5".toList) (some (true, some true, "3".toList))).render = "-1.5E-3".toList := by
  repeat rw [toList_lit rfl]
  decide

/-- `json.loads` + the shape test of `cast_value` on a flat inline array `[t1,…,tn]` (elements are
    words without blanks, commas, brackets): the elements come back in order with shape `[n]`, and
    the value is the array of the element casts whenever the declared dimension admits `n`.
    Partial: depth 1 only (all depths: `C13_inline_array`; from the text of the line: `C13_inline_array_text`). -/
theorem C13_inline_array_flat_partial (ty : Ty) (ds : List Dim) (toks : List Str) (atoms : List Atom)
    (hne : toks ≠ []) (hok : ∀ t ∈ toks, TokOk t)
    (hel : (toks.map Tok.bare).mapM (tokAtom ty) = .ok atoms) (hd : checkDims ds [toks.length] = true) :
    parseJson (renderFlat toks) = .ok ([toks.length], toks.map Tok.bare) ∧
    castText ty (some ds) (renderFlat toks) = .ok (.array [toks.length] atoms) := by
  have hp := parseJson_rendered (rendered_flat toks hne hok)
  exact ⟨hp, castText_array (ne_none_of_head _ (by simp [renderFlat])) hp hel hd⟩

example : renderFlat ["1".toList, "-2".toList, "30".toList] = "[1,-2,30]".toList := by
  repeat rw [toList_lit rfl]
  decide

/-- **Inline arrays of arbitrary nesting depth.**  `Rendered s sh toks` says that the text `s` is a
    rectangular nested list: a single word, or `[item,…,item]` (n ≥ 1) whose items are rendered with one
    common shape.  For every such text `json.loads` returns the shape `sh` (= the dimensions, outermost
    first) and the leaves `toks` in row-major order, and `cast_value` yields the array of the element
    casts whenever the declared dimension admits the shape.  (Induction on the nesting; the fuel
    `parseJson` supplies, the length of the text, is shown to suffice.) -/
theorem C13_inline_array (ty : Ty) (ds : List Dim) (s : Str) (sh : List Nat) (toks : List Tok) (atoms : List Atom)
    (hr : Rendered s sh toks) (hnone : (s == "none".toList) = false)
    (hel : toks.mapM (tokAtom ty) = .ok atoms) (hd : checkDims ds sh = true) :
    parseJson s = .ok (sh, toks) ∧ castText ty (some ds) s = .ok (.array sh atoms) := by
  have hp := parseJson_rendered hr
  exact ⟨hp, castText_array hnone hp hel hd⟩

/-- a nested list is rectangular by construction of `Rendered`: all items of one list have one shape;
    the shape of `[[…],[…],…]` is the number of items followed by that common shape -/
theorem C13_inline_array_shape (items : List (Str × List Tok)) (sh : List Nat) (hne : items ≠ [])
    (h : ∀ it ∈ items, Rendered it.1 sh it.2) :
    parseJson ('[' :: (joinWith [','] (items.map Prod.fst) ++ [']'])) =
      .ok (items.length :: sh, items.flatMap Prod.snd) :=
  parseJson_rendered (Rendered.arr items sh hne h)

/-- **Nested inline arrays, text level.**  The definition line
    `<k blanks>name type[dims] = [[…],[…]] [unit] [# comment]` (any number of blanks in every gap; the array a
    rendered rectangular nested list of ANY depth ≥ 1 without `#`, backslash, `$`) goes through the whole
    front end: (1) the lexer returns the definition node whose raw value is exactly the array text;
    (2) `set_value` = `cast_value` on that node gives the array of the element casts with shape = the nesting
    dimensions, provided the declared dimension admits the shape; (3) `parse` on the one-line program returns
    exactly one parameter: the name, type, width/sign, dimension and unit written, and that array value.
    (`hunit`: a unit is written only on int/float lines and is known; `hel`: the element casts succeed — discharged
    for integer, float and boolean elements by `C13_array_int_elements`, `C13_array_float_elements`,
    `C13_array_bool_elements`; `C13_int_array_text` and `C13_float_array_text` are the instances without any
    hypothesis on the elements.) -/
theorem C13_inline_array_text (tbl : List UnitRow) (k : Nat) (nm : Str) (a : Nat) (ty : TyD) (dims : Option (List DimD))
    (b c : Nat) (s : Str) (sh : List Nat) (toks : List Tok) (atoms : List Atom) (ds : List Dim)
    (unit cm : Option (Nat × Str))
    (hn : NameOk nm) (hd : DimsOk dims) (hu : ∀ n x, unit = some (n, x) → UnitOk x)
    (htail : NoEsc (renderTail unit cm))
    (hunit : ∀ n x, unit = some (n, x) → (ty.ty = .int ∨ ty.ty = .float) ∧ tbl.any (fun r => r.name = x) = true)
    (hr : Rendered s sh toks) (hsh : sh ≠ []) (hplain : ∀ ch ∈ s, ch ≠ '#' ∧ ch ≠ '\\' ∧ ch ≠ '$')
    (hds : dimsValue dims = some ds) (hel : toks.mapM (tokAtom ty.ty) = .ok atoms) (hcd : checkDims ds sh = true) :
    let line := List.replicate k ' ' ++ (definePrefix nm a ty dims b c ++ (s ++ renderTail unit cm))
    determine line = .ok (blockNode k nm ty dims s unit) ∧
    initValue (mkParams tbl) ty.ty (some ds) (some (.text s)) = .ok (some (.array sh atoms)) ∧
    parseLines (mkParams tbl) [line] =
      .ok [{ name := nm, ty := ty.ty, info := ty.info, dims := some ds, units := unit.map Prod.snd,
             value := some (.array sh atoms), declared := false }] := by
  intro line
  obtain ⟨r, hsr⟩ := renderedQ_head (rendered_toQ hr) hsh
  exact inline_array_text_core tbl k nm a ty dims b c s r sh toks atoms ds unit cm hn hd hu htail hunit
    (parseJson_rendered hr) hsr (fun ch hch => ⟨(hplain ch hch).1, rendered_noWs hr ch hch, (hplain ch hch).2⟩)
    hds hel hcd

example : Rendered "[[1,2],[3,4]]".toList [2, 2] [.bare "1".toList, .bare "2".toList, .bare "3".toList, .bare "4".toList] := by
  repeat rw [toList_lit rfl]
  have t : ∀ x ∈ [['1'], ['2'], ['3'], ['4']], TokOk x := by
    intro x hx
    simp only [List.mem_cons, List.not_mem_nil, or_false] at hx
    rcases hx with rfl | rfl | rfl | rfl <;> exact ⟨⟨_, _, rfl, by decide⟩, by decide⟩
  have r1 := rendered_flat [['1'], ['2']] (by simp) (fun x hx => t x (by simp at hx ⊢; rcases hx with rfl | rfl <;> simp))
  have r2 := rendered_flat [['3'], ['4']] (by simp) (fun x hx => t x (by simp at hx ⊢; rcases hx with rfl | rfl <;> simp))
  exact Rendered.arr [(_, _), (_, _)] [2] (by simp)
    (by intro it h; simp only [List.mem_cons, List.not_mem_nil, or_false] at h; rcases h with rfl | rfl; exact r1; exact r2)

/-- **Element casts of integer arrays** (`np.array(json value, dtype=int)`).  An element written as JSON writes
    integers (optional `-`, then `0` or digits without a leading zero) inside the 64-bit range is one array word
    and is stored as the integer the digits denote. -/
theorem C13_array_int_elements (its : List IntTok) (h : ∀ i ∈ its, i.Ok) :
    (∀ i ∈ its, TokOk i.render) ∧
    (its.map (fun i => Tok.bare i.render)).mapM (tokAtom .int) =
      .ok (its.map (fun i => Atom.num ((i.value : Int) : Rat))) :=
  ⟨fun i hi => intTok_tokOk i (h i hi),
   mapM_ok_map (tokAtom .int) _ _ its (fun i hi => tokAtom_intTok i (h i hi))⟩

example : (IntTok.mk true "30".toList).Ok ∧ (IntTok.mk true "30".toList).render = "-30".toList ∧
    (IntTok.mk true "30".toList).value = -30 :=
  ⟨⟨by decide, by decide, by decide, by decide⟩, by decide, by decide⟩

theorem C13_array_bool_elements (bs : List Bool) :
    (∀ b ∈ bs, TokOk (if b then "true".toList else "false".toList)) ∧
    (bs.map (fun b => Tok.bare (if b then "true".toList else "false".toList))).mapM (tokAtom .bool) =
      .ok (bs.map Atom.bool) :=
  ⟨fun b _ => boolTok_tokOk b, mapM_ok_map (tokAtom .bool) _ _ bs (fun b _ => tokAtom_boolTok b)⟩

/-- **Integer arrays of any nesting depth, from the text to the value** (no hypothesis on the element casts,
    none on the characters): the one-line program `name [u]int[NN][dims] = [[i,…],[…]] [unit] [# comment]`, the
    array a rectangular nested list of integer literals in the 64-bit range, parses to exactly one parameter
    whose value is the array of those integers, in row-major order, with shape = the nesting dimensions. -/
theorem C13_int_array_text (tbl : List UnitRow) (k : Nat) (nm : Str) (a : Nat) (uns : Bool) (w : Option IntW)
    (dims : Option (List DimD)) (b c : Nat) (s : Str) (sh : List Nat) (its : List IntTok) (ds : List Dim)
    (unit cm : Option (Nat × Str))
    (hn : NameOk nm) (hd : DimsOk dims) (hu : ∀ n x, unit = some (n, x) → UnitOk x)
    (htail : NoEsc (renderTail unit cm))
    (hunit : ∀ n x, unit = some (n, x) → tbl.any (fun r => r.name = x) = true)
    (hr : Rendered s sh (its.map (fun i => Tok.bare i.render))) (hsh : sh ≠ []) (hok : ∀ i ∈ its, i.Ok)
    (hds : dimsValue dims = some ds) (hcd : checkDims ds sh = true) :
    parseLines (mkParams tbl)
        [List.replicate k ' ' ++ (definePrefix nm a (.int uns w) dims b c ++ (s ++ renderTail unit cm))] =
      .ok [{ name := nm, ty := .int, info := (TyD.int uns w).info, dims := some ds, units := unit.map Prod.snd,
             value := some (.array sh (its.map (fun i => Atom.num ((i.value : Int) : Rat)))), declared := false }] :=
  (C13_inline_array_text tbl k nm a (.int uns w) dims b c s sh _ _ ds unit cm hn hd hu htail
    (fun n x h => ⟨.inl rfl, hunit n x h⟩) hr hsh (rendered_num_plain _ its (fun i hi => intTok_chars i (hok i hi)) hr) hds
    (C13_array_int_elements its hok).2 hcd).2.2

/-- **Element casts of float arrays** (`np.array(json value, dtype=float)`).  An element written as a JSON number
    (optional `-`, integer part without leading zero, optional `.digits`, optional exponent `e|E[+-]digits`;
    integer literals included) is one array word and is stored as the rational number the literal denotes. -/
theorem C13_array_float_elements (fs : List FloatD) (h : ∀ f ∈ fs, f.Ok ∧ f.Json) :
    (∀ f ∈ fs, TokOk f.render) ∧
    (fs.map (fun f => Tok.bare f.render)).mapM (tokAtom .float) = .ok (fs.map (fun f => Atom.num f.value)) :=
  ⟨fun f hf => floatD_tokOk f (h f hf).1 (h f hf).2,
   mapM_ok_map (tokAtom .float) _ _ fs (fun f hf => tokAtom_floatD f (h f hf).1 (h f hf).2)⟩

example : (FloatD.mk (some true) "1".toList (some "5".toList) (some (true, some true, "3".toList))).Ok ∧
    (FloatD.mk (some true) "1".toList (some "5".toList) (some (true, some true, "3".toList))).Json :=
  ⟨⟨by decide, by intro x hx; cases hx; decide, .inl (by decide), by intro cap es ed h; cases h; decide⟩,
   ⟨by decide, by decide, by decide, by intro x hx; cases hx; decide⟩⟩

/-- **Float arrays of any nesting depth, from the text to the value**: the one-line program
    `name float[NN][dims] = [[x,…],[…]] [unit] [# comment]`, the array a rectangular nested list of JSON numbers,
    parses to exactly one parameter whose value is the array of the numbers denoted, in row-major order, with
    shape = the nesting dimensions. -/
theorem C13_float_array_text (tbl : List UnitRow) (k : Nat) (nm : Str) (a : Nat) (w : Option FloatW)
    (dims : Option (List DimD)) (b c : Nat) (s : Str) (sh : List Nat) (fs : List FloatD) (ds : List Dim)
    (unit cm : Option (Nat × Str))
    (hn : NameOk nm) (hd : DimsOk dims) (hu : ∀ n x, unit = some (n, x) → UnitOk x)
    (htail : NoEsc (renderTail unit cm))
    (hunit : ∀ n x, unit = some (n, x) → tbl.any (fun r => r.name = x) = true)
    (hr : Rendered s sh (fs.map (fun f => Tok.bare f.render))) (hsh : sh ≠ []) (hok : ∀ f ∈ fs, f.Ok ∧ f.Json)
    (hds : dimsValue dims = some ds) (hcd : checkDims ds sh = true) :
    parseLines (mkParams tbl)
        [List.replicate k ' ' ++ (definePrefix nm a (.float w) dims b c ++ (s ++ renderTail unit cm))] =
      .ok [{ name := nm, ty := .float, info := (TyD.float w).info, dims := some ds, units := unit.map Prod.snd,
             value := some (.array sh (fs.map (fun f => Atom.num f.value))), declared := false }] :=
  (C13_inline_array_text tbl k nm a (.float w) dims b c s sh _ _ ds unit cm hn hd hu htail
    (fun n x h => ⟨.inr rfl, hunit n x h⟩) hr hsh (rendered_num_plain _ fs (fun f hf => floatD_chars f (hok f hf).1) hr) hds
    (C13_array_float_elements fs hok).2 hcd).2.2

/-- **Boolean arrays of any nesting depth, from the text to the value.** -/
theorem C13_bool_array_text (tbl : List UnitRow) (k : Nat) (nm : Str) (a : Nat) (dims : Option (List DimD)) (b c : Nat)
    (s : Str) (sh : List Nat) (bs : List Bool) (ds : List Dim) (cm : Option (Nat × Str))
    (hn : NameOk nm) (hd : DimsOk dims) (htail : NoEsc (renderTail none cm))
    (hr : Rendered s sh (bs.map (fun b => Tok.bare (if b then "true".toList else "false".toList)))) (hsh : sh ≠ [])
    (hds : dimsValue dims = some ds) (hcd : checkDims ds sh = true) :
    parseLines (mkParams tbl)
        [List.replicate k ' ' ++ (definePrefix nm a .bool dims b c ++ (s ++ renderTail none cm))] =
      .ok [{ name := nm, ty := .bool, info := {}, dims := some ds, units := none,
             value := some (.array sh (bs.map Atom.bool)), declared := false }] :=
  (C13_inline_array_text tbl k nm a .bool dims b c s sh _ _ ds none cm hn hd (by intro n x h; cases h) htail
    (by intro n x h; cases h) hr hsh (rendered_bool_plain bs hr) hds (C13_array_bool_elements bs).2 hcd).2.2

/-- **Ragged arrays are rejected.**  In `[item,…,item,BAD…` with `n ≥ 1` items of one common shape followed by an
    item of a different shape (both rendered nested lists of any depth; what follows `BAD` is arbitrary text
    starting with `,` `]` `[` or a blank, or nothing) `json.loads` + `np.array` fail, so `cast_value` fails for every
    type and declared dimension, and the one-line program defining a parameter with that value does not parse. -/
theorem C13_ragged_array_rejected (tbl : List UnitRow) (k : Nat) (nm : Str) (a : Nat) (ty : TyD) (dims : Option (List DimD))
    (b c : Nat) (sh0 sh1 : List Nat) (pre : List (Str × List Tok)) (bad : Str × List Tok) (post : Str) (ds : List Dim)
    (unit cm : Option (Nat × Str))
    (hpre : pre ≠ []) (h0 : ∀ it ∈ pre, Rendered it.1 sh0 it.2) (h1 : Rendered bad.1 sh1 bad.2) (hne : sh1 ≠ sh0)
    (hpost : post = [] ∨ ∃ ch r, post = ch :: r ∧ isDelim ch = true) :
    let s := '[' :: (joinWith [','] (pre.map Prod.fst) ++ ',' :: (bad.1 ++ post))
    parseJson s = .error .fail ∧
    (∀ t : Ty, castText t (some ds) s = .error .fail) ∧
    (NameOk nm → DimsOk dims → (∀ n x, unit = some (n, x) → UnitOk x) → NoEsc (renderTail unit cm) →
      (∀ n x, unit = some (n, x) → (ty.ty = .int ∨ ty.ty = .float) ∧ tbl.any (fun r => r.name = x) = true) →
      (∀ ch ∈ s, ch ≠ '#' ∧ isWs ch = false ∧ ch ≠ '\\' ∧ ch ≠ '$') → dimsValue dims = some ds →
      parseLines (mkParams tbl)
        [List.replicate k ' ' ++ (definePrefix nm a ty dims b c ++ (s ++ renderTail unit cm))] = .error .fail) := by
  intro s
  have hp : parseJson s = .error .fail := parseJson_ragged sh0 sh1 pre bad post hpre h0 h1 hne hpost
  have hnone : (s == "none".toList) = false := ne_none_of_head _ (by simp [s])
  have hc : ∀ t : Ty, castText t (some ds) s = .error .fail := by
    intro t
    simp only [castText, hnone, Bool.false_eq_true, if_false, hp, bind, Except.bind]
  refine ⟨hp, hc, ?_⟩
  intro hn hd hu htail hunit hplain hds
  rw [(array_text_parse tbl k nm a ty dims b c s _ ds unit cm hn hd hu htail hunit rfl hplain hds).2.2, hc]
  rfl

example : "[[1,2],[3]]".toList =
    '[' :: (joinWith [','] ([("[1,2]".toList, [Tok.bare "1".toList, Tok.bare "2".toList])].map Prod.fst) ++
      ',' :: (("[3]".toList, [Tok.bare "3".toList]).1 ++ "]".toList)) := by
  repeat rw [toList_lit rfl]
  decide

/-- **Inline arrays with quoted string elements** (`["a","b"]`, any nesting depth).  `RenderedQ` is `Rendered` with
    one more kind of leaf: `"text"` (the text free of quotes, backslashes and control characters).  `json.loads`
    returns the shape and the leaves in row-major order — a quoted leaf as the text between its quotes — and
    `cast_value` the array of the element casts.  Every `Rendered` text is a `RenderedQ` text (`rendered_toQ`), so
    this subsumes `C13_inline_array`. -/
theorem C13_inline_array_strings (ty : Ty) (ds : List Dim) (s : Str) (sh : List Nat) (toks : List Tok) (atoms : List Atom)
    (hr : RenderedQ s sh toks) (hnone : (s == "none".toList) = false)
    (hel : toks.mapM (tokAtom ty) = .ok atoms) (hd : checkDims ds sh = true) :
    parseJson s = .ok (sh, toks) ∧ castText ty (some ds) s = .ok (.array sh atoms) := by
  have hp := parseJson_renderedQ hr
  exact ⟨hp, castText_array hnone hp hel hd⟩

/-- the element cast of a string array: the text between the quotes, unchanged -/
theorem C13_array_str_elements (xs : List Str) :
    (xs.map Tok.str).mapM (tokAtom .str) = .ok (xs.map Atom.str) :=
  mapM_ok_map (tokAtom .str) _ _ xs (fun _ _ => rfl)

/-- **String arrays of any nesting depth, from the text to the value**: the one-line program
    `name str[dims] = [["a",…],[…]] [# comment]` (the array text without blank, `#`, backslash, `$`) parses to
    exactly one parameter whose value is the array of the texts between the quotes, in row-major order. -/
theorem C13_str_array_text (tbl : List UnitRow) (k : Nat) (nm : Str) (a : Nat) (dims : Option (List DimD)) (b c : Nat)
    (s : Str) (sh : List Nat) (xs : List Str) (ds : List Dim) (cm : Option (Nat × Str))
    (hn : NameOk nm) (hd : DimsOk dims) (htail : NoEsc (renderTail none cm))
    (hr : RenderedQ s sh (xs.map Tok.str)) (hsh : sh ≠ [])
    (hplain : ∀ ch ∈ s, ch ≠ '#' ∧ isWs ch = false ∧ ch ≠ '\\' ∧ ch ≠ '$')
    (hds : dimsValue dims = some ds) (hcd : checkDims ds sh = true) :
    parseLines (mkParams tbl)
        [List.replicate k ' ' ++ (definePrefix nm a .str dims b c ++ (s ++ renderTail none cm))] =
      .ok [{ name := nm, ty := .str, info := {}, dims := some ds, units := none,
             value := some (.array sh (xs.map Atom.str)), declared := false }] := by
  obtain ⟨r, hsr⟩ := renderedQ_head hr hsh
  exact (inline_array_text_core tbl k nm a .str dims b c s r sh _ _ ds none cm hn hd (by intro n x h; cases h) htail
    (by intro n x h; cases h) (parseJson_renderedQ hr) hsr hplain hds (C13_array_str_elements xs) hcd).2.2

example : RenderedQ "[\"ab\",\"c\"]".toList [2] (["ab".toList, "c".toList].map Tok.str) := by
  repeat rw [toList_lit rfl]
  have q : ∀ x : Str, x = ['a', 'b'] ∨ x = ['c'] → StrOk x := by
    intro x hx; rcases hx with rfl | rfl <;> (intro ch hch; revert ch; decide)
  exact RenderedQ.arr [(_, [.str ['a', 'b']]), (_, [.str ['c']])] [] (by simp)
    (by intro it h; simp only [List.mem_cons, List.not_mem_nil, or_false] at h
        rcases h with rfl | rfl
        · exact RenderedQ.str _ (q _ (.inl rfl))
        · exact RenderedQ.str _ (q _ (.inr rfl)))

/-- **Integer definition, end to end.**  `<k blanks>name [u]int[NN] = [+-]digits [unit] [# comment]` (any number of
    blanks in the gaps; a written unit is known) parses to exactly one parameter: the written name, width/sign and
    unit, and as value the integer the digits denote. -/
theorem C13_int_scalar_text (tbl : List UnitRow) (k : Nat) (nm : Str) (a : Nat) (uns : Bool) (w : Option IntW) (b c : Nat)
    (sg : Option Bool) (d : Str) (unit cm : Option (Nat × Str))
    (hn : NameOk nm) (hu : ∀ n x, unit = some (n, x) → UnitOk x) (htail : NoEsc (renderTail unit cm))
    (hunit : ∀ n x, unit = some (n, x) → tbl.any (fun r => r.name = x) = true) (hd : allDigits d = true) :
    parseLines (mkParams tbl)
        [List.replicate k ' ' ++ (definePrefix nm a (.int uns w) none b c ++ ((signText sg ++ d) ++ renderTail unit cm))] =
      .ok [{ name := nm, ty := .int, info := (TyD.int uns w).info, dims := none, units := unit.map Prod.snd,
             value := some (.scalar (.num (((if signNeg sg then -(digitsToNat d : Int) else (digitsToNat d : Int)) : Int) : Rat))),
             declared := false }] := by
  obtain ⟨hdne, hall⟩ := allDigits_iff hd
  exact define_number_text tbl k nm a (.int uns w) b c (signText sg ++ d) unit cm _ hn hu htail (.inl rfl) hunit
    (by simp [hdne]) (intLit_chars sg d hall) (C13_cast_int_literal sg d hd)

/-- **Float definition, end to end**: `name float[NN] = literal [unit] [# comment]` with a decimal / scientific
    literal (`23.3`, `.5`, `5.`, `-1.5E-3`, `+1e5`, …) parses to one parameter whose value is the rational denoted. -/
theorem C13_float_scalar_text (tbl : List UnitRow) (k : Nat) (nm : Str) (a : Nat) (w : Option FloatW) (b c : Nat)
    (f : FloatD) (unit cm : Option (Nat × Str))
    (hn : NameOk nm) (hu : ∀ n x, unit = some (n, x) → UnitOk x) (htail : NoEsc (renderTail unit cm))
    (hunit : ∀ n x, unit = some (n, x) → tbl.any (fun r => r.name = x) = true) (hf : f.Ok) :
    parseLines (mkParams tbl)
        [List.replicate k ' ' ++ (definePrefix nm a (.float w) none b c ++ (f.render ++ renderTail unit cm))] =
      .ok [{ name := nm, ty := .float, info := (TyD.float w).info, dims := none, units := unit.map Prod.snd,
             value := some (.scalar (.num f.value)), declared := false }] := by
  exact define_number_text tbl k nm a (.float w) b c f.render unit cm _ hn hu htail (.inr rfl) hunit
    (floatD_render_ne f hf) (floatD_chars f hf) (C13_cast_float_literal f hf)

/-- **Boolean definition, end to end**: `name bool = true|false [# comment]`. -/
theorem C13_bool_scalar_text (tbl : List UnitRow) (k : Nat) (nm : Str) (a b c : Nat) (bv : Bool) (cm : Option (Nat × Str))
    (hn : NameOk nm) (htail : NoEsc (renderTail none cm)) :
    parseLines (mkParams tbl)
        [List.replicate k ' ' ++ (definePrefix nm a .bool none b c ++
          ((if bv then "true".toList else "false".toList) ++ renderTail none cm))] =
      .ok [{ name := nm, ty := .bool, info := {}, dims := none, units := none,
             value := some (.scalar (.bool bv)), declared := false }] := by
  cases bv
  · rw [if_neg (by decide), kw_false]
    exact define_scalar_text_core tbl k nm a .bool b c (.bare ['f', 'a', 'l', 's', 'e']) none cm _ hn
      (by intro n x h; cases h) htail (by intro n x h; cases h)
      ⟨⟨'f', _, rfl, by decide⟩, by decide⟩ (by decide) (by decide) rfl
      (by simp only [castText, castScalar, kw_none, kw_true, kw_false]; rfl)
  · rw [if_pos rfl, kw_true]
    exact define_scalar_text_core tbl k nm a .bool b c (.bare ['t', 'r', 'u', 'e']) none cm _ hn
      (by intro n x h; cases h) htail (by intro n x h; cases h)
      ⟨⟨'t', _, rfl, by decide⟩, by decide⟩ (by decide) (by decide) rfl
      (by simp only [castText, castScalar, kw_none, kw_true]; rfl)

/-- **String definition, end to end**: `name str = "text" [# comment]` (the text free of `"`, backslash, newline,
    `$`, and not the word `none`) parses to one parameter whose value is exactly the text between the quotes —
    blanks and `#` inside the quotes included. -/
theorem C13_str_quoted_text (tbl : List UnitRow) (k : Nat) (nm : Str) (a b c : Nat) (s : Str) (cm : Option (Nat × Str))
    (hn : NameOk nm) (htail : NoEsc (renderTail none cm))
    (hs : ∀ ch ∈ s, ch ≠ '"' ∧ ch ≠ '\\' ∧ ch ≠ '\n' ∧ ch ≠ '$') (hnone : (s == "none".toList) = false) :
    parseLines (mkParams tbl)
        [List.replicate k ' ' ++ (definePrefix nm a .str none b c ++ (('"' :: (s ++ ['"'])) ++ renderTail none cm))] =
      .ok [{ name := nm, ty := .str, info := {}, dims := none, units := none,
             value := some (.scalar (.str s)), declared := false }] := by
  have hesc : NoEsc (Lit.render (.dq s)) := by
    intro ch hch
    simp only [Lit.render, List.mem_cons, List.mem_append, List.not_mem_nil, or_false] at hch
    rcases hch with rfl | hch | rfl
    · exact ⟨by decide, by decide⟩
    · exact ⟨(hs ch hch).2.1, (hs ch hch).2.2.1⟩
    · exact ⟨by decide, by decide⟩
  exact define_scalar_text_core tbl k nm a .str b c (.dq s) none cm _ hn (by intro n x h; cases h) htail
    (by intro n x h; cases h) (fun ch hch => (hs ch hch).1) hesc (fun ch hch => (hs ch hch).2.2.2)
    (by simp [TyD.ty]) (C13_cast_keywords .str none s hnone).2.2.2

example : (∀ ch ∈ "x # y z".toList, ch ≠ '"' ∧ ch ≠ '\\' ∧ ch ≠ '\n' ∧ ch ≠ '$') ∧ ("x # y z".toList == "none".toList) = false :=
  by
  repeat rw [toList_lit rfl]
  exact ⟨by decide, by decide⟩

/-- **The property for whole programs, from the text.**  Take ANY list of lines written in the described grammar
    (`LineD`: group lines, definitions, declarations and modifications with every literal form, any blanks in the
    gaps, optional unit and comment; `k` leading blanks each; no backslash / newline in the line).  Then
    (1) the lexer returns, line by line, exactly the described nodes; (2) `parse` on the text is `parse` on those
    nodes; (3) `parse` on the text and the declarative specification on the abstract lines `(k, name, payload)` the
    text denotes — parent = nearest earlier name-bearing line with fewer leading blanks, path = ancestors' names +
    own name, one parameter per distinct path in order of first appearance, type / unit of the first and value of
    the last occurrence — either both succeed with the same parameters or both fail (`C14_text_refines_spec`
    applied to the lexed program). -/
theorem C13_program_text (P : Params) (prog : List (Nat × LineD)) (h : ∀ p ∈ prog, p.2.Ok ∧ NoEsc p.2.render) :
    let lines := prog.map (fun p => List.replicate p.1 ' ' ++ p.2.render)
    let nds := prog.map (fun p => ({ p.2.node with indent := p.1 } : Node))
    lines.mapM determine = .ok nds ∧ parseLines P lines = parseNodes P nds ∧
    ResEq ((parseLines P lines).map (List.map toS))
      (specRunG (castInterp P) P.conv P.unitKnown (prog.map (fun p => p.2.aline p.1))) := by
  intro lines nds
  have hlex : lines.mapM determine = .ok nds := mapM_determine_program prog h
  refine ⟨hlex, by simp [parseLines, hlex, bind, Except.bind], ?_⟩
  have hnt : ∀ nd ∈ nds, nd.kind ≠ .table := by
    intro nd hnd
    obtain ⟨p, _, rfl⟩ := List.mem_map.mp hnd
    exact lineD_not_table p.1 p.2
  have := C14.C14_text_refines_spec P lines nds hlex hnt
  have he : nds.map toALine = prog.map (fun p => p.2.aline p.1) := by
    simp only [nds, List.map_map]
    exact List.map_congr_left (fun p _ => toALine_lineD p.1 p.2)
  rw [he] at this
  exact this

example : (LineD.group "box".toList none).Ok ∧ NoEsc (LineD.group "box".toList none).render ∧
    (LineD.group "box".toList none).aline 2 = { indent := 2, name := "box".toList, p := .group } :=
  by
  repeat rw [toList_lit rfl]
  exact ⟨⟨⟨'b', _, rfl⟩, by decide⟩, by decide, rfl⟩

/-- **The directive line forms** `!constant` and `$unit …` (the two recognisers of `_determine_node` inside the
    property's grammar that `LineD` does not describe): at any indentation, `!constant` followed by an optional
    comment is lexed to the constant marker (whose effect on the last created parameter is `C14_constant_marks_last`),
    and `$unit`, a blank and any further text is lexed to a unit-definition node (which creates no parameter:
    the main loop of the model skips it; custom units are outside the modelled domain). -/
theorem C13_directive_lines_lexed (k : Nat) (cm : Option (Nat × Str)) (w : Char) (rest : Str)
    (hcm : NoEsc (renderComment cm)) (hw : isWs w = true) (hr : NoEsc (w :: rest)) :
    determine (List.replicate k ' ' ++ (constantWord ++ renderComment cm)) = .ok { kind := .constant, indent := k } ∧
    determine (List.replicate k ' ' ++ (unitWord ++ w :: rest)) = .ok { kind := .unit, indent := k } :=
  ⟨determine_constant k cm hcm, determine_unitdef k w rest hw hr⟩

example : constantWord = "!constant".toList ∧ unitWord = "$unit".toList ∧ isWs ' ' = true ∧
    NoEsc (' ' :: "length = 1 m".toList) := by
  repeat rw [toList_lit rfl]
  exact ⟨rfl, rfl, rfl, by decide⟩

/-- **Whole programs from the string.**  The statement of `C13_program_text` for the single string handed to `add_string`: the described lines joined by
    newlines (no block values: no line contains `"""`).  What the driver runs against the real parser,
    `parseText` on the program text, agrees with the declarative specification on the abstract lines the text denotes
    (both succeed with the same parameters, or both fail). -/
theorem C13_program_string (P : Params) (prog : List (Nat × LineD)) (hne : prog ≠ [])
    (h : ∀ p ∈ prog, p.2.Ok ∧ NoEsc p.2.render) (hq : ∀ p ∈ prog, hasTriple (List.replicate p.1 ' ' ++ p.2.render) = false) :
    ResEq ((parseText P (joinWith ['\n'] (prog.map (fun p => List.replicate p.1 ' ' ++ p.2.render)))).map (List.map toS))
      (specRunG (castInterp P) P.conv P.unitKnown (prog.map (fun p => p.2.aline p.1))) := by
  rw [C13_text_is_lines P _ (by simpa using hne)]
  · exact (C13_program_text P prog h).2.2
  · intro l hl c hc
    obtain ⟨p, hp, rfl⟩ := List.mem_map.mp hl
    rcases List.mem_append.mp hc with h1 | h1
    · rw [List.eq_of_mem_replicate h1]; decide
    · exact ((h p hp).2 c h1).2
  · intro l hl
    obtain ⟨p, hp, rfl⟩ := List.mem_map.mp hl
    exact hq p hp

/-- **Escaped quotes.**  A definition whose double-quoted value is written with `\\"` for every quote
    character of the intended text `s` (`s` itself free of backslash, newline and `$`): the lexer marks
    the escapes (`$@01`), finds the closing quote, and hands back exactly `s` — the backslashes are gone,
    the quote characters are there.  (`escQ` writes the value, `encode`/`decode` are the marks of
    `_determine_node`; the proof shows `decode ∘ encode` is the intended un-escaping and lifts it
    through the round trip.) -/
theorem C13_literal_roundtrip_escaped (k : Nat) (nm : Str) (a : Nat) (ty : TyD) (dims : Option (List DimD)) (b c : Nat)
    (s : Str) (unit cm : Option (Nat × Str))
    (hn : NameOk nm) (hd : DimsOk dims) (hu : ∀ n x, unit = some (n, x) → UnitOk x)
    (htail : NoEsc (renderTail unit cm)) (hs : ∀ ch ∈ s, ch ≠ '\\' ∧ ch ≠ '\n' ∧ ch ≠ '$') :
    determine (List.replicate k ' ' ++ (definePrefix nm a ty dims b c ++
        '"' :: (escQ '"' s ++ '"' :: renderTail unit cm))) = .ok (blockNode k nm ty dims s unit) := by
  refine (determine_escaped .dq k _ (.define nm a ty dims b c) s unit cm (NoEsc_definePrefix nm a ty dims b c hn hd)
    (define_render_prefix nm a ty dims b c) (fun _ hv => ⟨hn, hd, hv⟩) hu htail
    (fun ch hch => ⟨(hs ch hch).1, (hs ch hch).2.1⟩)).trans ?_
  simp only [LineD.node, Lit.text, decode_encQ .dq s (fun ch hch => (hs ch hch).2.2), blockNode]

/-- **Escaped apostrophes in single-quoted values**: the definition `name type = '…'` whose value writes every
    apostrophe of the intended text `s` as backslash-apostrophe lexes to the node with raw value exactly `s`
    (marks `$@00` put in by `encode`, closing quote found, marks taken out by `decode`). -/
theorem C13_literal_roundtrip_escaped_sq (k : Nat) (nm : Str) (a : Nat) (ty : TyD) (dims : Option (List DimD)) (b c : Nat)
    (s : Str) (unit cm : Option (Nat × Str))
    (hn : NameOk nm) (hd : DimsOk dims) (hu : ∀ n x, unit = some (n, x) → UnitOk x)
    (htail : NoEsc (renderTail unit cm)) (hs : ∀ ch ∈ s, ch ≠ '\\' ∧ ch ≠ '\n' ∧ ch ≠ '$') :
    determine (List.replicate k ' ' ++ (definePrefix nm a ty dims b c ++
        '\'' :: (escQ '\'' s ++ '\'' :: renderTail unit cm))) = .ok (blockNode k nm ty dims s unit) := by
  refine (determine_escaped .sq k _ (.define nm a ty dims b c) s unit cm (NoEsc_definePrefix nm a ty dims b c hn hd)
    (define_render_prefix nm a ty dims b c) (fun _ hv => ⟨hn, hd, hv⟩) hu htail
    (fun ch hch => ⟨(hs ch hch).1, (hs ch hch).2.1⟩)).trans ?_
  simp only [LineD.node, Lit.text, decode_encQ .sq s (fun ch hch => (hs ch hch).2.2), blockNode]

/-- **Escaped quotes in modification lines**: `name = "…"` / `name = '…'` with every quote character of the
    intended text written as backslash-quote lexes to the modification node with raw value exactly that text. -/
theorem C13_modify_roundtrip_escaped (k : Nat) (nm : Str) (a b : Nat) (s : Str) (unit cm : Option (Nat × Str))
    (hn : NameOk nm) (hu : ∀ n x, unit = some (n, x) → UnitOk x)
    (htail : NoEsc (renderTail unit cm)) (hs : ∀ ch ∈ s, ch ≠ '\\' ∧ ch ≠ '\n' ∧ ch ≠ '$') :
    determine (List.replicate k ' ' ++ (modifyPrefix nm a b ++ '"' :: (escQ '"' s ++ '"' :: renderTail unit cm))) =
      .ok (modNode k nm s unit) ∧
    determine (List.replicate k ' ' ++ (modifyPrefix nm a b ++ '\'' :: (escQ '\'' s ++ '\'' :: renderTail unit cm))) =
      .ok (modNode k nm s unit) := by
  have key : ∀ q : Quote,
      determine (List.replicate k ' ' ++ (modifyPrefix nm a b ++ q.ch :: (escQ q.ch s ++ q.ch :: renderTail unit cm))) =
        .ok (modNode k nm s unit) := by
    intro q
    rw [determine_escaped q k _ (.modify nm a b) s unit cm (NoEsc_modifyPrefix nm a b hn) (modify_render_prefix nm a b)
      (fun _ hv => ⟨hn, hv⟩) hu htail (fun ch hch => ⟨(hs ch hch).1, (hs ch hch).2.1⟩)]
    have hd := decode_encQ q s (fun ch hch => (hs ch hch).2.2)
    cases q <;> simp only [LineD.node, Lit.text, hd, modNode]
  exact ⟨key .dq, key .sq⟩

example : escQ '\'' "it's".toList = "it\\'s".toList ∧ modifyPrefix "a.b".toList 0 1 = "a.b = ".toList := by
  repeat rw [toList_lit rfl]
  decide

/-- the marks of both quote characters: `decode` gives the text with its quotes / apostrophes back -/
theorem C13_escape_marks_inverse (s : Str) (h : ∀ c ∈ s, c ≠ '$') :
    decode (encQ '"' enc1 s) = s ∧ decode (encQ '\'' enc0 s) = s :=
  ⟨decode_encQ .dq s h, decode_encQ .sq s h⟩

example : escQ '"' "say \"hi\"".toList = "say \\\"hi\\\"".toList := by
  repeat rw [toList_lit rfl]
  decide

/-! ## literal escape marks (the repair e0ecb06 of `DIP._determine_node`)

`_determine_node` protects `\\'`, `\\"` and newlines by the marks `$@00`, `$@01`, `$@02` while the node
parser runs and puts the characters back afterwards.  Before the repair a mark that was *written
literally* in the code was decoded as well (`t str = "a$@01b"` had the value `a"b`); the repaired
code escapes the mark `$@` itself first (`$@03`) and restores it last — `encodeM` / `decodeM` of
`Lemmas/C13EscapesRepaired.lean`. -/

/-- `encode` / `decode` (the code before e0ecb06) do change a literal mark: the defect, as a closed computation -/
theorem C13_old_marks_counterexample :
    decode (encode "a$@01b".toList) = "a\"b".toList := by
  rw [toList_lit rfl, toList_lit rfl]
  decide +kernel

/-- **Literal marks survive**: for EVERY text without backslash and newline — whatever `$`, `@`
    and digits it holds, in particular every text made of the marks themselves — the repaired
    encoding followed by the repaired decoding is the identity. -/
theorem C13_literal_marks_survive (s : Str) (h : NoEsc s) : decodeM (encodeM s) = s := by
  simp only [decodeM, encodeM, encode_noEsc (esc s) (NoEsc_esc s h), decode]
  rw [enc0_eq, replaceAll_oldmark_esc '0' (by decide), enc1_eq, replaceAll_oldmark_esc '1' (by decide),
    enc2_eq, replaceAll_oldmark_esc '2' (by decide)]
  exact replaceAll_enc3_esc s

/-- the repair is conservative: on text without `$` the repaired functions are `encode` / `decode`, so
    every theorem above that is stated with `encode` / `decode` under a "no `$`" hypothesis speaks
    about the repaired code as well -/
theorem C13_marks_conservative (s x : Str) (hs : ∀ c ∈ s, c ≠ '$') (hx : ∀ c ∈ decode x, c ≠ '$') :
    encodeM s = encode s ∧ decodeM x = decode x :=
  ⟨encodeM_noDollar s hs, decodeM_noDollar x hx⟩

example : NoEsc "a$@01b $@ $$@00 $@03".toList := by
  repeat rw [toList_lit rfl]
  decide
example : decodeM (encodeM "a$@01b $@ $$@00 $@03".toList) = "a$@01b $@ $$@00 $@03".toList := by
  repeat rw [toList_lit rfl]
  decide +kernel

end SciVerif.C13
