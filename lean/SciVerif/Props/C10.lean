import SciVerif.Lemmas.C10Store
import SciVerif.Lemmas.C10Units
import SciVerif.Facts.C10Table
import SciVerif.Model.C10Spec

/-!
# C10 — A molecular formula is decomposed into exactly its atoms

What is proved, and at which level:

* counts — for **every** formula AST (any nesting, any counts) the `Composite` operations
  `add/_add/_multiply`, applied as the solver applies them (`' + '`/juxtaposition ↦ `_add`,
  count / `' * n'` ↦ `_multiply`, parentheses ↦ the inner value), yield exactly the expansion of
  the formula, as an ordered dict (`C10_counts_partial`).  The remaining link of the full
  statement `C10_counts_statement` — that `preprocess` + tokenizer + the three solver steps turn
  the *text* `render f` into that evaluation — is the executable model `substanceOf`; it is
  validated against the real regexes/solver by correspondence on every run; inside the model it is
  PROVED for the explicit notation, for parenthesis-free formulas and for sequences of
  parenthesis-free units and (non-nested) parenthesised groups with counts
  (`C10_counts_text_…_partial`), not for nested groups in the short notation.
* species data — for every isotope of every element of the regenerated table and every charge
  number, `get_isotope` returns `N = A − Z`, `e = Z + q`, `mass = M + q·mₑ`; natural = abundance
  weighted mean; most abundant = first maximum.  Generic in the table (any well-formed table),
  instantiated with the live table whose well-formedness is checked by `decide +kernel`.
-/
namespace SciVerif.C10

/-- Full statement of the counting part of C10 (NOT proved as a whole, see the header): for
    every well-formed formula whose species the element parser accepts, the substance parsed
    from the rendered text has exactly the expanded counts. -/
def C10_counts_statement : Prop :=
  ∀ (valid : Str → Bool) (f : F), f.wf = true →
    (∀ k ∈ speciesOf f, valid k = true ∧ isSpeciesText k = true) →
    substanceOf valid (render f) = some ((expand f).map fun kn => (kn.1, (kn.2 : Rat)))

/-- Proved part: evaluating the formula with the `Composite` operations gives exactly its
    expansion — same species, in order of first occurrence, each with the expanded count.
    Holds over every semiring of proportions (the driver uses `Rat`). -/
theorem C10_counts_partial {α : Type} [Semiring α] (f : F) :
    (evalF f : Comps α) = (expand f).map fun kn => (kn.1, (kn.2 : α)) :=
  evalF_eq_expand f

/-- Solver level (proved): the generic expression solver with the operator table
    `{par '(' , mul ' * ', add ' + '}` and the steps par(ARGS), mul(BINARY), add(BINARY) —
    tokenizer, `OperatorPar` argument scan with nested solves, the three passes — applied to the
    *explicit* solver text of any well-formed formula returns the substance whose components
    are exactly the expansion of the formula.  Species texts are arbitrary strings of plain
    characters (no blank, parenthesis, comma; not starting with a digit) that `Element` accepts;
    any sufficient fuel. -/
theorem C10_solver_partial (valid : Str → Bool) (f : F) (hwf : f.wf = true)
    (hs : f.spAll (SpeciesOK valid)) (fuel : Nat) (hfuel : (renderExplicit f).length + 1 ≤ fuel) :
    solveAux valid fuel [] (renderExplicit f) [] =
      some (.sub ((expand f).map fun kn => (kn.1, (kn.2 : Rat)))) := by
  rw [solve_explicit valid f (wf_factorOK f hwf) hs fuel hfuel, evalF_eq_expand]

/-- The remaining link of the text-level statement.  PROVED for parenthesis-free formulas
    (`C10_preprocess_partial`, including the order-independence of the pass-1 fixed point over
    merged capital runs), for sequences of parenthesis-free units and parenthesised
    parenthesis-free groups with optional counts (`C10_preprocess_units_partial`; special cases
    `C10_preprocess_group_partial`, `C10_preprocess_chain_group_partial`) and for explicit text
    (`preprocess_explicit`).  NOT proved: NESTED groups in the short notation — there the rewriting of `X (`, `)n X`, `)n (` by passes
    3 and 4 (their look-behind run `[^*+(\s]*` / look-ahead `[^+*)\s]*` crosses item boundaries)
    and the interplay of passes 1 and 2 with text inside and next to groups — and a trailing
    explicit ` * n` mixed into the short notation.  Evaluated by the driver on every generated
    formula; the scanners are compared with the real regexes on every run. -/
def C10_preprocess_statement : Prop :=
  ∀ (f : F), f.wf = true → (∀ k ∈ speciesOf f, isSpeciesText k = true) →
    preprocess (render f) = renderExplicit f

/-- Text level, conditional on that one link: if `preprocess` turns the rendered formula into its
    explicit text, then `Substance(render f).components` is exactly the expansion. -/
theorem C10_counts_text_partial (valid : Str → Bool) (f : F) (hwf : f.wf = true)
    (hs : f.spAll (SpeciesOK valid)) (hpre : preprocess (render f) = renderExplicit f)
    (hne : render f ≠ []) :
    substanceOf valid (render f) = some ((expand f).map fun kn => (kn.1, (kn.2 : Rat))) := by
  rw [substanceOf_of_preprocess valid f (wf_factorOK f hwf) hs _ hne hpre, evalF_eq_expand]

/-- TEXT level, unconditional, for the documented *explicit* notation (`Na{23} + Cl`,
    `O{17-1} * 3`, parentheses): for every well-formed formula of any nesting depth whose species
    have the documented shape (one capital with an optional small letter, or `[p] [n] [e]`,
    optional `{…}` suffix) and are accepted by `Element`, the whole pipeline
    `Substance(text)` — the four preprocess scanners, tokenizer, `OperatorPar` scan with nested
    solves, par/mul/add passes, `Composite.add/_add/_multiply` — yields exactly the expansion. -/
theorem C10_counts_explicit_text_partial (valid : Str → Bool) (f : F) (hwf : f.wf = true)
    (hs : f.spAll fun s => SpeciesShape s ∧ valid s = true) :
    substanceOf valid (renderExplicit f) = some ((expand f).map fun kn => (kn.1, (kn.2 : Rat))) := by
  have hst : f.spAll SpeciesText := spAll_mono (fun s h => speciesText_of_shape s h.1) f hs
  rw [substanceOf_of_preprocess valid f (wf_factorOK f hwf) (spAll_speciesOK valid f hs) _
    (renderExplicit_ne_nil f hst) (preprocess_explicit f hst), evalF_eq_expand]

/-- Proved fragment of `C10_preprocess_statement`: for every PARENTHESIS-FREE formula — species,
    species with counts, juxtaposition with any number of blanks (also none, so that single
    capitals merge into runs such as `CHON`), explicit ` + ` — the four passes of
    `SubstanceSolver.preprocess` rewrite the short notation into the explicit solver text.
    Pass 1 (the fixed point of single substitutions) is shown to resolve exactly one implicit
    addition per substitution whatever position the leftmost match picks (it depends on merged
    capital runs), so its fixed point is independent of the order. -/
theorem C10_preprocess_partial (f : F) (hf : f.flat) (hs : f.spAll SpeciesShape) :
    preprocess (render f) = renderExplicit f :=
  (preprocess_unitsT f (flat_unitsT f hf) hs).1

/-- TEXT level, unconditional, SHORT notation, parenthesis-free formulas (`H2O`, `C2H5OH`,
    `NaCl`, `C{13}O2`, `H2 S O4`, `Na{23} + Cl`, …): `Substance(text)` through the whole modelled
    pipeline has exactly the expanded counts. -/
theorem C10_counts_text_flat_partial (valid : Str → Bool) (f : F) (hf : f.flat)
    (hs : f.spAll fun s => SpeciesShape s ∧ valid s = true) :
    substanceOf valid (render f) = some ((expand f).map fun kn => (kn.1, (kn.2 : Rat))) :=
  substanceOf_unitsT valid f (flat_unitsT f hf) hs

/-- A parenthesis ends a match of the species pattern of `preprocess` exactly as the end of the
    text does: for ANY text `w` and any continuation `s`, the greedy match at the head of `w(s` /
    `w)s` is the match at the head of `w` with the parenthesis and `s` appended to the remainder.
    (Basis of all results about groups: pass 1 and pass 2 never look across a parenthesis.) -/
theorem C10_species_pattern_stops_at_paren (w s : Str) (e : Char) (he : e = '(' ∨ e = ')') :
    matchP (w ++ e :: s) =
      (matchP w).map fun q => (q.1, q.2.1, q.2.2.1, q.2.2.2.1, q.2.2.2.2 ++ e :: s) :=
  matchP_mark w s e (Mark.endc he)

/-- One substitution of pass 1 (`re.sub(…, count=1)`) on `w` followed by a parenthesis acts
    inside `w` if it can, and otherwise behind the parenthesis — for ANY text `w`. -/
theorem C10_pass1_step_stops_at_paren (w s : Str) (e : Char) (he : e = '(' ∨ e = ')') :
    pass1Step (w ++ e :: s) =
      match pass1Step w with
      | some x => some (x ++ e :: s)
      | none => (pass1Step (e :: s)).map (w ++ ·) := by
  have hsep := pass1Step_sep [e] s ⟨[], e, rfl, (fun _ h => nomatch h), Or.inl he⟩ w
  have hbehind := pass1Step_inert [e] s fun c hc => List.mem_singleton.mp hc ▸ (mark_facts e he).1
  rw [List.singleton_append] at hsep hbehind
  rw [hsep, hbehind]
  cases pass1Step w with
  | some x => rfl
  | none => simp only [Option.map_map]; rfl

/-- Proved fragment of `C10_preprocess_statement`, SHORT notation WITH parentheses: one
    parenthesised group without or with a count — `(OH)2`, `(CH3)3`, `(C2H5 O)12`, `(Na{23} + Cl)` —
    whose inside is any parenthesis-free formula (species, counts, juxtaposition with any number of
    blanks incl. none, explicit ` + `).  All four passes: pass 1 reaches the fixed point of the
    inside without touching the parentheses, pass 2 rewrites the counts inside and leaves the
    group count, pass 3 leaves the leading `(`, pass 4 rewrites `)n` into `) * n`.
    Special case of `C10_preprocess_units_partial`. -/
theorem C10_preprocess_group_partial (f : F) (hf : f.group1) (hs : f.spAll SpeciesShape) :
    preprocess (render f) = renderExplicit f :=
  (preprocess_unitsT f (group1_unitsT f hf) hs).1

/-- TEXT level, unconditional, SHORT notation, one parenthesised group with an optional count
    (`(OH)2`): `Substance(text)` through the whole modelled pipeline has exactly the expanded counts. -/
theorem C10_counts_text_group_partial (valid : Str → Bool) (f : F) (hwf : f.wf = true) (hf : f.group1)
    (hs : f.spAll fun s => SpeciesShape s ∧ valid s = true) :
    substanceOf valid (render f) = some ((expand f).map fun kn => (kn.1, (kn.2 : Rat))) :=
  substanceOf_unitsT valid f (group1_unitsT f hf) hs

/-- Proved fragment of `C10_preprocess_statement`, the usual way groups occur in chemical
    formulas: a parenthesis-free formula (species, counts, any blanks, merged capital runs,
    explicit ` + `), then ANY number of blanks (also none), then one parenthesised
    parenthesis-free group without or with a count — `Ca(OH)2`, `Al2(SO4)3`, `Mg (NO3)2`,
    `Na{23} Cl (O H)12`.  Pass 1 is followed as a counted sequence of single substitutions: all
    substitutions left of the `(` happen first, then those inside the group, none across the
    parentheses; pass 2 rewrites the counts on both sides; pass 3 turns `X(` / `X  (` into
    `X + (` (its look-behind run starts inside the last species/count); pass 4 turns `)n` into
    `) * n`.  Special case of `C10_preprocess_units_partial`. -/
theorem C10_preprocess_chain_group_partial (f : F) (hf : f.chainGroup) (hs : f.spAll SpeciesShape) :
    preprocess (render f) = renderExplicit f :=
  (preprocess_unitsT f (chainGroup_unitsT f hf) hs).1

/-- TEXT level, unconditional, SHORT notation: formulas of the form chain + group (`Ca(OH)2`,
    `Al2 (SO4)3`) — `Substance(text)` through the whole modelled pipeline has exactly the
    expanded counts. -/
theorem C10_counts_text_chain_group_partial (valid : Str → Bool) (f : F) (hwf : f.wf = true)
    (hf : f.chainGroup) (hs : f.spAll fun s => SpeciesShape s ∧ valid s = true) :
    substanceOf valid (render f) = some ((expand f).map fun kn => (kn.1, (kn.2 : Rat))) :=
  substanceOf_unitsT valid f (chainGroup_unitsT f hf) hs

/-- Largest proved fragment of `C10_preprocess_statement` with parentheses: a SEQUENCE of units
    `u₁ ␣* u₂ ␣* … uₙ` (`F.units`, right-nested juxtapositions), each unit a parenthesis-free
    formula (species, counts, any blanks, merged capital runs, explicit ` + `) or a parenthesised
    parenthesis-free group without or with a count, separated by any number of blanks — also none:
    `(OH)2(CH3)3`, `Ca(OH)2 (H2O)6`, `(NH4)2SO4`, `(CH3)3COH`; `K4 (Fe (CN)6)`-like nesting excluded.
    All four passes on the whole text: pass 1 as a counted sequence of single substitutions, unit
    by unit from the left, never across a parenthesis; pass 2 per unit; pass 3 rewrites `X␣*(` and
    `)n␣*(` into `… + (`, and nothing else (its look-ahead from inside a group's last word runs over
    `)n` and the blanks, and for `)nX` the look-behind word spans `)n` and the first species of
    `X`); pass 4 rewrites `)n + (` into `) * n + (` and `)n␣*X` into `) * n + X` (its look-ahead
    run `[^+*)\s]*` ends inside the next unit).
    Units may also be joined by an explicit ` + ` (`(OH)2 + Na`, `Na{23} + (OH)2`).
    Still missing for the full statement: nested groups, a trailing explicit ` * n`
    (other AST shapes of the same texts: `C10_preprocess_units_tree_partial`). -/
theorem C10_preprocess_units_partial (f : F) (hf : f.units) (hs : f.spAll SpeciesShape) :
    preprocess (render f) = renderExplicit f :=
  (preprocess_unitsT f (units_unitsT f hf) hs).1

/-- TEXT level, unconditional, SHORT notation, sequences of parenthesis-free units and
    parenthesised groups with counts: `Substance(text)` through the whole modelled pipeline has
    exactly the expanded counts. -/
theorem C10_counts_text_units_partial (valid : Str → Bool) (f : F) (hwf : f.wf = true)
    (hf : f.units) (hs : f.spAll fun s => SpeciesShape s ∧ valid s = true) :
    substanceOf valid (render f) = some ((expand f).map fun kn => (kn.1, (kn.2 : Rat))) :=
  substanceOf_unitsT valid f (units_unitsT f hf) hs

/-- The same for ANY shape of the juxtaposition / ` + ` tree (`F.unitsT`: leaves are units, no two
    parenthesis-free units meet at a junction), e.g. the left-nested AST `(Ca (OH)2) (H2O)6` of the
    same text — so within this notation the result does not depend on how the AST is bracketed. -/
theorem C10_preprocess_units_tree_partial (f : F) (hf : f.unitsT) (hs : f.spAll SpeciesShape) :
    preprocess (render f) = renderExplicit f :=
  (preprocess_unitsT f hf hs).1

theorem C10_counts_text_units_tree_partial (valid : Str → Bool) (f : F) (hwf : f.wf = true)
    (hf : f.unitsT) (hs : f.spAll fun s => SpeciesShape s ∧ valid s = true) :
    substanceOf valid (render f) = some ((expand f).map fun kn => (kn.1, (kn.2 : Rat))) :=
  substanceOf_unitsT valid f hf hs

/-- each species is counted exactly as often as it occurs in the expanded formula, and no
    species is listed twice -/
theorem C10_count_of_species {α : Type} [Semiring α] (f : F) (k : Str) :
    cget (evalF f : Comps α) k = (expandCount k f : α) ∧ (keys (evalF f : Comps α)).Nodup := by
  refine ⟨?_, nodup_evalF f⟩
  rw [cget_eq_total _ _ (nodup_evalF f), total_evalF]

/-- `Substance + Substance`: counts add, the result has no duplicate species, species appear in
    order of first occurrence -/
theorem C10_add {α : Type} [Semiring α] (a b : Comps α) (ha : (keys a).Nodup) (hb : (keys b).Nodup)
    (k : Str) :
    cget (cplus a b) k = cget a k + cget b k ∧ (keys (cplus a b)).Nodup ∧
      keys (cplus a b) = keys a ++ (keys b).filter (fun k => !(keys a).contains k) := by
  refine ⟨?_, nodup_cplus a b, keys_cplus a b ha hb⟩
  rw [cget_eq_total _ _ (nodup_cplus a b), total_cplus, cget_eq_total _ _ ha, cget_eq_total _ _ hb]

/-- `Substance * x`: every count is multiplied, species and their order are kept -/
theorem C10_mul {α : Type} [Semiring α] (a : Comps α) (ha : (keys a).Nodup) (x : α) (k : Str) :
    cget (cmul a x) k = cget a k * x ∧ keys (cmul a x) = keys a := by
  have hk := keys_cmul a x ha
  refine ⟨?_, hk⟩
  rw [cget_eq_total _ _ (by rw [hk]; exact ha), total_cmul, cget_eq_total _ _ ha]

/-- In the object store (component objects in cells, `Composite.add` updating `proportion` in
    place), for a store without shared component objects: `a + b` creates a new composite whose
    dict is `_add`'s value, and **whatever is added to that sum afterwards** (`add()` any number of
    times), the operands `a`, `b` and every other composite read exactly as before, while the sum
    reads as the value semantics says. -/
theorem C10_frame (h : Heap) (hw : h.WF) (i j : Nat) (hi : i < h.nobj) (hj : j < h.nobj)
    (adds : Comps Rat) :
    let h' := (h.plus i j).addAll h.nobj adds
    h'.WF ∧ h'.read h.nobj = caddAll (cplus (h.read i) (h.read j)) adds ∧
      ∀ m, m ≠ h.nobj → h'.read m = h.read m := by
  obtain ⟨w, n, r, f⟩ := plus_spec h hw i j
  obtain ⟨w2, _, r2, f2⟩ := addAll_spec adds (h.plus i j) w h.nobj (by rw [n]; omega)
  exact ⟨w2, by rw [r2, r], fun m hm => by rw [f2 m hm, f m hm]⟩

/-- `add()` on one composite is `Composite.add` on its dict and changes no other composite;
    the store stays free of shared component objects. -/
theorem C10_store_add (h : Heap) (hw : h.WF) (i : Nat) (hi : i < h.nobj) (k : Str) (p : Rat) :
    (h.add i k p).WF ∧ (h.add i k p).read i = cadd (h.read i) k p ∧
      ∀ m, m ≠ i → (h.add i k p).read m = h.read m :=
  ⟨wf_add h hw i hi k p, read_add_self h hw i k p, fun m hm => read_add_other h hw i m hm k p⟩

/-- `get_isotope` on any well-formed table: `N = A − Z`, `e = Z + q`, `mass = M + q·mₑ`, for every
    element, isotope and charge number. -/
theorem C10_species_data_any_table (tbl : List Elem) (me : Rat) (h : TableWF tbl) (el : Elem)
    (hel : el ∈ tbl) (i : Iso) (hi : i ∈ el.isos) (hA : i.A ≠ 0) (q : Int) :
    getIsotope tbl me el.sym i.A q =
      some { NA := i.NA, mass := i.M + (q : Rat) * me, Z := el.Z,
             N := ((i.A : Int) - (el.Z : Int) : Int), e := ((el.Z : Int) + q : Int),
             iso := i.A, ion := q } :=
  getIsotope_spec tbl me h el hel i hi hA q

/-- The same for every tabulated isotope of the regenerated periodic table. -/
theorem C10_species_data (el : Elem) (hel : el ∈ liveTable) (i : Iso) (hi : i ∈ el.isos) (q : Int) :
    getIsotope liveTable liveMe el.sym i.A q =
      some { NA := i.NA, mass := i.M + (q : Rat) * liveMe, Z := el.Z,
             N := ((i.A : Int) - (el.Z : Int) : Int), e := ((el.Z : Int) + q : Int),
             iso := i.A, ion := q } :=
  getIsotope_spec liveTable liveMe Facts.table_wellformed el hel i hi
    ((Facts.table_isotopes_found el hel).2 i hi).1 q

/-- The specification the harness judges the real classes against (`Model/C10Spec.lean`, written
    with `find?` directly over the table) and the model of `get_isotope` agree for an explicitly
    given isotope on **every** input — any table, symbol, mass number, charge; also where both fail. -/
theorem C10_spec_iso_eq_model (tbl : List Elem) (me : Rat) (nuc : Char → Option Rat) (natural : Bool)
    (sym : Str) (A : Nat) (hA : A ≠ 0) (q : Int) :
    Spec.speciesData tbl me nuc natural (.iso sym A q) =
      (getIsotope tbl me sym A q).map fun d => ⟨d.mass, d.Z, d.N, d.e⟩ := by
  simp only [Spec.speciesData, getIsotope, ← lookupElem_eq_find]
  cases hE : lookupElem tbl sym with
  | none => rfl
  | some el =>
    simp only [hA, ne_eq, not_false_eq_true, if_true, ← lookupIso_eq_find]
    cases hI : lookupIso el.isos A with
    | none => rfl
    | some i =>
      simp only [Option.map_some, Spec.isoData]
      have hiA : i.A = A := lookupIso_some_A _ _ _ hI
      congr 2
      · rw [hiA]; push_cast; rfl
      · push_cast; rfl

/-- natural composition: every reported value is the abundance-weighted mean over the isotopes
    (whenever the abundances do not sum to zero; otherwise the code raises) -/
theorem C10_natural (el : Elem) (hel : el ∈ liveTable) (q : Int)
    (hw : sumR (el.isos.map (·.NA)) ≠ 0) :
    getNatural liveTable liveMe el.sym q =
      let ws := el.isos.map (·.NA)
      let avg := fun (v : Iso → Rat) => sumR (List.zipWith (· * ·) (el.isos.map v) ws) / sumR ws
      some { NA := sumR ws, mass := avg (fun i => i.M + (q : Rat) * liveMe), Z := avg (fun _ => el.Z),
             N := avg (fun i => (((i.A : Int) - (el.Z : Int) : Int) : Rat)),
             e := avg (fun _ => (((el.Z : Int) + q : Int) : Rat)), iso := avg (fun i => i.A), ion := q } :=
  getNatural_spec liveTable liveMe Facts.table_wellformed el hel
    (fun i hi => ((Facts.table_isotopes_found el hel).2 i hi).1) (Facts.table_isotopes_found el hel).1 q hw

/-- most abundant isotope: the data of the isotope at the *first* maximum of the abundances -/
theorem C10_abundant (el : Elem) (hel : el ∈ liveTable) (q : Int) :
    ∃ idx i, FirstMax (el.isos.map (·.NA)) idx ∧ el.isos[idx]? = some i ∧
      getAbundant liveTable liveMe el.sym q = some (isoRow liveMe el i q) :=
  getAbundant_spec liveTable liveMe Facts.table_wellformed el hel
    (fun i hi => ((Facts.table_isotopes_found el hel).2 i hi).1) (Facts.table_isotopes_found el hel).1 q

/-- the `sum` row of `data_composite`: total mass, proton, neutron and electron numbers are the
    count-weighted sums of the per-species data -/
theorem C10_totals (p : Rat) (d : EData) (rows : List (Rat × EData)) :
    totals [] = (0, 0, 0, 0) ∧
    totals ((p, d) :: rows) =
      (p * d.mass + (totals rows).1, p * d.Z + (totals rows).2.1,
       p * d.N + (totals rows).2.2.1, p * d.e + (totals rows).2.2.2) := by
  refine ⟨rfl, ?_⟩
  simp only [totals, List.map_cons, sumR_cons]

/-! Non-vacuity: instances that satisfy the hypotheses of the theorems above. -/

/-- `(OH)2(CH3)3` -/
def exF : F :=
  .seq 0 (.count (.group (.seq 0 (.sp ['O']) (.sp ['H']))) 2)
         (.count (.group (.seq 0 (.sp ['C']) (.count (.sp ['H']) 3))) 3)

example : exF.wf = true := by decide
example : render exF = "(OH)2(CH3)3".toList := by decide
example : expand exF = [(['O'], 2), (['H'], 11), (['C'], 3)] := by decide
example : substanceOf (fun _ => true) (render exF) = some [(['O'], 2), (['H'], 11), (['C'], 3)] := by
  decide +kernel
example : ∃ el ∈ liveTable, el.sym = ['C'] ∧ el.isos.length = 3 := by decide +kernel
/-- the store computes: two composites built from dicts in the empty store, the first read back -/
example : ((Heap.empty.new [(['H'], 2), (['O'], 1)]).new [(['H'], 1)]).read 0 = [(['H'], 2), (['O'], 1)] := by
  decide +kernel
/-- the hypotheses of the text-level theorems are satisfiable: `(O + H) * 2 + (C + H * 3) * 3` -/
example : exF.spAll (fun s => SpeciesShape s ∧ (fun _ => true) s = true)  :=
  ⟨⟨⟨speciesShape_up 'O' (by decide), rfl⟩, ⟨speciesShape_up 'H' (by decide), rfl⟩⟩,
    ⟨⟨speciesShape_up 'C' (by decide), rfl⟩, ⟨speciesShape_up 'H' (by decide), rfl⟩⟩⟩
example : String.ofList (renderExplicit exF) = "(O + H) * 2 + (C + H * 3) * 3" := by decide +kernel
/-- a parenthesis-free formula with a merged capital run: `C2H5OH` -/
def exFlat : F :=
  .seq 0 (.seq 0 (.seq 0 (.count (.sp ['C']) 2) (.count (.sp ['H']) 5)) (.sp ['O'])) (.sp ['H'])
example : exFlat.flat ∧ String.ofList (render exFlat) = "C2H5OH" ∧
    String.ofList (renderExplicit exFlat) = "C * 2 + H * 5 + O + H" := by
  refine ⟨⟨⟨⟨trivial, trivial⟩, trivial⟩, trivial⟩, by decide +kernel, by decide +kernel⟩

/-- the hypotheses of the group theorems are satisfiable: `(CH3)3`, expansion C3 H9 -/
def exGroup : F := .count (.group (.seq 0 (.sp ['C']) (.count (.sp ['H']) 3))) 3
example : exGroup.wf = true ∧ exGroup.group1 ∧ String.ofList (render exGroup) = "(CH3)3" ∧
    String.ofList (renderExplicit exGroup) = "(C + H * 3) * 3" ∧
    expand exGroup = [(['C'], 3), (['H'], 9)] :=
  ⟨by decide, ⟨trivial, trivial⟩, by decide +kernel, by decide +kernel, by decide +kernel⟩
example : exGroup.spAll (fun s => SpeciesShape s ∧ (fun _ => true) s = true)  :=
  ⟨⟨speciesShape_up 'C' (by decide), rfl⟩, ⟨speciesShape_up 'H' (by decide), rfl⟩⟩
/-- the hypotheses of the chain + group theorems are satisfiable: `Al2 (SO4)3` ↦ Al2 S3 O12 -/
def exChainGroup : F :=
  .seq 1 (.count (.sp ['A', 'l']) 2) (.count (.group (.seq 0 (.sp ['S']) (.count (.sp ['O']) 4))) 3)
example : exChainGroup.wf = true ∧ exChainGroup.chainGroup ∧
    String.ofList (render exChainGroup) = "Al2 (SO4)3" ∧
    String.ofList (renderExplicit exChainGroup) = "Al * 2 + (S + O * 4) * 3" ∧
    expand exChainGroup = [(['A', 'l'], 2), (['S'], 3), (['O'], 12)] :=
  ⟨by decide, ⟨trivial, trivial, trivial⟩, by decide +kernel, by decide +kernel, by decide +kernel⟩
example : exChainGroup.spAll (fun s => SpeciesShape s ∧ (fun _ => true) s = true) := by
  exact ⟨⟨⟨['A', 'l'], [], by simp, Or.inl rfl, Or.inr (Or.inl ⟨'A', 'l', by decide, by decide, rfl⟩)⟩, rfl⟩,
    ⟨speciesShape_up 'S' (by decide), rfl⟩, ⟨speciesShape_up 'O' (by decide), rfl⟩⟩
/-- the hypothesis of the units theorems is satisfiable: `exF` = `(OH)2(CH3)3` is a sequence of units -/
example : exF.units := Or.inr ⟨Or.inr ⟨trivial, trivial⟩, Or.inr ⟨trivial, trivial⟩, by decide⟩
def exUnits : F :=
  .seq 0 (.sp ['C', 'a'])
    (.seq 1 (.count (.group (.seq 0 (.sp ['O']) (.sp ['H']))) 2)
      (.seq 1 (.count (.group (.seq 0 (.count (.sp ['H']) 2) (.sp ['O']))) 6) (.sp ['C', 'l'])))
example : exUnits.wf = true ∧ exUnits.units ∧
    String.ofList (render exUnits) = "Ca(OH)2 (H2O)6 Cl" ∧
    String.ofList (renderExplicit exUnits) = "Ca + (O + H) * 2 + (H * 2 + O) * 6 + Cl" ∧
    expand exUnits = [(['C', 'a'], 1), (['O'], 8), (['H'], 14), (['C', 'l'], 1)] :=
  ⟨by decide,
   Or.inr ⟨Or.inl trivial,
     Or.inr ⟨Or.inr ⟨trivial, trivial⟩,
       Or.inr ⟨Or.inr ⟨trivial, trivial⟩, Or.inl trivial, by decide⟩, by decide⟩,
     by decide⟩,
   by decide +kernel, by decide +kernel, by decide +kernel⟩
/-- `(NH4)2SO4`: a parenthesis-free unit directly after `)n`, capitals merging into the run `SO` -/
def exAmm : F :=
  .seq 0 (.count (.group (.seq 0 (.sp ['N']) (.count (.sp ['H']) 4))) 2)
    (.seq 0 (.sp ['S']) (.count (.sp ['O']) 4))
example : exAmm.wf = true ∧ exAmm.units ∧ String.ofList (render exAmm) = "(NH4)2SO4" ∧
    String.ofList (renderExplicit exAmm) = "(N + H * 4) * 2 + S + O * 4" ∧
    expand exAmm = [(['N'], 2), (['H'], 8), (['S'], 1), (['O'], 4)] :=
  ⟨by decide, Or.inr ⟨Or.inr ⟨trivial, trivial⟩, Or.inl ⟨trivial, trivial⟩, by decide⟩,
   by decide +kernel, by decide +kernel, by decide +kernel⟩
example : substanceOf (fun _ => true) (render exAmm) =
    some [(['N'], 2), (['H'], 8), (['S'], 1), (['O'], 4)] := by decide +kernel
/-- units joined by an explicit ` + `: `Fe + (OH)2 + Na` -/
def exPlus : F :=
  .plus (.sp ['F', 'e']) (.plus (.count (.group (.seq 0 (.sp ['O']) (.sp ['H']))) 2) (.sp ['N', 'a']))
example : exPlus.wf = true ∧ exPlus.units ∧ String.ofList (render exPlus) = "Fe + (OH)2 + Na" ∧
    String.ofList (renderExplicit exPlus) = "Fe + (O + H) * 2 + Na" :=
  ⟨by decide, Or.inr ⟨Or.inl trivial, Or.inr ⟨Or.inr ⟨trivial, trivial⟩, Or.inl trivial, by decide⟩, by decide⟩,
   by decide +kernel, by decide +kernel⟩
/-- a left-nested AST: `(Ca(OH)2) (H2O)6` -/
def exTree : F :=
  .seq 1 (.seq 0 (.sp ['C', 'a']) (.count (.group (.seq 0 (.sp ['O']) (.sp ['H']))) 2))
    (.count (.group (.seq 0 (.count (.sp ['H']) 2) (.sp ['O']))) 6)
example : exTree.wf = true ∧ exTree.unitsT ∧ String.ofList (render exTree) = "Ca(OH)2 (H2O)6" :=
  ⟨by decide, Or.inr ⟨Or.inr ⟨Or.inl trivial, Or.inr ⟨trivial, trivial⟩, by decide⟩,
    Or.inr ⟨trivial, trivial⟩, by decide⟩, by decide +kernel⟩
example : substanceOf (fun _ => true) (render exUnits) =
    some [(['C', 'a'], 1), (['O'], 8), (['H'], 14), (['C', 'l'], 1)] := by decide +kernel
/-- a parenthesis ends a match of the species pattern: the capital run `CH` before `)` is matched as at the end of a text -/
example : matchP "CH)3".toList = some (2, ['C', 'H'], [], [], ")3".toList) := by decide +kernel

end SciVerif.C10
