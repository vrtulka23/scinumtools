import SciVerif.Lemmas.C06

/-!
# C08 — Measurement uncertainties propagate consistently and stay non-negative

Theorems about the model of `magnitude.py` / `UnitType.convert` (`Model/C08.lean`) instantiated
at the real numbers: `np.abs = |·|`, `np.max([x,y]) = max x y`, values are scalars (an array
operation is the same formula element by element, except that `np.max` takes the maximum over
*all* elements, which only enlarges the error — see `C08_array_max_ge`).
-/
namespace SciVerif.C08

/-- The absolute error is never negative. `+` and `-` : the sum of non-negative errors is
    non-negative (any signs of the values). -/
theorem C08_nonneg_add (l r : Mag ℝ) (hl : l.ErrNonneg) (hr : r.ErrNonneg) :
    (l.add r).ErrNonneg ∧ (l.sub r).ErrNonneg :=
  ⟨fun e he => sumErr_nonneg hl hr e (l.add_error r ▸ he), fun e he => sumErr_nonneg hl hr e (l.sub_error r ▸ he)⟩

/-- `*` : for any signs of the two values (in particular a negative exact factor). -/
theorem C08_nonneg_mul (l r : Mag ℝ) (hl : l.ErrNonneg) (hr : r.ErrNonneg) :
    (l.mul r).ErrNonneg :=
  fun e he => mulErr_nonneg _ _ hl hr e (l.mul_error r ▸ he)

/-- `/` : for any signs (the divisor is non-zero; at 0 Python raises, numpy arrays give
    `inf`/`nan`). -/
theorem C08_nonneg_div (l r : Mag ℝ) (hl : l.ErrNonneg) (_hr : r.ErrNonneg) (_h0 : r.value ≠ 0) :
    (l.div r).ErrNonneg :=
  fun e he => divErr_nonneg _ _ _ hl e (l.div_error r ▸ he)

/-- `**` : for any sign of the value and of the exponent (value non-zero: the code divides by
    `|value|`), and the error is exactly `e·|p|`. -/
theorem C08_nonneg_pow (m : Mag ℝ) (p : Rat) (hm : m.ErrNonneg) (h0 : m.value ≠ 0) :
    (m.pow p).ErrNonneg ∧ ∀ e, m.error = some e → (m.pow p).error = some (e * |((p : ℚ) : ℝ)|) := by
  have h : (m.pow p).error = m.error.map (fun e => e * |((p : ℚ) : ℝ)|) := by
    rw [Mag.pow_error, powErr_real _ _ h0]
  refine ⟨fun x hx => ?_, fun e he => by rw [h, he, Option.map_some]⟩
  obtain ⟨e, he, rfl⟩ := Option.map_eq_some_iff.mp (h ▸ hx)
  exact mul_nonneg (hm e he) (abs_nonneg _)

/-- `-m`: the error is carried over as it is, so it stays non-negative. -/
theorem C08_nonneg_neg (m : Mag ℝ) (hm : m.ErrNonneg) : m.neg.ErrNonneg ∧ m.neg.error = m.error :=
  ⟨fun e he => hm e (m.neg_error ▸ he), m.neg_error⟩

/-- a relative error given for a value of either sign becomes a non-negative absolute error,
    and `rele()` reads it back. -/
theorem C08_nonneg_rele (v r : ℝ) (hr : 0 ≤ r) :
    (Mag.newRel v r).ErrNonneg ∧ (v ≠ 0 → (Mag.newRel v r).rele = some r) := by
  constructor
  · intro e he
    obtain rfl : relToAbs v r = e := Option.some.inj he
    exact div_nonneg (mul_nonneg (abs_nonneg v) hr) (by norm_num)
  · intro hv
    exact congrArg some (absToRel_relToAbs v r hv)

/-- a linear conversion with positive unit factors keeps the error non-negative. -/
theorem C08_nonneg_convert (m : Mag ℝ) (m1 m2 : ℝ) (h1 : 0 < m1) (h2 : 0 < m2) (hm : m.ErrNonneg) :
    (m.convertLinear m1 m2).ErrNonneg := by
  intro e he
  rw [Mag.convertLinear_eq _ (div_pos h1 h2).le] at he
  obtain ⟨e0, h0, rfl⟩ := Option.map_eq_some_iff.mp he
  exact mul_nonneg (hm e0 h0) (abs_nonneg _)

/-- for *every* computation (`MExpr`, `Lemmas/C08.lean`) built from `+ - * / neg ** ` and linear conversions, of any
    size, with values / factors / exponents of any sign: if the magnitudes entering it have
    non-negative errors, the result has a non-negative error. -/
theorem C08_nonneg (e : MExpr) (h : e.LeavesNonneg) : ∀ m, e.eval = some m → m.ErrNonneg := by
  induction e with
    (intro m hm
     simp only [MExpr.eval, bind, Option.bind_eq_some_iff, pure, Option.some.injEq,
       Option.ite_none_left_eq_some, Option.ite_none_right_eq_some] at hm)
  | leaf m0 => exact hm ▸ h
  | add a b iha ihb =>
    obtain ⟨x, hx, y, hy, rfl⟩ := hm
    exact (C08_nonneg_add x y (iha h.1 x hx) (ihb h.2 y hy)).1
  | sub a b iha ihb =>
    obtain ⟨x, hx, y, hy, rfl⟩ := hm
    exact (C08_nonneg_add x y (iha h.1 x hx) (ihb h.2 y hy)).2
  | mul a b iha ihb =>
    obtain ⟨x, hx, y, hy, rfl⟩ := hm
    exact C08_nonneg_mul x y (iha h.1 x hx) (ihb h.2 y hy)
  | div a b iha ihb =>
    obtain ⟨x, hx, y, hy, h0, rfl⟩ := hm
    exact C08_nonneg_div x y (iha h.1 x hx) (ihb h.2 y hy) h0
  | neg a iha =>
    obtain ⟨x, hx, rfl⟩ := hm
    exact (C08_nonneg_neg x (iha h x hx)).1
  | pow a p iha =>
    obtain ⟨x, hx, h0, rfl⟩ := hm
    exact (C08_nonneg_pow x p (iha h x hx) h0).1
  | conv a m1 m2 iha =>
    obtain ⟨x, hx, h0, rfl⟩ := hm
    exact C08_nonneg_convert x m1 m2 h0.1 h0.2 (iha h x hx)

/-- sums and differences: the errors add (an exact operand adds nothing). -/
theorem C08_sum (lv rv le re : ℝ) :
    (Mag.add ⟨lv, some le⟩ ⟨rv, some re⟩).error = some (le + re) ∧
    (Mag.sub ⟨lv, some le⟩ ⟨rv, some re⟩).error = some (le + re) ∧
    (Mag.add ⟨lv, some le⟩ ⟨rv, none⟩).error = some le ∧
    (Mag.add ⟨lv, none⟩ ⟨rv, some re⟩).error = some re ∧
    (Mag.sub ⟨lv, some le⟩ ⟨rv, none⟩).error = some le ∧
    (Mag.sub ⟨lv, none⟩ ⟨rv, some re⟩).error = some re := by
  simp [Mag.add, Mag.sub, sumErr]

/-- multiplying / dividing by an exact number `k` scales the error by `|k|` / `1/|k|`. -/
theorem C08_scale (v e k : ℝ) :
    (Mag.mul ⟨v, some e⟩ (Mag.exact k)).error = some (|k| * e) ∧
    (Mag.mul (Mag.exact k) ⟨v, some e⟩).error = some (|k| * e) ∧
    (Mag.div ⟨v, some e⟩ (Mag.exact k)).error = some (e / |k|) := by
  simp [Mag.mul, Mag.div, Mag.exact, mulErr, divErr, mul_comm]

/-- product of two positive uncertain values: the error is at least the first-order one. -/
theorem C08_first_order_mul (a da b db : ℝ) (ha : 0 < a) (hb : 0 < b) (hda : 0 ≤ da) (hdb : 0 ≤ db) :
    ∃ e, (Mag.mul ⟨a, some da⟩ ⟨b, some db⟩).error = some e ∧ |a| * db + |b| * da ≤ e := by
  rw [abs_of_pos ha, abs_of_pos hb]
  exact ⟨_, Mag.mul_error _ _, le_max_of_le_left (first_order_mul_le a da b db (mul_nonneg hda hdb))⟩

/-- quotient of two uncertain positive values whose divisor interval excludes zero -/
theorem C08_first_order_div (a da b db : ℝ) (ha : 0 < a) (hb : 0 < b) (hda : 0 ≤ da) (hdb : 0 ≤ db)
    (hint : db < b) :
    ∃ e, (Mag.div ⟨a, some da⟩ ⟨b, some db⟩).error = some e ∧ (|a| * db + |b| * da) / (b * b) ≤ e := by
  rw [abs_of_pos ha, abs_of_pos hb]
  exact ⟨_, Mag.div_error _ _, le_max_of_le_left
    (first_order_div_le a da b db ha.le hda hb hint.ne hdb (by linarith))⟩

/-- exact number divided by an uncertain positive value -/
theorem C08_first_order_rdiv (a b db : ℝ) (ha : 0 < a) (hb : 0 < b) (hdb : 0 ≤ db) (hint : db < b) :
    ∃ e, (Mag.div (Mag.exact a) ⟨b, some db⟩).error = some e ∧ |a| * db / (b * b) ≤ e := by
  rw [abs_of_pos ha]
  exact ⟨_, Mag.div_error _ _, le_max_of_le_right
    (first_order_rdiv_le a b db ha.le hb hint.ne hdb (by linarith))⟩

/-- the bound still holds when the divisor's uncertainty exceeds its value by at most the value
    itself (`b < db ≤ 2b`: the interval reaches across zero; the code's "upper" end point
    `(a+da)/(b-db)` is then a large negative number). -/
theorem C08_first_order_div_wide (a da b db : ℝ) (ha : 0 < a) (hb : 0 < b) (hda : 0 ≤ da)
    (h1 : b < db) (h2 : db ≤ 2 * b) :
    ∃ e, (Mag.div ⟨a, some da⟩ ⟨b, some db⟩).error = some e ∧ (|a| * db + |b| * da) / (b * b) ≤ e := by
  rw [abs_of_pos ha, abs_of_pos hb]
  exact ⟨_, Mag.div_error _ _, le_max_of_le_left
    (first_order_div_le a da b db ha.le hda hb h1.ne' (hb.le.trans h1.le) h2)⟩

/-- exact number divided by a positive value whose uncertainty exceeds it by at most the value itself: the bound holds -/
theorem C08_first_order_rdiv_wide (a b db : ℝ) (ha : 0 < a) (hb : 0 < b) (h1 : b < db) (h2 : db ≤ 2 * b) :
    ∃ e, (Mag.div (Mag.exact a) ⟨b, some db⟩).error = some e ∧ |a| * db / (b * b) ≤ e := by
  rw [abs_of_pos ha]
  exact ⟨_, Mag.div_error _ _, le_max_of_le_right
    (first_order_rdiv_le a b db ha.le hb h1.ne' (hb.le.trans h1.le) h2)⟩

/-- The interval hypothesis of `C08_first_order_div` cannot be dropped: for `1 / (1 ± 100)` the
    code's error is `100/99 < 100 = ` first order. (No propagation rule based on the end points
    of the interval can reach the first-order value there; the check judges the bound only for
    `db < b`.) -/
theorem C08_first_order_div_needs_interval :
    ¬ ∀ a da b db : ℝ, 0 < a → 0 < b → 0 ≤ da → 0 ≤ db →
      ∃ e, (Mag.div ⟨a, some da⟩ ⟨b, some db⟩).error = some e ∧ (|a| * db + |b| * da) / (b * b) ≤ e := by
  intro h
  obtain ⟨e, he, hle⟩ := h 1 0 1 100 one_pos one_pos le_rfl (by norm_num)
  simp only [Mag.div_error, divErr, gmax_real, abs_real, Option.some.injEq] at he
  subst he
  norm_num [abs_of_neg, abs_of_nonneg, max_def] at hle

/-- `value' = value·f`, `error' = error·f` with the same `f = mag1/mag2`; hence the relative
    uncertainty `rele()` is unchanged. -/
theorem C08_convert (v e m1 m2 : ℝ) (h1 : 0 < m1) (h2 : 0 < m2) :
    (Mag.convertLinear ⟨v, some e⟩ m1 m2).value = v * (m1 / m2) ∧
    (Mag.convertLinear ⟨v, some e⟩ m1 m2).error = some (e * (m1 / m2)) ∧
    (v ≠ 0 → (Mag.convertLinear ⟨v, some e⟩ m1 m2).rele = (⟨v, some e⟩ : Mag ℝ).rele) := by
  have h := div_pos h1 h2
  rw [Mag.convertLinear_eq _ h.le]
  exact ⟨rfl, by rw [Mag.scaleBy_of_pos _ h]; rfl, fun _ => Mag.rele_scaleBy _ h.ne'⟩

/-- conversion to a reference *quantity* of exact magnitude `m ≠ 0` (`q.to(Quantity(m, units))`):
    value and error are both multiplied by `(m1/m2)/m` resp. `(m1/m2)/|m|`; the relative
    uncertainty is unchanged. -/
theorem C08_convert_to_quantity (v e m1 m2 m : ℝ) (h1 : 0 < m1) (h2 : 0 < m2) (hm : m ≠ 0) :
    ((Mag.convertLinear ⟨v, some e⟩ m1 m2).div ⟨m, none⟩).value = v * (m1 / m2) / m ∧
    ((Mag.convertLinear ⟨v, some e⟩ m1 m2).div ⟨m, none⟩).error = some (e * (m1 / m2) / |m|) ∧
    (v ≠ 0 → ((Mag.convertLinear ⟨v, some e⟩ m1 m2).div ⟨m, none⟩).rele = (⟨v, some e⟩ : Mag ℝ).rele) := by
  have h := div_pos h1 h2
  rw [Mag.convertLinear_eq _ h.le]
  refine ⟨rfl, by rw [Mag.scaleBy_of_pos _ h]; rfl, fun _ => ?_⟩
  have hd : (Mag.scaleBy ⟨v, some e⟩ (m1 / m2)).div ⟨m, none⟩ = _ := Mag.div_exact _ m
  rw [hd, Mag.rele_scaleBy _ (inv_ne_zero hm), Mag.rele_scaleBy _ h.ne']

/-- exact operands give exact results. -/
theorem C08_exact (l r : Mag ℝ) (p : Rat) (m1 m2 : ℝ) (hl : l.error = none) (hr : r.error = none) :
    (l.add r).error = none ∧ (l.sub r).error = none ∧ (l.mul r).error = none ∧
    (l.div r).error = none ∧ (l.pow p).error = none ∧ l.neg.error = none ∧
    (l.convertLinear m1 m2).error = none := by
  rw [Mag.add_error, Mag.sub_error, Mag.mul_error, Mag.div_error, Mag.pow_error, Mag.neg_error,
    Mag.convertLinear, Mag.new_real, hl, hr]
  exact ⟨rfl, rfl, rfl, rfl, rfl, rfl, rfl⟩

/-- `a*a` (one object on both sides of `*`) is an ordinary product in the code: it obeys the
    product rule, at least `2|a|da` — not the `**` rule `2·da`. -/
theorem C08_self_product (a da : ℝ) (ha : 0 < a) (hda : 0 ≤ da) :
    ∃ e, (Mag.mul ⟨a, some da⟩ ⟨a, some da⟩).error = some e ∧ 2 * |a| * da ≤ e := by
  obtain ⟨e, he, hle⟩ := C08_first_order_mul a da a da ha ha hda hda
  exact ⟨e, he, by linarith⟩

section quantities
open SciVerif.C06
-- the statements carry `[DecidableEq ι]` whether or not their proofs use it
set_option linter.unusedSectionVars false
variable {ι : Type} [DecidableEq ι]

/-- the constructor's folding step (units dropped when the dimensions vanish, factors folded into
    the number) multiplies value and error by the same positive factor: the magnitude in base
    dimensions is unchanged and so is the relative uncertainty. -/
theorem C08_fold_keeps_uncertainty (env : ι → UnitInfo ℝ) (hpos : EnvPos env) (m : Mag ℝ) (b : BU ι) :
    (Qty.new env m b).baseMag env = ⟨m.value * b.magnitude env, m.error.map (fun e => e * b.magnitude env)⟩ ∧
    (m.value ≠ 0 → (Qty.new env m b).mag.rele = m.rele) := by
  refine ⟨Qty.new_baseMag env hpos m b, fun _ => ?_⟩
  obtain ⟨f, hm, _, hf⟩ := Qty.new_spec env m b
  rw [hm, Mag.rele_scaleBy m (hf hpos).ne']

/-- sum / difference of quantities given in *different* units of one dimension: in base
    dimensions the absolute error of the result is the sum of the operands' absolute errors,
    i.e. in the left operand's units `err(a) + err(b)·f(b)/f(a)`. -/
theorem C08_qty_sum (env : ι → UnitInfo ℝ) (hpos : EnvPos env) (l r : Qty ι ℝ)
    (hd : (l.units.dims env).beq (r.units.dims env) = true) :
    (∃ q, l.add env r = .ok q ∧
      (q.baseMag env).error = sumErr (l.baseMag env).error (r.baseMag env).error) ∧
    (∃ q, l.sub env r = .ok q ∧
      (q.baseMag env).error = sumErr (l.baseMag env).error (r.baseMag env).error) := by
  obtain ⟨q, hq, hb, _⟩ := addsub_spec env hpos Mag.add Mag.add_scaleBy l r hd
  obtain ⟨q', hq', hb', _⟩ := addsub_spec env hpos Mag.sub Mag.sub_scaleBy l r hd
  exact ⟨⟨q, hq, by rw [hb, Mag.add_error]⟩, ⟨q', hq', by rw [hb', Mag.sub_error]⟩⟩

/-- product and quotient of quantities (whether or not their units cancel and get folded): the
    magnitude in base dimensions has the relative uncertainty of the same operation on the bare
    magnitudes — error and value are scaled by the same positive unit factor. -/
theorem C08_qty_mul_div (env : ι → UnitInfo ℝ) (hpos : EnvPos env) (l r : Qty ι ℝ)
    (hl : l.units.WF) (hr : r.units.WF) :
    ((l.mul env r).baseMag env).error =
      (l.mag.mul r.mag).error.map (fun e => e * (l.units.magnitude env * r.units.magnitude env)) ∧
    ((l.div env r).baseMag env).error =
      (l.mag.div r.mag).error.map (fun e => e * (l.units.magnitude env / r.units.magnitude env)) := by
  constructor
  · rw [Qty.mul, Qty.new_baseMag env hpos, magnitude_addU env hpos _ _ hl hr]
  · rw [Qty.div, Qty.new_baseMag env hpos, magnitude_subU env hpos _ _ hl hr]

/-- `Quantity.rebase()` (merging units of one dimension, e.g. `m*cm → m2`) multiplies value and
    absolute error by the same positive constant; the relative uncertainty is unchanged. -/
theorem C08_rebase_uncertainty (env : ι → UnitInfo ℝ) (hpos : EnvPos env) (q : Qty ι ℝ) :
    ∃ f : ℝ, 0 < f ∧ (q.rebase env).mag.value = q.mag.value * f ∧
      (q.rebase env).mag.error = q.mag.error.map (fun e => e * f) ∧
      (q.mag.value ≠ 0 → (q.rebase env).mag.rele = q.mag.rele) := by
  have hf := rebase_factor_pos env hpos q.units ([], 1) one_pos
  have hm : (q.rebase env).mag = q.mag.scaleBy _ := Mag.mul_exact _ _
  refine ⟨_, hf, congrArg Mag.value hm, ?_, fun _ => ?_⟩
  · rw [hm, Mag.scaleBy_of_pos _ hf]
  · rw [hm, Mag.rele_scaleBy _ hf.ne']

/-- constructor with the unit given as a (possibly uncertain) quantity `ref`: in base dimensions
    the result is the product of the two uncertain numbers — value and error of `m * ref.mag`
    times the exact unit factor of `ref` (so the sum/scale/first-order clauses of `*` apply,
    and an uncertain reference never yields an exact result). -/
theorem C08_ctor_quantity_unit (env : ι → UnitInfo ℝ) (hpos : EnvPos env) (m : Mag ℝ) (ref : Qty ι ℝ) :
    (Qty.newQ env m ref).baseMag env =
      ⟨(m.mul ref.mag).value * ref.units.magnitude env,
       (m.mul ref.mag).error.map (fun e => e * ref.units.magnitude env)⟩ ∧
    (∀ e, ref.mag.error = some e → ((Qty.newQ env m ref).baseMag env).error ≠ none) := by
  have h : (Qty.newQ env m ref).baseMag env = _ := Qty.new_baseMag env hpos _ _
  refine ⟨h, fun e he => ?_⟩
  rw [h, Mag.mul_error, he]
  cases m.error <;> simp [mulErr]

end quantities

/-- whatever the other elements are, the maximum over all elements of both arrays is at least
    the element-wise maximum at every position (so the bounds above carry over to arrays). -/
theorem C08_array_max_ge (xs ys : List ℝ) (i : ℕ) (hi : i < xs.length) (hj : i < ys.length)
    (g : ℝ) (hg : ∀ z ∈ xs ++ ys, z ≤ g) : max xs[i] ys[i] ≤ g :=
  max_le (hg _ (List.mem_append_left _ (List.getElem_mem hi)))
    (hg _ (List.mem_append_right _ (List.getElem_mem hj)))

/-! ### non-vacuity -/

example : (⟨1, some 0.1⟩ : Mag ℝ).ErrNonneg := by intro e he; simp at he; subst he; norm_num
example : (Mag.mul ⟨1, some (1/10)⟩ (Mag.exact (-3) : Mag ℝ)).error = some (3/10) := by
  rw [(C08_scale 1 (1/10) (-3)).1]; norm_num
example : (MExpr.mul (.leaf ⟨1, some 0.1⟩) (.neg (.leaf ⟨3, none⟩))).LeavesNonneg := by
  refine ⟨?_, ?_⟩ <;> intro e he <;> simp at he
  subst he; norm_num
example : ∃ a da b db : ℝ, 0 < a ∧ 0 < b ∧ 0 ≤ da ∧ 0 ≤ db ∧ db < b := ⟨12, 0.2, 4, 0.1, by norm_num⟩

end SciVerif.C08
