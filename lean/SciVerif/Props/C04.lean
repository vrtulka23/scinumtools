import SciVerif.Lemmas.C04UnitTypes
import SciVerif.Facts.C04
import SciVerif.Lemmas.Util.FracQ

/-!
# C04 — Linear unit conversion is exact, reversible and dimension-safe

`K` is any field (the exact arithmetic the floats approximate); factors are arbitrary
non-zero elements; values are scalars or arrays (`Mag`). `types` is the list of unit-type classes tried in order:
the general theorems hold for *any* classes `pre` that decline in front of
`StandardUnitType` and any `post` behind it; `C04_real_rule_selection` instantiates them with
the `UNIT_TYPES` list and tables regenerated from the code, for which this file depends on C05's model of the two
classes in front and on C05's tables (through `Lemmas/C04UnitTypes.lean`).
-/
namespace SciVerif.C04
open SciVerif.C05

variable {K : Type} [Field K]

/-- Same dimension: `value(v)` is `x·factor(u)/factor(v)`, element-wise. -/
theorem C04_value (pre post : List (Rule K)) (q : Q K) (b2 : BU K)
    (hpre : ∀ r ∈ pre, r q.bu b2 = .decline) (hd : q.bu.dims.eq b2.dims = true) :
    Q.valueIn (pre ++ standard :: post) q b2
      = .ok (q.val.map (fun x => x * q.bu.magnitude / b2.magnitude)) :=
  Q.valueIn_ok (pick_accept hpre (standard_same hd))

/-- The specification prescribes `x·f1/f2` for a same-dimension conversion: the value of `C04_value`. -/
theorem C04_value_is_spec (f1 f2 x : K) :
    specValue .same f1 f2 x = some (x * f1 / f2) := rfl

/-- Arrays convert element by element, with the function scalars are converted by. -/
theorem C04_array (types : List (Rule K)) (b1 b2 : BU K) (xs : List K) (g : K → K)
    (h : pick types b1 b2 = .ok g) :
    Q.valueIn types ⟨.arr xs, b1⟩ b2 = .ok (.arr (xs.map g)) ∧
    ∀ x, Q.valueIn types ⟨.scalar x, b1⟩ b2 = .ok (.scalar (g x)) :=
  ⟨Q.valueIn_ok h, fun _ => Q.valueIn_ok h⟩

/-- `to(v)` and `value(v)` agree: `to` succeeds exactly when `value` does, stores the value
    `value` returns together with the target units, and otherwise leaves the state as it was. -/
theorem C04_to_agrees_value (types : List (Rule K)) (q : Q K) (b2 : BU K) :
    (∀ m, Q.valueIn types q b2 = .ok m → Q.to types q b2 = (⟨m, b2⟩, true)) ∧
    (∀ e, Q.valueIn types q b2 = .error e → Q.to types q b2 = (q, false)) := by
  cases h : pick types q.bu b2 with
  | ok g => simp [Q.valueIn_ok h, Q.to_ok h]
  | error e => simp [Q.valueIn_error h, Q.to_error h]

/-- Round trip: converting to `v` and back restores value *and* units. -/
theorem C04_roundtrip (pre post : List (Rule K)) (q : Q K) (b2 : BU K)
    (hpre : ∀ r ∈ pre, r q.bu b2 = .decline) (hpre' : ∀ r ∈ pre, r b2 q.bu = .decline)
    (hd : q.bu.dims.eq b2.dims = true) (h1 : q.bu.magnitude ≠ 0) (h2 : b2.magnitude ≠ 0) :
    (Q.to (pre ++ standard :: post) (Q.to (pre ++ standard :: post) q b2).1 q.bu) = (q, true) :=
  Q.to_roundtrip (pick_accept hpre (standard_same hd))
    (pick_accept hpre' (standard_same ((Dims.eq_symm _ _).trans hd)))
    (Mag.all_true _) fun x _ => by rw [div_mul_cancel₀ _ h2, mul_div_cancel_right₀ _ h1]

/-- Path independence: through any intermediate unit `w` of the same dimension the result
    is the one of the direct conversion. -/
theorem C04_path_independent (pre post : List (Rule K)) (q : Q K) (bw bv : BU K)
    (huw : ∀ r ∈ pre, r q.bu bw = .decline) (hwv : ∀ r ∈ pre, r bw bv = .decline)
    (huv : ∀ r ∈ pre, r q.bu bv = .decline)
    (duw : q.bu.dims.eq bw.dims = true) (dwv : bw.dims.eq bv.dims = true)
    (duv : q.bu.dims.eq bv.dims = true) (hw : bw.magnitude ≠ 0) :
    Q.to (pre ++ standard :: post) (Q.to (pre ++ standard :: post) q bw).1 bv
      = Q.to (pre ++ standard :: post) q bv := by
  rw [Q.to_to (pick_accept huw (standard_same duw))
      (pick_accept hwv (standard_same dwv)),
    Q.to_ok (pick_accept huv (standard_same duv))]
  simp only [div_mul_cancel₀ _ hw]

/-- Reciprocal dimension: `1/(x·factor(u))/factor(v)`. -/
theorem C04_reciprocal (pre post : List (Rule K)) (q : Q K) (b2 : BU K)
    (hpre : ∀ r ∈ pre, r q.bu b2 = .decline) (hd : q.bu.dims.eq b2.dims = false)
    (hn : q.bu.dims.neg.eq b2.dims = true) :
    Q.valueIn (pre ++ standard :: post) q b2
      = .ok (q.val.map (fun x => 1 / (x * q.bu.magnitude) / b2.magnitude)) :=
  Q.valueIn_ok (pick_accept hpre (standard_neg hd hn))

/-- Reciprocal dimension, there and back: every non-zero value (and the units) is restored. -/
theorem C04_reciprocal_roundtrip (pre post : List (Rule K)) (q : Q K) (b2 : BU K)
    (hpre : ∀ r ∈ pre, r q.bu b2 = .decline) (hpre' : ∀ r ∈ pre, r b2 q.bu = .decline)
    (hd : q.bu.dims.eq b2.dims = false) (hn : q.bu.dims.neg.eq b2.dims = true)
    (h1 : q.bu.magnitude ≠ 0) (h2 : b2.magnitude ≠ 0) (hx : q.val.All (· ≠ 0)) :
    (Q.to (pre ++ standard :: post) (Q.to (pre ++ standard :: post) q b2).1 q.bu) = (q, true) :=
  -- in a field `1/(1/y) = y` holds at `y = 0` too; `hx` mirrors the code, where `1/value` raises
  -- at a scalar 0 and gives `inf` at a 0 in a numpy array
  Q.to_roundtrip (pick_accept hpre (standard_neg hd hn))
    (pick_accept hpre' (standard_neg ((Dims.eq_symm _ _).trans hd) ((Dims.neg_eq_symm _ _).trans hn)))
    hx fun x _ => by rw [div_mul_cancel₀ _ h2, one_div_one_div, mul_div_cancel_right₀ _ h1]

/-- A bare number converts to radians unchanged (and to prefixed radians by the prefix
    factor only): the quantity has no units, the target is the single unit `rad¹`. -/
theorem C04_number_to_rad (pre post : List (Rule K)) (q : Q K) (b2 : BU K)
    (hpre : ∀ r ∈ pre, r q.bu b2 = .decline) (hd : q.bu.dims.eq b2.dims = false)
    (hn : q.bu.dims.neg.eq b2.dims = false) (hnb : q.bu.nobase = true) (hq : q.bu.magnitude = 1)
    (hu : b2.units = ["rad"]) (hr : radOne b2.dims = true) :
    Q.valueIn (pre ++ standard :: post) q b2 = .ok (q.val.map (fun x => x / b2.magnitude)) ∧
    (b2.magnitude = 1 → Q.valueIn (pre ++ standard :: post) q b2 = .ok q.val) := by
  have e := Q.valueIn_ok (val := q.val)
    (pick_accept (post := post) hpre (standard_rad hd hn (by simp [hnb, hu, hr])))
  simp only [hq, mul_one] at e
  exact ⟨e, fun h1 => by rw [e, h1, Mag.map_id_of_all (Mag.all_true _) fun x _ => div_one x]⟩

/-- Dimension safety: when the dimensions are neither equal nor negated and it is not the
    number→radian case, no class behind `StandardUnitType` being present, the conversion is
    refused by `value` and `to`, and `to` leaves the quantity exactly as it was. -/
theorem C04_refuse (pre : List (Rule K)) (q : Q K) (b2 : BU K)
    (hpre : ∀ r ∈ pre, r q.bu b2 = .decline) (hd : q.bu.dims.eq b2.dims = false)
    (hn : q.bu.dims.neg.eq b2.dims = false)
    (hr : (q.bu.nobase && b2.units == ["rad"] && radOne b2.dims) = false) :
    Q.valueIn (pre ++ [standard]) q b2 = .error .unsupported ∧
    Q.to (pre ++ [standard]) q b2 = (q, false) :=
  have h := pick_refuse hpre (standard_decline hd hn hr)
  ⟨Q.valueIn_error h, Q.to_error h⟩

/-- Whatever the classes are: a failed `to` never changes the quantity. -/
theorem C04_failed_to_keeps_state (types : List (Rule K)) (q : Q K) (b2 : BU K)
    (h : (Q.to types q b2).2 = false) : (Q.to types q b2).1 = q := by
  cases hp : pick types q.bu b2 with
  | ok g => rw [Q.to_ok hp] at h; exact nomatch h
  | error e => rw [Q.to_error hp]

/-- Whatever the classes and the target quantity's magnitude: a refused `to(Quantity)`
    leaves the quantity exactly as it was (the division by the target's magnitude is part of
    the assignment that only happens after a successful conversion). -/
theorem C04_to_quantity_failed_keeps_state (types : List (Rule K)) (q : Q K) (tm : K) (tb : BU K)
    (h : (Q.toQuantity types q tm tb).2 = false) : (Q.toQuantity types q tm tb).1 = q := by
  cases hp : pick types q.bu tb with
  | ok g => rw [Q.toQuantity_ok hp] at h; exact nomatch h
  | error e => rw [Q.toQuantity_error hp]

/-- `to(Quantity(tm, v))` succeeds exactly when `to(v)` does and leaves the value of `to(v)`
    divided by `tm`, with `v`'s units; for `tm = 1` (a unit object) it *is* `to(v)`. -/
theorem C04_to_quantity_agrees_to (types : List (Rule K)) (q : Q K) (tm : K) (tb : BU K) :
    (Q.toQuantity types q tm tb).2 = (Q.to types q tb).2 ∧
    (Q.toQuantity types q tm tb).1.bu = (Q.to types q tb).1.bu ∧
    (Q.toQuantity types q tm tb).1.val
      = (if (Q.to types q tb).2 then (Q.to types q tb).1.val.map (fun y => y / tm) else q.val) ∧
    (tm = 1 → Q.toQuantity types q tm tb = Q.to types q tb) := by
  cases hp : pick types q.bu tb with
  | ok g =>
    rw [Q.toQuantity_ok hp, Q.to_ok hp]
    refine ⟨rfl, rfl, ?_, fun h1 => ?_⟩
    · simp only [Mag.map_map, if_true]
    · simp only [h1, div_one]
  | error e =>
    rw [Q.toQuantity_error hp, Q.to_error hp]
    exact ⟨rfl, rfl, rfl, fun _ => rfl⟩

/-- Same dimension, Quantity target: `x·f(u)/f(v)/tm`. -/
theorem C04_to_quantity_value (pre post : List (Rule K)) (q : Q K) (tm : K) (tb : BU K)
    (hpre : ∀ r ∈ pre, r q.bu tb = .decline) (hd : q.bu.dims.eq tb.dims = true) :
    Q.toQuantity (pre ++ standard :: post) q tm tb
      = (⟨q.val.map (fun x => x * q.bu.magnitude / tb.magnitude / tm), tb⟩, true) :=
  Q.toQuantity_ok (pick_accept hpre (standard_same hd))

/-- Reciprocal dimension, Quantity target: the reciprocal is taken of the *unscaled* value,
    `1/(x·f(u))/f(v)/tm` (scaling by `tm` before the reciprocal would be off by `tm²`). -/
theorem C04_to_quantity_reciprocal (pre post : List (Rule K)) (q : Q K) (tm : K) (tb : BU K)
    (hpre : ∀ r ∈ pre, r q.bu tb = .decline) (hd : q.bu.dims.eq tb.dims = false)
    (hn : q.bu.dims.neg.eq tb.dims = true) :
    Q.toQuantity (pre ++ standard :: post) q tm tb
      = (⟨q.val.map (fun x => 1 / (x * q.bu.magnitude) / tb.magnitude / tm), tb⟩, true) :=
  Q.toQuantity_ok (pick_accept hpre (standard_neg hd hn))

/-- Dimension safety with a Quantity target: refused, state kept. -/
theorem C04_to_quantity_refuse (pre : List (Rule K)) (q : Q K) (tm : K) (tb : BU K)
    (hpre : ∀ r ∈ pre, r q.bu tb = .decline) (hd : q.bu.dims.eq tb.dims = false)
    (hn : q.bu.dims.neg.eq tb.dims = false)
    (hr : (q.bu.nobase && tb.units == ["rad"] && radOne tb.dims) = false) :
    Q.toQuantity (pre ++ [standard]) q tm tb = (q, false) :=
  Q.toQuantity_error (pick_refuse hpre (standard_decline hd hn hr))

/-- Units that cancel exactly, symbol by symbol (`(6 m)/(2 m)`, `m*m-1`, `q**0`: every dict
    entry has numerator 0) leave exactly the base units of a bare number: no units, `nobase`,
    factor 1, zero dimensions — so `C04_number_to_rad` applies to such results as it does to
    a literal number. -/
theorem C04_cancelled_units_are_bare {A : Type} [Mul A] [One A] [PowFrac A] (tag : Nat) (items : List (Item A))
    (h : ∀ i ∈ items, i.exp.num = 0) :
    (mkBU tag items : BU A) = mkBU tag [] :=
  mkBUAux_of_zero_exps items _ h

/-- The base units of a bare number (`BaseUnits` of an empty dict): `nobase`, no units, factor 1, zero dimensions. -/
theorem C04_bare_number_baseunits {A : Type} [Mul A] [One A] [PowFrac A] (tag : Nat) :
    (mkBU tag ([] : List (Item A))).nobase = true ∧ (mkBU tag ([] : List (Item A))).units = [] ∧
    (mkBU tag ([] : List (Item A))).magnitude = 1 ∧ (mkBU tag ([] : List (Item A))).dims = Dims.zero :=
  ⟨rfl, rfl, rfl, rfl⟩

/-- The value a conversion returns does not depend on whether an uncertainty is attached,
    nor on how the uncertainty is propagated. In the model this holds by construction (`Q.valueInWithError`
    computes the value from the value alone, as `UnitType.convert` is written); the correspondence run compares
    it with the code. -/
theorem C04_value_independent_of_uncertainty (types : List (Rule K)) (q : Q K) (b2 : BU K)
    (err : Option (Mag K)) (errf : (K → K) → Mag K → Mag K) :
    (Q.valueInWithError types q err errf b2).map Prod.fst = Q.valueIn types q b2 := by
  unfold Q.valueInWithError Q.valueIn
  cases pick types q.bu b2 <;> rfl

-- `touches`, `temperature`, `logarithmic`, `unitTypes` are C05's model of the two classes in front of
-- `StandardUnitType` (`Model/C05.lean`); `LogOps` is what that model needs of its number type
section real
variable [LogOps K]

/-- With the `UNIT_TYPES` order and tables regenerated from the code, every conversion
    between base units none of whose symbols is an offset (`Cel`, `degF`) or logarithmic
    unit is decided by `StandardUnitType` alone: same dimension ⇒ value formula,
    negated ⇒ reciprocal, otherwise (not number→rad) ⇒ refused, state kept. -/
theorem C04_real_rule_selection (q : Q K) (b2 : BU K)
    (ht : touches Gen.tempProcess q.bu b2 = false) (hl : touches Gen.logProcess q.bu b2 = false) :
    (q.bu.dims.eq b2.dims = true →
      Q.valueIn (unitTypes Gen.tables) q b2 = .ok (q.val.map (fun x => x * q.bu.magnitude / b2.magnitude))) ∧
    (q.bu.dims.eq b2.dims = false → q.bu.dims.neg.eq b2.dims = true →
      Q.valueIn (unitTypes Gen.tables) q b2 = .ok (q.val.map (fun x => 1 / (x * q.bu.magnitude) / b2.magnitude))) ∧
    (q.bu.dims.eq b2.dims = false → q.bu.dims.neg.eq b2.dims = false →
      (q.bu.nobase && b2.units == ["rad"] && radOne b2.dims) = false →
      Q.valueIn (unitTypes Gen.tables) q b2 = .error .unsupported ∧
      Q.to (unitTypes Gen.tables) q b2 = (q, false)) := by
  have hpre : ∀ r ∈ [temperature Gen.tables, logarithmic Gen.tables], (r : Rule K) q.bu b2 = .decline :=
    List.forall_mem_cons.mpr
      ⟨temperature_declines ht, List.forall_mem_singleton.mpr (logarithmic_declines hl)⟩
  rw [unitTypes_gen]
  exact ⟨C04_value [_, _] [] q b2 hpre, C04_reciprocal [_, _] [] q b2 hpre, C04_refuse [_, _] q b2 hpre⟩

end real

/-- Every factor in the regenerated unit, prefix and system tables is positive, so the
    hypotheses `factor ≠ 0` of the theorems above hold for every table symbol. -/
theorem C04_table_factors_positive : ∀ r ∈ Gen.factors, 0 < r.mag :=
  fun r hr => (Gen.factors_wellformed r hr).1

/-- Every dimension entry of the regenerated tables has a non-zero denominator, so
    `Fraction.__eq__` (cross-multiplication) on them is equality of rational exponents. -/
theorem C04_table_dims_wellformed : ∀ r ∈ Gen.factors, r.dims.length = 8 ∧ ∀ d ∈ r.dims, d.2 ≠ 0 :=
  fun r hr => (Gen.factors_wellformed r hr).2

/-- Cross-multiplication is equality of the rational exponents (non-zero denominators). -/
theorem C04_frac_eq_iff (a b : Frac) (ha : a.den ≠ 0) (hb : b.den ≠ 0) :
    a.eq b = true ↔ ratOf a = ratOf b := by
  rw [Frac.eq, beq_iff_eq]
  exact Util.intDiv_eq_iff a.num a.den b.num b.den ha hb

/-! Non-vacuity: concrete instances of the hypotheses (over `ℚ`). -/

section examples
def exDims (m : Int) : Dims := [⟨m,1⟩, ⟨0,1⟩, ⟨0,1⟩, ⟨0,1⟩, ⟨0,1⟩, ⟨0,1⟩, ⟨0,1⟩, ⟨0,1⟩]
def exKm : BU Rat := ⟨1000, exDims 1, ["m"], false, [], 0⟩
def exCm : BU Rat := ⟨mkRat 1 100, exDims 1, ["m"], false, [], 1⟩
def exPerM : BU Rat := ⟨1, exDims (-1), ["m"], false, [], 2⟩
def exS : BU Rat := ⟨1, [⟨0,1⟩, ⟨0,1⟩, ⟨1,1⟩, ⟨0,1⟩, ⟨0,1⟩, ⟨0,1⟩, ⟨0,1⟩, ⟨0,1⟩], ["s"], false, [], 3⟩

-- 2 km = 200000 cm; hypotheses of C04_value / C04_roundtrip hold
example : exKm.dims.eq exCm.dims = true ∧ exKm.magnitude ≠ 0 ∧ exCm.magnitude ≠ 0 ∧
    Q.valueIn [standard] ⟨.scalar (2 : Rat), exKm⟩ exCm = .ok (.scalar 200000) := by decide +kernel
-- 4 km = 1/4000 per metre, as an array; hypotheses of C04_reciprocal / C04_reciprocal_roundtrip hold
example : exKm.dims.eq exPerM.dims = false ∧ exKm.dims.neg.eq exPerM.dims = true ∧
    Q.valueIn [standard] ⟨.arr [(4 : Rat)], exKm⟩ exPerM = .ok (.arr [mkRat 1 4000]) := by decide +kernel
-- km to s: hypotheses of C04_refuse hold, and `to` leaves the quantity as it was
example : exKm.dims.eq exS.dims = false ∧ exKm.dims.neg.eq exS.dims = false ∧
    (exKm.nobase && exS.units == ["rad"] && radOne exS.dims) = false ∧
    Q.to [standard] ⟨.scalar (2 : Rat), exKm⟩ exS = (⟨.scalar 2, exKm⟩, false) := by decide +kernel
-- C04_to_quantity_reciprocal and C04_to_quantity_refuse on the same units, target magnitude 2
example : Q.toQuantity [standard] ⟨.scalar (4 : Rat), exKm⟩ 2 exPerM = (⟨.scalar (mkRat 1 8000), exPerM⟩, true) ∧
    Q.toQuantity [standard] ⟨.scalar (6 : Rat), exKm⟩ 2 exS = (⟨.scalar 6, exKm⟩, false) := by decide +kernel
end examples

end SciVerif.C04
