import SciVerif.Lemmas.C18StepTables
import SciVerif.Lemmas.C18NumOps
import SciVerif.Lemmas.C18Templates
import SciVerif.Lemmas.C18Strings
import Mathlib.Algebra.Field.Rat

/-!
# C18 — DIP expressions compute unit-aware results under the documented priorities

The operator and step tables are regenerated from the live solver objects on every run
(`Generated/C18Tables.lean`); the token-level and string-level theorems (`C18_numeric_*partial`,
`C18_logical_*partial`, `C18_signs`, `C18_priorities`) are about the machine driven by those tables.
The others are about parts of the model that no table drives: the operators themselves
(`C18_cmp_consistent`, `C18_numeric_dim_refuse`, `C18_trig`, `C18_numeric_units*`) and the template
scanner (`C18_template*`).
-/
namespace SciVerif.C18

variable {F A : Type}

/-- Tie of the tables: operator keys, symbols, dict order and classes of the two solver instances
    are the ones the theorems below are about (re-extracted on every run), and both instances run
    one and the same step table.  What that table holds, restricted to the keys of each instance,
    is stated in `num_steps`, `log_steps` (`Lemmas/C18StepTables.lean`); `isPar` / `narg` of the entries are
    not in the statement. -/
theorem C18_tables :
    Generated.numClasses = [("log", "CustomOperatorLog"), ("log10", "CustomOperatorLog10"),
      ("logb", "CustomOperatorLogb"), ("exp", "CustomOperatorExp"), ("sqrt", "CustomOperatorSqrt"),
      ("powb", "CustomOperatorPowb"), ("sin", "CustomOperatorSin"), ("cos", "CustomOperatorCos"),
      ("tan", "CustomOperatorTan"), ("par", "OperatorPar"), ("pow", "CustomOperatorPow"),
      ("mul", "CustomOperatorMul"), ("truediv", "CustomOperatorTruediv"), ("add", "CustomOperatorAdd"),
      ("sub", "CustomOperatorSub")] ∧
    Generated.logClasses = [("par", "OperatorPar"), ("eq", "CustomEq"), ("ne", "CustomNe"),
      ("not", "CustomNot"), ("le", "OperatorLe"), ("ge", "OperatorGe"), ("lt", "OperatorLt"),
      ("gt", "OperatorGt"), ("and", "CustomAnd"), ("or", "CustomOr")] ∧
    Generated.numTable.map (fun d => (d.key, String.ofList d.sym)) =
      [("log", "log("), ("log10", "log10("), ("logb", "logb("), ("exp", "exp("), ("sqrt", "sqrt("),
       ("powb", "pow("), ("sin", "sin("), ("cos", "cos("), ("tan", "tan("), ("par", "("), ("pow", "**"),
       ("mul", " * "), ("truediv", " / "), ("add", " + "), ("sub", " - ")] ∧
    Generated.logTable.map (fun d => (d.key, String.ofList d.sym)) =
      [("par", "("), ("eq", "=="), ("ne", "!="), ("not", "~"), ("le", "<="), ("ge", ">="), ("lt", "<"),
       ("gt", ">"), ("and", "&&"), ("or", "||")] ∧
    Generated.numSteps = Generated.logSteps :=
  ⟨rfl, rfl, by decide +kernel, by decide +kernel, rfl⟩

/-- **Numerical expressions, token level.**  For every number algebra, every atom valuation and
    every well-formed tree (`× ÷` bind tighter than `+ −`, equal priorities group left to right,
    parentheses and the documented functions nest arbitrarily), the real pass sequence — ARGS,
    sign folding (a ` - ` / ` + ` in prefix position applies to the value after it), `**`, `* /`,
    `+ -`, as regenerated from the code — applied to the tree's token
    list (parenthesised parts solved recursively by the same machine) returns exactly the tree
    value: each operator applied once to the values of its two sub-trees. -/
theorem C18_numeric_partial (N : NumOps F) (av : A → QV F) (e : E A) (hw : e.WF numGrammar) :
    e.solve (numSem N) numKeys Generated.numSteps av =
      some (e.eval (numSem N) (numBinSem N) (numPreSem N) av) :=
  solve_eq_eval (numSem N) (numBinSem N) (numPreSem N) av numGrammar numKeys Generated.numSteps
    (num_machine N av) e hw

/-- The string-level statement on the renderer: solving `render e b` of a well-formed tree —
    parentheses and function calls included, any number of optional blanks — gives the tree value.
    It is not proved, and as written it does not hold for every tree: a prefix sign must not be the
    first token inside parentheses (the argument text is stripped before it is solved, so the blank
    that ` - ` starts with is gone).  `C18_numeric_nested_partial` is this statement on the text
    model `T.text` instead of `render` (tokeniser, argument scanner with depth counting and
    separators, recursive solves, step passes), under the decidable side conditions `QuietN`.  Left
    out: the correspondence `render e b = T.text t` with `t.toE = e`, and deriving `QuietN` from a
    description of atom texts (it is decided per text; the driver compares the rendered text with
    the tree's token list on every generated tree of every run). -/
def C18_numeric_statement : Prop :=
  ∀ (N : NumOps Rat) (atom : List Char → Option (QV Rat)) (e : E (List Char)) (b : List Nat),
    e.WF numGrammar →
    (∀ a, (atom a).isSome → atom (strip a) = atom a) →
    let text := (render (symOf Generated.numTable) false e b).1
    solveStr (numSem N) Generated.numTable Generated.numSteps atom (text.length + 1) text =
      some (.atom (e.eval (numSem N) (numBinSem N) (numPreSem N) (fun a => (atom a).getD none)))

/-- the same for the logical grammar (symbols padded with one mandatory blank) -/
def C18_logical_statement : Prop :=
  ∀ (C : CmpOps Rat) (atom : List Char → Option (LV Rat)) (e : E (List Char)) (b : List Nat),
    e.WF logGrammar →
    (∀ a, (atom a).isSome → atom (strip a) = atom a) →
    let text := (render (symOf Generated.logTable) true e b).1
    solveStr (logSem C) Generated.logTable Generated.logSteps atom (text.length + 1) text =
      some (.atom (e.eval (logSem C) (logBinSem C) logPreSem (fun a => (atom a).getD .err)))

/-- **Numerical expressions, string level, parenthesis-free fragment.**  The *text* of a flat
    well-formed tree — atoms with any number of blanks around them, operator symbols from the
    regenerated table, prefix signs — is tokenised by the real loop (first matching operator in
    dict order, otherwise shift one character) into exactly the tree's tokens and therefore solved
    to the tree value, provided no operator symbol starts inside an atom segment and each operator
    symbol is the first table entry matching at its position (`QuietIn`, decidable for a concrete
    text) and the atoms are accepted by the atom constructor.  This is the depth-0 case (no argument
    scanning, no recursive solve, hence any fuel) of `C18_numeric_nested_partial`, which covers
    parentheses and function calls. -/
theorem C18_numeric_flat_partial (N : NumOps F) (atom : List Char → Option (QV F))
    (av : List Char → QV F) (e : E (List Char)) (fuel : Nat) (hf : e.Flat) (hw : e.WF numGrammar)
    (hq : e.QuietIn Generated.numTable []) (ha : e.AtomsOK atom av) :
    solveStr (numSem N) Generated.numTable Generated.numSteps atom (fuel + 1)
        (e.flatText Generated.numTable) =
      some (.atom (e.eval (numSem N) (numBinSem N) (numPreSem N) av)) :=
  solveStr_flat Generated.numTable (num_machine N av) e fuel hf hw hq ha

/-- The same for logical expressions (comparisons, `~`, `&&`, `||` without parentheses). -/
theorem C18_logical_flat_partial (C : CmpOps F) (atom : List Char → Option (LV F))
    (av : List Char → LV F) (e : E (List Char)) (fuel : Nat) (hf : e.Flat) (hw : e.WF logGrammar)
    (hq : e.QuietIn Generated.logTable []) (ha : e.AtomsOK atom av) :
    solveStr (logSem C) Generated.logTable Generated.logSteps atom (fuel + 1)
        (e.flatText Generated.logTable) =
      some (.atom (e.eval (logSem C) (logBinSem C) logPreSem av)) :=
  solveStr_flat Generated.logTable (log_machine C av) e fuel hf hw hq ha

/-- **Numerical expressions, string level, with parentheses and functions.**  For every text tree
    `t` — atoms with any number of blanks around them, operator symbols of the regenerated table,
    prefix signs, parentheses and one- and two-argument functions nested to any depth, with any number
    of blanks before the symbol, inside the parentheses around every argument, around the argument
    separator and after `)` — the real tokenisation loop, the argument scanner of parenthesis-type
    operators (depth counting, separator at depth 1, closing parenthesis) and the recursive solves of
    the arguments (one unit of fuel per nesting level; the length of the text suffices) produce the tree's tokens, and the step passes solve
    them to the tree value.  Side conditions `QuietN` (decidable for a concrete text): no operator
    symbol starts inside an atom or a run of blanks, every symbol is the first table entry matching at
    its position, every argument is balanced and starts and ends with a non-blank character (the
    blanks around it are the node's), recursively for every argument as a text of its own.
    This is `C18_numeric_statement` on the text model `T.text` instead of `render` (every `render`
    output is such a text; that correspondence is not proved). -/
theorem C18_numeric_nested_partial (N : NumOps F) (atom : List Char → Option (QV F))
    (av : List Char → QV F) (t : T) (hw : t.toE.WF numGrammar)
    (hq : t.QuietN Generated.numTable []) (ha : t.AtomsOK atom av) :
    solveStr (numSem N) Generated.numTable Generated.numSteps atom
        ((t.text Generated.numTable).length + 1) (t.text Generated.numTable) =
      some (.atom (t.toE.eval (numSem N) (numBinSem N) (numPreSem N) av)) :=
  solveStr_tree (num_machine N av) t _ (T.depth_le_length _ t) hw hq ha

/-- The renderer form: whenever the rendered text of a tree `e` is the text of a text tree `t` with
    the same value (`t.toE` evaluates like `e`) that meets the side conditions, solving the
    rendered text gives the value of `e`.  (Direct corollary of `C18_numeric_nested_partial`; that
    such a `t` exists for a renderer output is not proved, and for a prefix sign first inside
    parentheses there is none.) -/
theorem C18_numeric_render_partial (N : NumOps F) (atom : List Char → Option (QV F))
    (av : List Char → QV F) (e : E (List Char)) (b : List Nat) (t : T)
    (htext : t.text Generated.numTable = (render (symOf Generated.numTable) false e b).1)
    (hval : t.toE.eval (numSem N) (numBinSem N) (numPreSem N) av =
      e.eval (numSem N) (numBinSem N) (numPreSem N) av)
    (hw : t.toE.WF numGrammar) (hq : t.QuietN Generated.numTable []) (ha : t.AtomsOK atom av) :
    let text := (render (symOf Generated.numTable) false e b).1
    solveStr (numSem N) Generated.numTable Generated.numSteps atom (text.length + 1) text =
      some (.atom (e.eval (numSem N) (numBinSem N) (numPreSem N) av)) := by
  intro text
  have := C18_numeric_nested_partial N atom av t hw hq ha
  rw [htext, hval] at this
  exact this

/-- The same for logical expressions with parentheses nested to any depth. -/
theorem C18_logical_nested_partial (C : CmpOps F) (atom : List Char → Option (LV F))
    (av : List Char → LV F) (t : T) (hw : t.toE.WF logGrammar)
    (hq : t.QuietN Generated.logTable []) (ha : t.AtomsOK atom av) :
    solveStr (logSem C) Generated.logTable Generated.logSteps atom
        ((t.text Generated.logTable).length + 1) (t.text Generated.logTable) =
      some (.atom (t.toE.eval (logSem C) (logBinSem C) logPreSem av)) :=
  solveStr_tree (log_machine C av) t _ (T.depth_le_length _ t) hw hq ha

/-- **Logical expressions, token level**: comparisons are evaluated first, then `~`, then `&&`,
    then `||` (each left to right), for every well-formed tree, on the regenerated tables. -/
theorem C18_logical_partial (C : CmpOps F) (av : A → LV F) (e : E A) (hw : e.WF logGrammar) :
    e.solve (logSem C) logKeys Generated.logSteps av =
      some (e.eval (logSem C) (logBinSem C) logPreSem av) :=
  solve_eq_eval (logSem C) (logBinSem C) logPreSem av logGrammar logKeys Generated.logSteps
    (log_machine C av) e hw

/-- Signs: ` - a**b` is `(-a)**b` and `a -  - b**c` is `a - ((-b)**c)` — a sign is folded only in
    prefix position, before the power step. -/
theorem C18_signs (N : NumOps F) (a b c : QV F) :
    (E.bin "pow" (.pre "sub" (.lit a)) (.lit b)).solve (numSem N) numKeys Generated.numSteps id =
      some (numBinSem N "pow" ((numSem N).neg a) b) ∧
    (E.bin "sub" (.lit a) (.bin "pow" (.pre "sub" (.lit b)) (.lit c))).solve (numSem N) numKeys
        Generated.numSteps id =
      some (numBinSem N "sub" a (numBinSem N "pow" ((numSem N).neg b) c)) := by
  constructor
  · rw [C18_numeric_partial N id _ (E.WF_of_wf _ _ rfl)]; rfl
  · rw [C18_numeric_partial N id _ (E.WF_of_wf _ _ rfl)]; rfl

/-- Priorities made explicit on the smallest mixed trees (instances of the theorems above):
    `a + b * c = a + (b * c)`, `a - b - c = (a - b) - c`, `~ x == y && z || w = ((~(x == y)) && z) || w`. -/
theorem C18_priorities (N : NumOps F) (C : CmpOps F) (a b c : QV F) (x y z w : LV F) :
    (E.bin "add" (.lit a) (.bin "mul" (.lit b) (.lit c))).solve (numSem N) numKeys Generated.numSteps id =
      some (numBinSem N "add" a (numBinSem N "mul" b c)) ∧
    (E.bin "sub" (.bin "sub" (.lit a) (.lit b)) (.lit c)).solve (numSem N) numKeys Generated.numSteps id =
      some (numBinSem N "sub" (numBinSem N "sub" a b) c) ∧
    (E.bin "or" (.bin "and" (.pre "not" (.bin "eq" (.lit x) (.lit y))) (.lit z)) (.lit w)).solve
        (logSem C) logKeys Generated.logSteps id =
      some (lOr (lAnd (lNot (cmpOp C "eq" x y)) z) w) := by
  refine ⟨?_, ?_, ?_⟩
  · rw [C18_numeric_partial N id _ (E.WF_of_wf _ _ rfl)]; rfl
  · rw [C18_numeric_partial N id _ (E.WF_of_wf _ _ rfl)]; rfl
  · rw [C18_logical_partial C id _ (E.WF_of_wf _ _ rfl)]; rfl

/-- **The comparison operators are consistent on the same operands**, for all operand kinds
    (bool, str, numbers with and without units, literals, raising and refused operands) and every
    `isclose` / `<` / unit conversion: `a != b` is the negation of `a == b` (same refusals, same
    exceptions), `a <= b` is `a < b || a == b`, `a >= b` is `a > b || a == b`; hence the trees
    `a != b` and `~ a == b` have the same value. -/
theorem C18_cmp_consistent (C : CmpOps F) (l r : LV F) :
    cmpOp C "ne" l r = lNot (cmpOp C "eq" l r) ∧
    cmpOp C "le" l r = lOr (cmpOp C "lt" l r) (cmpOp C "eq" l r) ∧
    cmpOp C "ge" l r = lOr (cmpOp C "gt" l r) (cmpOp C "eq" l r) ∧
    (E.bin "ne" (.lit l) (.lit r)).eval (logSem C) (logBinSem C) logPreSem id =
      (E.pre "not" (.bin "eq" (.lit l) (.lit r))).eval (logSem C) (logBinSem C) logPreSem id := by
  obtain ⟨hne, hle, hge⟩ := cmpOp_consistent C l r
  refine ⟨hne, hle, hge, ?_⟩
  simp [E.eval, logBinSem, logBin, logPreSem, isCmp, hne]

/-- **Operands of different dimension cannot be added**: `+`/`−` between quantities whose dimension
    exponents differ raises, and the error reaches the result of every arithmetic context. -/
theorem C18_numeric_dim_refuse (N : NumOps F) (l r : Quant F) (h : l.dims ≠ r.dims) (isSub : Bool) :
    qaddsub N isSub l r = none ∧
    (∀ o (x : QV F), numBinSem N o none x = none ∧ numBinSem N o x none = none) := by
  refine ⟨?_, numBinSem_none N⟩
  have h' : ¬ r.dims = l.dims := fun e => h e.symm
  unfold qaddsub convTo
  simp only [if_neg h', Option.map_none, ite_self]

/-- **Trigonometric functions** take their argument in radians: for an angle (any unit of the angle
    dimension, factor `k` to rad) the result is the function of `val·k`, for a plain number of the
    number itself, and an argument of any other dimension is refused. -/
theorem C18_trig (N : NumOps F) (a : Quant F) :
    (a.dims = Dims.angle →
      numFn N "sin" [some a] = some ⟨N.sin (N.mul a.val a.k), N.one, Dims.zero⟩ ∧
      numFn N "cos" [some a] = some ⟨N.cos (N.mul a.val a.k), N.one, Dims.zero⟩ ∧
      numFn N "tan" [some a] = some ⟨N.tan (N.mul a.val a.k), N.one, Dims.zero⟩) ∧
    (a.dims.nodim = true →
      numFn N "sin" [some a] = some ⟨N.sin a.val, N.one, Dims.zero⟩ ∧
      numFn N "cos" [some a] = some ⟨N.cos a.val, N.one, Dims.zero⟩ ∧
      numFn N "tan" [some a] = some ⟨N.tan a.val, N.one, Dims.zero⟩) ∧
    (a.dims.nodim = false → a.dims ≠ Dims.angle →
      numFn N "sin" [some a] = none ∧ numFn N "cos" [some a] = none ∧ numFn N "tan" [some a] = none) := by
  rw [numFn_sin, numFn_cos, numFn_tan]
  refine ⟨fun h => ?_, fun h => ?_, fun h1 h2 => ?_⟩
  · rw [toRad_angle N a h]; exact ⟨rfl, rfl, rfl⟩
  · rw [toRad_nodim N a h]; exact ⟨rfl, rfl, rfl⟩
  · rw [toRad_other N a h1 h2]; exact ⟨rfl, rfl, rfl⟩

/-- **Unit-aware arithmetic is exact** over any field, prefix signs included: evaluating a tree
    built from atoms, parentheses, `+ − × ÷` and the prefix signs ` - x` / ` + x` (`E.ArithS`) with
    every operand carrying its own unit (`a ⊕ b` converts `b` to `a`'s unit, products multiply
    factors, a dimensionless combination folds its factor into the magnitude, a sign negates the
    magnitude in the operand's own unit) agrees with evaluating the same tree on SI values — same
    refusals, same value — provided unit factors are non-zero.  (Functions and `**` stay outside:
    over an abstract field they are uninterpreted.) -/
theorem C18_numeric_units_signs {K : Type} [Field K] (av : A → QV K)
    (hav : ∀ a, Agrees (av a) ((av a).map (Quant.toSI (fieldOps K))))
    (e : E A) (he : e.ArithS) :
    Agrees (e.eval (numSem (fieldOps K)) (numBinSem (fieldOps K)) (numPreSem (fieldOps K)) av)
      (evalSI (fieldOps K) (fun a => (av a).map (Quant.toSI (fieldOps K))) e) :=
  agrees_eval av _ hav e he

/-- The sign-free case (`E.Arith` ⊆ `E.ArithS`): atoms, parentheses and `+ − × ÷` only. -/
theorem C18_numeric_units {K : Type} [Field K] (av : A → QV K)
    (hav : ∀ a, Agrees (av a) ((av a).map (Quant.toSI (fieldOps K))))
    (e : E A) (he : e.Arith) :
    Agrees (e.eval (numSem (fieldOps K)) (numBinSem (fieldOps K)) (numPreSem (fieldOps K)) av)
      (evalSI (fieldOps K) (fun a => (av a).map (Quant.toSI (fieldOps K))) e) :=
  C18_numeric_units_signs av hav e (E.arithS_of_arith e he)

/-- Full statement: the round trip below also for holes that carry a slice `[a:b,c]` — a non-empty
    list of entries, an index `n` or a range with optional bounds rendered `a:b`, `a:`, `:b`, `:`,
    bounds in decimal (`toString`), entries joined by commas.  Proved as `C18_template` (the model's
    `parseSlice` splits the slice body with the list splitter `List.splitOn`; the scan of every
    generated template is also compared with the generated pieces on every run). -/
def C18_template_statement : Prop :=
  ∀ ps : List Piece, (∀ p ∈ ps, PieceOKS p) →
    scanTemplate ((ps.flatMap renderPieceS).length + 1) (ps.flatMap renderPieceS) = ps

/-- **Templates**: scanning the rendering of any sequence of text characters (other than `{`) and
    holes `{{ref}fmt}` — `ref` any non-empty text without `}`, `fmt` absent or of the form
    `:[0-9.]*[sdfeb]+` — returns exactly that sequence: every hole is found with its reference
    and format, everything else is copied.  (The solver then concatenates the text and
    `format(value, fmt)` / `str(value)` of the holes; `format`/`str` are parameters.) -/
theorem C18_template_partial (ps : List Piece) (hp : ∀ p ∈ ps, PieceOK p) :
    scanTemplate ((renderPieces ps).length + 1) (renderPieces ps) = ps :=
  (renderPieces_eq ps hp).symm ▸ scan_renderB ps (piecesOK_of_all ps fun p h => (hp p h).toS) _
    (Nat.lt_succ_self _)

/-- **The slice parser inverts the slice renderer**: for every non-empty list of entries with
    arbitrary optional bounds, `parseSlice` applied to `[e1,e2,…]` followed by any text returns exactly
    the entries and the text behind the closing bracket (decimal numerals of any size read back to
    the same number, `n` alone read as an index and `n:n` as a range, missing bounds stay missing). -/
theorem C18_template_slice (l : List SliceEntry) (hl : l ≠ []) (more : List Char) :
    parseSlice (renderSlice l ++ more) = some (l, more) :=
  (slice_render l hl more).1

/-- **Templates, full statement** (`C18_template_statement`): scanning the rendering of any sequence
    of text characters (other than `{`) and holes `{{ref}[slice]fmt}` — `ref` any non-empty text
    without `}`, `slice` absent or any non-empty list of entries with optional bounds, `fmt` absent
    or `:[0-9.]*[sdfeb]+` — returns exactly that sequence: every hole is found with its reference,
    its slice entries and its format; the second `part_slice` call of the code finds nothing more. -/
theorem C18_template : C18_template_statement :=
  fun ps hp => scan_renderB ps (piecesOK_of_all ps hp) _ (Nat.lt_succ_self _)

/-- **Templates, the text produced.**  For every way `hole` of obtaining the characters of a hole
    (request of the reference, `slice_value`, `format`/`str` — parameters; `none` = it raises) and
    every sequence of pieces of the template grammar, `TemplateSolver.solve` (scan + assembly, as
    modelled by `solveTemplate`) applied to the rendered text returns the concatenation, in order,
    of the copied characters and of `hole ref slice fmt` for every hole, and raises exactly when
    one of the holes raises. -/
theorem C18_template_output (hole : HoleFn) (ps : List Piece) (hp : ∀ p ∈ ps, PieceOKS p) :
    solveTemplate hole (ps.flatMap renderPieceS) = (ps.mapM (pieceOut hole)).map List.flatten := by
  unfold solveTemplate
  rw [C18_template ps hp, assemble_eq]

/-- the two readings of `C18_template_output`: all holes succeed → the text is the flat
    concatenation; some hole raises → the solve raises -/
theorem C18_template_output_cases (hole : HoleFn) (ps : List Piece) (hp : ∀ p ∈ ps, PieceOKS p) :
    (∀ out : Piece → List Char, (∀ p ∈ ps, pieceOut hole p = some (out p)) →
      solveTemplate hole (ps.flatMap renderPieceS) = some (ps.flatMap out)) ∧
    ((∃ p ∈ ps, pieceOut hole p = none) → solveTemplate hole (ps.flatMap renderPieceS) = none) := by
  rw [C18_template_output hole ps hp]
  exact ⟨fun out h => mapM_pieceOut_ok hole out ps h, fun h => mapM_pieceOut_err hole ps h⟩

/-- **Templates whose text contains braces.**  The round trip and the produced text also when the
    copied text contains `{` (C / JSON / LaTeX templates): it suffices that every copied `{` is not
    followed — after any blanks — by another `{`, nor directly by a malformed slice on which the slice
    parser raises, in the rendered rest (`PiecesOK`; a copied character
    other than `{` is unconstrained, so this contains `C18_template` and `C18_template_output`).
    Not covered: a copied `{` followed by `{` that still fails to form a hole (`{{}`, `{{a}x`), which
    the code copies as well. -/
theorem C18_template_braces (hole : HoleFn) (ps : List Piece) (hp : PiecesOK ps) :
    scanTemplate ((ps.flatMap renderPieceS).length + 1) (ps.flatMap renderPieceS) = ps ∧
    solveTemplate hole (ps.flatMap renderPieceS) = (ps.mapM (pieceOut hole)).map List.flatten := by
  have h := scan_renderB ps hp _ (Nat.lt_succ_self _)
  refine ⟨h, ?_⟩
  unfold solveTemplate
  rw [h, assemble_eq]

/-- **Text without holes is returned unchanged**: a text in which no `{` is followed (after blanks)
    by another `{` or directly by a malformed slice is the result of solving it, whatever the
    environment. -/
theorem C18_template_plain (hole : HoleFn) (s : List Char) (h : PlainOK s) :
    solveTemplate hole s = some s := by
  have := (C18_template_braces hole (s.map Piece.text) (plain_piecesOK s h)).2
  rw [plain_render, plain_out] at this
  exact this

/-- ` - (1 -  + 2) * 3` -/
example : (E.bin "mul" (.pre "sub" (.par (.bin "sub" (.lit (1 : Nat)) (.pre "add" (.lit 2))))) (.lit 3)).ArithS := by
  simp [E.ArithS]
/-- `"{ }{{?a}}"`: a copied `{` (followed by a blank and `}`), then a hole -/
example : PiecesOK [.text '{', .text ' ', .text '}', .hole "?a".toList none none] := by
  refine ⟨Or.inr (by decide), Or.inl (by decide), Or.inl (by decide), ?_, trivial⟩
  exact ⟨by decide, by decide, fun l hl => (by cases hl), fun f hf => (by cases hf)⟩
/-- `"f(x){ return {x}; }"` -/
example : PlainOK ['f', '(', 'x', ')', '{', ' ', 'r', 'e', 't', 'u', 'r', 'n', ' ', '{', 'x', '}', ';', ' ', '}'] := by
  decide
/-- `"x={{?v}[1]:.2f};"` with the hole formatted as `2.00` gives `"x=2.00;"` -/
example : solveTemplate (fun p sl fm => if p = "?v".toList ∧ sl = some [.idx 1] ∧ fm = some ":.2f".toList
      then some "2.00".toList else none) "x={{?v}[1]:.2f};".toList = some "x=2.00;".toList := by
  decide +kernel
/-- `{{?mat}[1,:3,2:,:,0:12,4:4]:.2e}` is a piece of the full template statement -/
example : PieceOKS (.hole "?mat".toList (some [.idx 1, .range none (some 3), .range (some 2) none, .range none none,
    .range (some 0) (some 12), .range (some 4) (some 4)]) (some ":.2e".toList)) :=
  ⟨by decide, by decide, fun l hl => by cases hl; simp, fun f hf => by
    cases hf; exact ⟨⟨".2".toList, "e".toList, rfl, by decide, by decide, by decide⟩⟩⟩
example : renderPieceS (.hole "?mat".toList (some [.idx 1, .range none (some 3), .range (some 2) none, .range none none,
    .range (some 0) (some 12), .range (some 4) (some 4)]) (some ":.2e".toList)) = "{{?mat}[1,:3,2:,:,0:12,4:4]:.2e}".toList := by decide +kernel
-- `hw` of `C18_numeric_partial`: `1 +  - 2 * pow((3 - 4**5),2)`
example : (E.bin "add" (.lit (1 : Nat)) (.bin "mul" (.pre "sub" (.lit 2)) (.fn2 "powb" (.par (.bin "sub" (.lit 3)
    (.bin "pow" (.lit 4) (.lit 5)))) (.lit 2)))).WF numGrammar := E.WF_of_wf _ _ rfl
-- `hw` of `C18_logical_partial`: `0 || ~1 <= 2 && (3)`
example : (E.bin "or" (.lit (0 : Nat)) (.bin "and" (.pre "not" (.bin "le" (.lit 1) (.lit 2))) (.par (.lit 3)))).WF
    logGrammar := E.WF_of_wf _ _ rfl
-- `he` of `C18_numeric_units`: `0 + (1 / 2)`
example : (E.bin "add" (.lit (0 : Nat)) (.par (.bin "truediv" (.lit 1) (.lit 2)))).Arith := by
  simp [E.Arith]
-- `hav` of `C18_numeric_units` at one atom: 2 in a unit of factor 100 (not zero)
example : Agrees (some (⟨2, 100, [1]⟩ : Quant Rat)) ((some (⟨2, 100, [1]⟩ : Quant Rat)).map (Quant.toSI (fieldOps Rat))) :=
  ⟨by decide, rfl⟩
-- `h` of `C18_numeric_dim_refuse`
example : ([1, 0] : Dims) ≠ [0, 1] := by decide
/-- `"2 * pow( 1 m + 2 cm ,(1 + 1))  - sin(30 deg)"` satisfies the side conditions of the nested
    string-level theorem (decided over the regenerated table) -/
example : (T.bin "sub"
      (T.bin "mul" (.lit "2".toList)
        (.par2 "powb" 0 1 (.bin "add" (.lit "1 m".toList) (.lit "2 cm".toList)) 1 0
          (.par "par" 0 0 (.bin "add" (.lit "1".toList) (.lit "1".toList)) 0 0) 0 1))
      (.par "sin" 0 0 (.lit "30 deg".toList) 0 0)).QuietN Generated.numTable [] :=
  T.quietN_of_B Generated.numTable _ [] (by decide +kernel)
-- `hq` of `C18_logical_nested_partial`: `( true ||~({?a} == 2 m))`
example : (T.par "par" 0 1 (.bin "or" (.lit "true ".toList) (.pre "not" (.par "par" 0 0 (.bin "eq" (.lit "{?a} ".toList)
    (.lit " 2 m".toList)) 0 0))) 0 0).QuietN Generated.logTable [] :=
  T.quietN_of_B Generated.logTable _ [] (by decide +kernel)
/-- `"1 m  + 2 cm *  - 3"` satisfies the side conditions of the flat string-level theorem -/
example : (E.bin "add" (.lit "1 m ".toList) (.bin "mul" (.lit "2 cm".toList) (.pre "sub" (.lit " 3".toList)))).QuietIn
    Generated.numTable [] :=
  (T.quietN_ofFlat _ _ []).1
    (T.quietN_of_B Generated.numTable _ [] (by decide +kernel))
-- a piece of `C18_template_partial`: `{{?body.weight}:.3e}`
example : PieceOK (.hole "?body.weight".toList none (some ":.3e".toList)) :=
  ⟨by decide, by decide, rfl, fun f hf => by
    cases hf; exact ⟨⟨".3".toList, "e".toList, rfl, by decide, by decide, by decide⟩⟩⟩

end SciVerif.C18
