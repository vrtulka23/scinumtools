import SciVerif.Lemmas.C14Refine
import SciVerif.Lemmas.C14WellFormed

/-!
# C14 — The last assignment wins, in the units and type of the definition

Theorems about `BaseNode.modify_value`, the lookup-by-path of the main loop and the final
validation of the model in `Model/C13Core.lean` (code as repaired by the `fix:` commits).
`assignedValue P ty dims u0 nd` is the specification of one assignment: the literal of line `nd`
cast to the *definition's* type and shape, converted from the line's unit (or, without unit,
taken as is) into the definition's unit `u0`.
-/
namespace SciVerif.C14
open SciVerif.C13

/-- One modification: the node keeps name, type, width/sign, dimension, unit, flags; its new
    value is `assignedValue` of the definition's static attributes and the modifying line — the
    old value plays no role (so `0`, `-0.0`, `false`, `''` and `none` are stored like any value). -/
theorem C14_last_wins_step (P : Params) (e e' : ENode) (nd : Node) (h : modify P e nd = .ok e') :
    ∃ v, assignedValue P e.ty e.dims e.units nd = .ok v ∧ e' = { e with value := some v } := by
  obtain ⟨v, h1, h2, _⟩ := modify_ok h
  exact ⟨v, h1, h2⟩

/-- in particular the data type with its width and signedness (`info`: precision, unsigned) is a
    static attribute of the node record: no modification, typed or untyped, changes it -/
theorem C14_type_width_sign_kept (P : Params) (e e' : ENode) (nd : Node) (h : C13.modify P e nd = .ok e') :
    e'.ty = e.ty ∧ e'.info.precision = e.info.precision ∧ e'.info.unsigned = e.info.unsigned ∧
    e'.units = e.units ∧ e'.dims = e.dims := by
  obtain ⟨v, _, he⟩ := C14_last_wins_step P e e' nd h
  rw [he]
  exact ⟨rfl, rfl, rfl, rfl, rfl⟩

/-- for a line that carries a value the result of a modification does not depend on the node's current
    value at all (`w` arbitrary, including "no value object yet"). -/
theorem C14_old_value_irrelevant (P : Params) (e : ENode) (w : Option Val) (nd : Node) (r : Raw)
    (hr : nd.raw = some r) :
    (C13.modify P { e with value := w } nd).map (·.value) = (C13.modify P e nd).map (·.value) := by
  unfold C13.modify
  cases r with
  | cells j l => simp only [hr]
  | text s =>
    simp only [hr, bind, Except.bind]

/-- Chains of every length: after the modifications `ms` followed by `m` the node is the
    original one with the value assigned by the *last* line `m`, in the definition's unit. -/
theorem C14_last_wins (P : Params) (e e' : ENode) (ms : List Node) (m : Node)
    (h : modifyAll P e (ms ++ [m]) = .ok e') :
    ∃ v, assignedValue P e.ty e.dims e.units m = .ok v ∧ e' = { e with value := some v } := by
  rw [modifyAll_append] at h
  obtain ⟨e1, h1, h⟩ := Util.bind_eq_ok h
  obtain ⟨hn, ht, hi, hd, hu, hdecl, hc⟩ := modifyAll_static ms e e1 h1
  obtain ⟨v, hv, he'⟩ := C14_last_wins_step P e1 e' m h
  rw [ht, hd, hu] at hv
  refine ⟨v, hv, ?_⟩
  rw [he']
  -- `e1` agrees with `e` in every field but the value (`modifyAll_static`), and the value is overwritten
  cases e; cases e1
  simp_all

def exNode (q : Rat) : ENode := { name := ['a'], ty := .float, info := {}, dims := none, units := none, value := some (.scalar (.num q)), declared := false }
def exMod (t : Str) : Node := { kind := .mod, name := some ['a'], raw := some (.text t) }

example : modifyAll (mkParams []) (exNode 1) [exMod ['5'], exMod ['0']] = .ok (exNode 0) := by rfl

/-- In the program: a line whose path already exists replaces exactly the first entry with that
    path (the only one, by `C13_one_per_node_in_order`) by its modification; every other entry
    and the order stay as they were — anywhere in the hierarchy. -/
theorem C14_last_wins_in_program (P : Params) (s s' : State) (nd : Node) (nm : Str)
    (hk : nd.kind = .mod ∨ ∃ t, nd.kind = .typed t) (hn : nd.name = some nm)
    (hex : ∃ e ∈ s.nodes, e.name = pathOf (push s.stack nd.indent nm))
    (h : stepPlain P s nd = .ok s') :
    ∃ pre e e' post, s.nodes = pre ++ e :: post ∧ s'.nodes = pre ++ e' :: post ∧
      e.name = pathOf (push s.stack nd.indent nm) ∧ (∀ x ∈ pre, x.name ≠ e.name) ∧
      ∃ v, assignedValue P e.ty e.dims e.units nd = .ok v ∧ e' = { e with value := some v } := by
  obtain ⟨_, ⟨pre, e, e', post, h1, h2, h3, _, h5, h6⟩ | ⟨t, v, _, hno, _, _⟩⟩ :=
    stepPlain_value_ok P s s' nd nm hk hn h
  · obtain ⟨v, hv, he'⟩ := C14_last_wins_step P e e' nd h6
    exact ⟨pre, e, e', post, h1, h2, h3, fun x hx => by rw [h3]; exact h5 x hx, v, hv, he'⟩
  · obtain ⟨e, he, hne⟩ := hex
    exact absurd hne (hno e he)

/-- An assignment without unit, or (numeric types) written in the definition's own unit, is stored
    unchanged: it is taken to be in the definition's unit. -/
theorem C14_unitless_is_definition_unit (P : Params) (ty : Ty) (u0 : Option Str) (v : Val) :
    convertVal P ty u0 none v = .ok v ∧
    ((ty = .int ∨ ty = .float) → convertVal P ty u0 u0 v = .ok v) := by
  constructor
  · cases ty <;> cases u0 <;> simp [convertVal, convertG]
  · intro h
    rcases h with rfl | rfl <;> cases u0 <;> simp [convertVal, convertG]

/-- A numeric value written in another unit `uk ≠ u0` is stored as `conv uk u0` of it. -/
theorem C14_converted_into_definition_unit (P : Params) (u0 uk : Str) (q : Rat) (hne : uk ≠ u0) :
    convertVal P .float (some u0) (some uk) (.scalar (.num q)) =
      (P.conv uk u0 q).map (fun q' => .scalar (.num q')) ∧
    convertVal P .int (some u0) (some uk) (.scalar (.num q)) =
      (P.conv uk u0 q).map (fun q' => .scalar (.num q')) := by
  constructor <;>
  · simp only [convertVal, convertG, hne, if_false, bind, Except.bind]
    cases P.conv uk u0 q <;> rfl

/-- a numeric value with a unit cannot be assigned to a parameter defined without unit, and a
    bool / str parameter accepts no unit at all (both are "a unit of another dimension") -/
theorem C14_reject_unit_on_unitless (P : Params) (ty : Ty) (uk : Str) (v : Val) :
    convertVal P ty none (some uk) v = .error .fail := by
  cases ty <;> simp [convertVal, convertG]

/-- a failing iteration makes the whole parse fail: no environment is returned -/
theorem C14_error_is_final (P : Params) (a b : List Node) (nd : Node) (s1 : State) (x : Err)
    (ha : runNodes P {} a = .ok s1) (hs : step P s1 nd = .error x) :
    parseNodes P (a ++ nd :: b) = .error x := by
  simp only [parseNodes, runNodes_append, ha, Except.bind, runNodes, bind, hs]

/-- A chain of parses on one environment (`DIP(env)`): the second parse continues from the state the
    first one left (parent stack, parameters, constant flags), so a chain whose first stage passes
    its validation gives exactly what one parse of the concatenated lines gives. -/
theorem C14_chain_of_parses (P : Params) (a b : List Node) (s1 : State) (h1 : runNodes P {} a = .ok s1) :
    (runNodes P s1 b).bind (fun s => validate s.nodes) = parseNodes P (a ++ b) := by
  simp only [parseNodes, runNodes_append, h1, Except.bind, bind]

/-- a typed modification with another data type is rejected -/
theorem C14_reject_type (P : Params) (e : ENode) (nd : Node) (t : Ty) (hk : nd.kind = .typed t)
    (hne : t ≠ e.ty) : modify P e nd = .error .fail := by
  have : tyMismatch nd e.ty = true := by simp [tyMismatch, hk, kindTy, hne]
  simp [C13.modify, this]

/-- the linear unit table refuses a conversion between units of different dimension -/
theorem C14_reject_dimension (tbl : List UnitRow) (a b : UnitRow) (frm to : Str) (q : Rat)
    (ha : tbl.find? (fun r => r.name = frm) = some a) (hb : tbl.find? (fun r => r.name = to) = some b)
    (hd : a.dim ≠ b.dim) : convWith tbl frm to q = .error .fail := by
  simp [convWith, ha, hb, hd]

/-- a conversion the unit table refuses makes the modification fail with that error -/
theorem C14_reject_dimension_modify (P : Params) (e : ENode) (nd : Node) (s uk u0 : Str) (q : Rat) (x : Err)
    (hty : e.ty = .float ∨ e.ty = .int) (hm : tyMismatch nd e.ty = false)
    (hr : nd.raw = some (.text s)) (hc : P.castText e.ty e.dims s = .ok (.scalar (.num q)))
    (hu0 : e.units = some u0) (huk : nd.units = some uk) (hne : uk ≠ u0)
    (hconv : P.conv uk u0 q = .error x) : modify P e nd = .error x := by
  rcases hty with hty | hty <;>
  · rw [hty] at hm hc
    simp [C13.modify, hm, hr, hc, hu0, huk, hty, convertVal, convertG, hne, hconv, bind, Except.bind]

/-- an assignment to a path whose (only) entry is marked constant is rejected -/
theorem C14_reject_constant (P : Params) (s : State) (nd : Node) (nm : Str) (e : ENode)
    (hk : nd.kind = .mod ∨ ∃ t, nd.kind = .typed t) (hn : nd.name = some nm)
    (he : e ∈ s.nodes) (hp : e.name = pathOf (push s.stack nd.indent nm)) (hc : e.constant = true)
    (huniq : ∀ e2 ∈ s.nodes, e2.name = e.name → e2 = e) :
    ∃ x, stepPlain P s nd = .error x := by
  have hu := updateFirst_constant (P := P) (nd := nd) s.nodes e he hp hc (fun e2 h2 h3 => huniq e2 h2 (by rw [h3, hp]))
  rcases hk with hk | ⟨t, hk⟩
  · rw [stepPlain_eq, entriesStep_mod hk hn, stackStep_value s.stack nd nm (.inl hk) hn, hu]
    exact ⟨.fail, rfl⟩
  · rw [stepPlain_eq, entriesStep_typed hk hn, stackStep_value s.stack nd nm (.inr ⟨t, hk⟩) hn, hu]
    cases preCheck P nd with
    | error x => exact ⟨x, rfl⟩
    | ok u =>
      cases initValue P t nd.dims nd.raw with
      | error x => exact ⟨x, rfl⟩
      | ok v => exact ⟨.fail, rfl⟩

/-- `!constant` marks the most recently created parameter -/
theorem C14_constant_marks_last (ns : List ENode) (e : ENode) :
    setLastConstant (ns ++ [e]) = .ok (ns ++ [{ e with constant := true }]) :=
  setLastConstant_concat ns e

/-- an untyped assignment to a path that was never defined is rejected -/
theorem C14_reject_undefined (P : Params) (s : State) (nd : Node) (nm : Str)
    (hk : nd.kind = .mod) (hn : nd.name = some nm)
    (hno : ∀ e ∈ s.nodes, e.name ≠ pathOf (push s.stack nd.indent nm)) :
    ∃ x, stepPlain P s nd = .error x := by
  rw [stepPlain_eq, entriesStep_mod hk hn, stackStep_value s.stack nd nm (.inl hk) hn, (updateFirst_none s.nodes).mpr hno]
  exact ⟨.fail, rfl⟩

/-- a declaration creates an entry without value, and a program that ends with such an entry
    (declared, never assigned) is rejected -/
theorem C14_reject_unassigned (P : Params) (t : Ty) (dims : Option (List Dim)) (nds : List Node) (s : State)
    (e : ENode) (hr : runNodes P {} nds = .ok s) (he : e ∈ s.nodes) (hv : e.value = none) :
    initValue P t dims none = .ok none ∧ parseNodes P nds = .error .fail := by
  refine ⟨rfl, ?_⟩
  simp only [parseNodes, hr, bind, Except.bind, validate]
  have : s.nodes.any (fun e => e.value.isNone) = true :=
    List.any_eq_true.mpr ⟨e, he, by simp [hv]⟩
  simp [this]

/-- **The model's parse is the specification.**  For every sequence of lexed nodes (tables already
    expanded; value-bearing lines named, modifications with a value — what the lexer produces),
    `DIP.parse` of the model and the declarative specification on the corresponding abstract lines

      * parent = nearest earlier name-bearing line with smaller indentation, path = ancestors' names + own name;
      * one parameter per distinct path in order of first appearance;
      * type, width/sign, dimension, unit of the first occurrence; value of the last occurrence cast to
        that type and shape and converted from its own unit (or none) into the definition's unit;
      * failure for another type, a unit of another dimension or an unknown unit, a unit for a
        unit-less or non-numeric parameter, an assignment after `!constant`, an assignment to an undefined
        path, a declared path never assigned, a value that does not fit the type or shape

    either both succeed with the same list of parameters (paths, order, types, units, values,
    constant flags), or both fail.  Chains of any length, anywhere in a hierarchy. -/
theorem C14_parse_refines_spec (P : Params) (nds : List Node) (hwf : ∀ nd ∈ nds, NodeWF nd) :
    ResEq ((parseNodes P nds).map (List.map toS))
      (specRunG (castInterp P) P.conv P.unitKnown (nds.map toALine)) := by
  have hsim := foldSteps_sim P nds {} [] hwf ⟨rfl, by simp [names]⟩
  rw [parseNodes_toS P nds (fun nd h => (hwf nd h).1)]
  exact (hsim.bind checkS checkS (fun _ => ResEq.refl _)).trans
    (foldO_checkS_eq_specOcc (castInterp P) P.conv P.unitKnown _)

/-- **With tables.**  A table line is replaced by the column nodes `TableNode.parse` returns before
    anything else happens (`expandAll`).  If every table expands, the model's parse of the program and
    the specification on the abstract lines of the EXPANDED program both succeed with the same
    parameters or both fail; if a table does not expand (bad header, wrong number of cells, no rows),
    the parse fails. -/
theorem C14_parse_refines_spec_tables (P : Params) (nds : List Node)
    (hwf : ∀ nd ∈ nds, nd.kind ≠ .table → NodeWF nd)
    (hcols : ∀ nd ∈ nds, nd.kind = .table → ∀ cols, P.expandTable nd = .ok cols → ∀ c ∈ cols, NodeWF c) :
    (∀ nds', expandAll P nds = .ok nds' →
      ResEq ((parseNodes P nds).map (List.map toS))
        (specRunG (castInterp P) P.conv P.unitKnown (nds'.map toALine))) ∧
    (∀ e, expandAll P nds = .error e → ∃ e', parseNodes P nds = .error e') := by
  constructor
  · intro nds' hex
    have hwf' := expandAll_wf P nds nds' hwf hcols hex
    have hplain : ∀ nd ∈ nds', nd.kind ≠ .table := fun nd h => (hwf' nd h).1
    have : parseNodes P nds = parseNodes P nds' := by
      simp only [parseNodes, runNodes_expandAll P nds nds' {} hex, runNodes_plain P nds' {} hplain]
    rw [this]
    exact C14_parse_refines_spec P nds' hwf'
  · intro e hex
    obtain ⟨e', he'⟩ := runNodes_expandAll_error P nds {} e hex
    exact ⟨e', by simp [parseNodes, he', bind, Except.bind]⟩

/-- for the driver's parameters the column hypothesis holds: whatever `TableNode.parse` returns are
    well-formed typed nodes, so programs with tables need no extra assumption -/
theorem C14_parse_refines_spec_tables_driver (tbl : List UnitRow) (nds nds' : List Node)
    (hwf : ∀ nd ∈ nds, nd.kind ≠ .table → NodeWF nd) (hex : expandAll (mkParams tbl) nds = .ok nds') :
    ResEq ((parseNodes (mkParams tbl) nds).map (List.map toS))
      (specRunG (castInterp (mkParams tbl)) (mkParams tbl).conv (mkParams tbl).unitKnown (nds'.map toALine)) :=
  (C14_parse_refines_spec_tables (mkParams tbl) nds hwf
    (fun nd _ _ cols hc => expandTable_cols_wf tbl nd cols hc)).1 nds' hex

example : NodeWF { kind := .mod, name := some ['a'], raw := some (.text ['0']) } :=
  ⟨by decide, fun _ => ⟨rfl, rfl⟩, fun t h => by cases h⟩

/-- The same from text: whatever the lexer makes of the queued lines is well-formed, so for every
    program without table lines `parse` on the lines and the specification on their abstract
    lines agree (both succeed with the same parameters, or both fail). -/
theorem C14_text_refines_spec (P : Params) (lines : List Str) (nds : List Node)
    (hlex : lines.mapM determine = .ok nds) (hnt : ∀ nd ∈ nds, nd.kind ≠ .table) :
    ResEq ((parseLines P lines).map (List.map toS))
      (specRunG (castInterp P) P.conv P.unitKnown (nds.map toALine)) := by
  have hwf : ∀ nd ∈ nds, NodeWF nd := by
    intro nd hnd
    obtain ⟨l, _, hl⟩ := Util.mem_of_mapM_eq_ok hlex hnd
    exact ⟨hnt nd hnd, determine_wf l nd hl⟩
  have : parseLines P lines = parseNodes P nds := by simp [parseLines, hlex, bind, Except.bind]
  rw [this]
  exact C14_parse_refines_spec P nds hwf

end SciVerif.C14
