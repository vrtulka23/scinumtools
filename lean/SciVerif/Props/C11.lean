import SciVerif.Lemmas.C11
import Mathlib.Algebra.Order.Ring.Rat

/-!
# C11 — Number and mass fractions are normalised and mutually consistent

Everything is stated for an arbitrary
linearly ordered field `α`, an arbitrary *non-empty list* of components with positive proportions
and positive masses, and each of the three normalisation modes of `Composite._norm`.
`xs`/`Xs` are the `x`/`X` columns reported by `Composite._data`, `sumRow` its `sum` row.
-/
-- the `variable` line gives every statement the ordered field; those that need only the field would be flagged
set_option linter.unusedSectionVars false
namespace SciVerif.C11
variable {α : Type} [Field α] [LinearOrder α] [IsStrictOrderedRing α]

/-- The reported number fractions sum to 100 %. -/
theorem C11_sum_x (mode : Mode) (cs : List (Comp α)) (hne : cs ≠ []) (h : Pos cs) :
    (sumRow mode cs).1 = 100 := sum_xs mode cs hne h

/-- The reported mass fractions sum to 100 %. -/
theorem C11_sum_X (mode : Mode) (cs : List (Comp α)) (hne : cs ≠ []) (h : Pos cs) :
    (sumRow mode cs).2 = 100 := sum_Xs mode cs hne h

/-- `x_i = 100 · n_i / Σ n_j`: the reported number fraction is the specification's, where the
    amount `n_i` is the proportion (number modes) or proportion / mass (mass-fraction mode). -/
theorem C11_x_spec (mode : Mode) (cs : List (Comp α)) (c : Comp α) :
    x mode cs c = specx mode cs c := by
  rw [x_eq, specx, ← propNorm_eq]; ring

/-- `X_i = 100 · n_i m_i / Σ n_j m_j`. -/
theorem C11_X_spec (mode : Mode) (cs : List (Comp α)) (h : Pos cs) (c : Comp α) (hc : 0 < c.m) :
    X mode cs c = specX mode cs c := by
  rw [X_eq mode cs c hc.ne', specX, ← compositeMass_eq mode cs h.mass_ne]; ring

/-- `x_i` is proportional to the amount `n_i` (one common factor for all components). -/
theorem C11_x_proportional (mode : Mode) (cs : List (Comp α)) (c d : Comp α) :
    x mode cs c * amount mode d = x mode cs d * amount mode c := by
  rw [x_eq, x_eq]; ring

/-- `X_i` is proportional to `n_i · m_i`. -/
theorem C11_X_proportional (mode : Mode) (cs : List (Comp α)) (c d : Comp α)
    (hc : 0 < c.m) (hd : 0 < d.m) :
    X mode cs c * (amount mode d * d.m) = X mode cs d * (amount mode c * c.m) := by
  rw [X_eq mode cs c hc.ne', X_eq mode cs d hd.ne']; ring

/-- Multiplying all given proportions by a common factor `k > 0` changes neither column. -/
theorem C11_scale_invariant (mode : Mode) (k : α) (hk : 0 < k) (cs : List (Comp α))
    (hne : cs ≠ []) (h : Pos cs) :
    xs mode (scale k cs) = xs mode cs ∧ Xs mode (scale k cs) = Xs mode cs :=
  fractions_proportional (proportional_scale mode k cs) hk.ne' h.mass_ne

/-- Duality: the material given by proportions `cs` in mode `mode`, and the same components
    *specified by the mass fractions reported for it* (mode `MASS_FRACTION`), report the same
    `x` and `X` columns. -/
theorem C11_duality (mode : Mode) (cs : List (Comp α)) (hne : cs ≠ []) (h : Pos cs) :
    xs .massFraction (byMassFractions mode cs) = xs mode cs ∧
    Xs .massFraction (byMassFractions mode cs) = Xs mode cs :=
  fractions_proportional (proportional_byMass mode cs h.mass_ne)
    (div_ne_zero (by norm_num) (compositeMass_pos mode cs hne h).ne') h.mass_ne

/-- The same for number fractions: specifying the components by the reported *number* fractions
    (mode `NUMBER_FRACTION`) also reproduces both columns. -/
theorem C11_duality_number (mode : Mode) (cs : List (Comp α)) (hne : cs ≠ []) (h : Pos cs) :
    xs .numberFraction (byNumberFractions mode cs) = xs mode cs ∧
    Xs .numberFraction (byNumberFractions mode cs) = Xs mode cs :=
  fractions_proportional (proportional_byNumber mode cs)
    (div_ne_zero (by norm_num) (propNorm_pos mode cs hne h).ne') h.mass_ne

/-- The `avg` row (not part of the property's text, modelled for the correspondence): without
    weights it is the plain mean, i.e. `100 / k` for `k` listed components of the full table. -/
theorem C11_avg_plain (mode : Mode) (cs : List (Comp α)) (hne : cs ≠ []) (h : Pos cs) :
    avgRow false mode cs (List.replicate cs.length true) = (100 / (cs.length : α), 100 / (cs.length : α)) := by
  have e1 : select (List.replicate cs.length true) (xs mode cs) = xs mode cs := select_all_map cs _
  have e2 : select (List.replicate cs.length true) (Xs mode cs) = Xs mode cs := select_all_map cs _
  simp only [avgRow, Bool.false_and, e1, e2, avgPlain, sum_xs mode cs hne h, sum_Xs mode cs hne h]
  simp [xs, Xs]

/-- The `avg` row for a NUMBER composite with `weight=True` (a `Substance`) is the column sum divided
    by the total amount: `100 / Σ p_i`. -/
theorem C11_avg_weighted (cs : List (Comp α)) (hne : cs ≠ []) (h : Pos cs) :
    avgRow true .number cs (List.replicate cs.length true) =
      (100 / (cs.map (·.p)).sum, 100 / (cs.map (·.p)).sum) := by
  have e1 : select (List.replicate cs.length true) (xs .number cs) = xs .number cs :=
    select_all_map cs _
  have e2 : select (List.replicate cs.length true) (Xs .number cs) = Xs .number cs :=
    select_all_map cs _
  have e3 : select (List.replicate cs.length true) (weightsOf .number cs) = cs.map (·.p) :=
    select_all_map cs _
  have hw : ∀ w ∈ cs.map (·.p), w ≠ 0 := List.forall_mem_map.mpr fun c hc => (h c hc).1.ne'
  simp only [avgRow, Bool.true_and, beq_self_eq_true, if_true, e1, e2, e3]
  rw [avgWeighted_eq _ _ (by simp [xs]) hw, avgWeighted_eq _ _ (by simp [Xs]) hw,
    sum_xs .number cs hne h, sum_Xs .number cs hne h]

/-! Non-vacuity: the hypotheses are satisfied by a concrete two-component mixture over `ℚ`
    (water 0.2, salt 0.3 with rounded masses), for which the columns are not trivial. -/
def exMix : List (Comp Rat) := [⟨1/5, 18⟩, ⟨3/10, 58⟩]

example : exMix ≠ [] ∧ Pos exMix := by
  refine ⟨by simp [exMix], ?_⟩
  intro c hc
  simp only [exMix, List.mem_cons, List.not_mem_nil, or_false] at hc
  rcases hc with rfl | rfl <;> constructor <;> norm_num

example : xs .numberFraction exMix = [40, 60] := by decide +kernel
example : Xs .numberFraction exMix = [1800/105, 8700/105] := by decide +kernel
example : xs .massFraction exMix = [5800/85, 2700/85] := by decide +kernel

end SciVerif.C11
