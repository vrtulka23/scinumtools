import SciVerif.Lemmas.C06
import SciVerif.Lemmas.C06Exponents

/-!
# C06 — Quantity arithmetic agrees with arithmetic on base-dimension values

Theorems about the model of `quantity.py` / `base_units.py` / `fraction.py` / `unit_types.py`
(`Model/C06.lean`) instantiated at the real numbers, for an arbitrary unit table `env` with
positive factors (`EnvPos`) and arbitrary unit maps whose exponents have non-zero denominators
(`BU.WF`). `Qty.base env q = value · Π factor(u)^exp(u)` is the value in base dimensions.
-/
namespace SciVerif.C06
open SciVerif.C08

-- the statements carry `[DecidableEq ι]` whether or not their proofs use it
set_option linter.unusedSectionVars false

variable {ι : Type} [DecidableEq ι]

/-- product: base values multiply (whatever units / prefixes the operands use, cancelling or
    not, folded or not). -/
theorem C06_mul (env : ι → UnitInfo ℝ) (hpos : EnvPos env) (l r : Qty ι ℝ)
    (hl : l.units.WF) (hr : r.units.WF) :
    (l.mul env r).base env = l.base env * r.base env := by
  rw [Qty.mul, Qty.new_base, magnitude_addU env hpos _ _ hl hr]
  simp only [Qty.base, Mag.mul, Mag.new_real]
  ring

/-- quotient: base values divide. -/
theorem C06_div (env : ι → UnitInfo ℝ) (hpos : EnvPos env) (l r : Qty ι ℝ)
    (hl : l.units.WF) (hr : r.units.WF) :
    (l.div env r).base env = l.base env / r.base env := by
  rw [Qty.div, Qty.new_base, magnitude_subU env hpos _ _ hl hr]
  simp only [Qty.base, Mag.div, Mag.new_real]
  rw [div_mul_div_comm]

/-- `-q`: the base value changes sign (the constructor's folding step is part of `Qty.neg`). -/
theorem C06_neg (env : ι → UnitInfo ℝ) (q : Qty ι ℝ) :
    (q.neg env).base env = -(q.base env) := by
  rw [Qty.neg, Qty.new_base]
  simp [Qty.base, Mag.neg]

/-- a plain number on either side goes through `Quantity(number)`, whose base value is the number. -/
theorem C06_reflected (env : ι → UnitInfo ℝ) (hpos : EnvPos env) (x : ℝ) (q : Qty ι ℝ) (hq : q.units.WF) :
    (Qty.ofNumber x : Qty ι ℝ).base env = x ∧
    ((Qty.ofNumber x).mul env q).base env = x * q.base env ∧
    ((Qty.ofNumber x).div env q).base env = x / q.base env ∧
    (q.mul env (Qty.ofNumber x)).base env = q.base env * x ∧
    (q.div env (Qty.ofNumber x)).base env = q.base env / x := by
  have h0 : (Qty.ofNumber x : Qty ι ℝ).base env = x := mul_one x
  have hw : (Qty.ofNumber x : Qty ι ℝ).units.WF := by intro p hp; simp [Qty.ofNumber] at hp
  refine ⟨h0, ?_, ?_, ?_, ?_⟩
  · rw [C06_mul env hpos _ _ hw hq, h0]
  · rw [C06_div env hpos _ _ hw hq, h0]
  · rw [C06_mul env hpos _ _ hq hw, h0]
  · rw [C06_div env hpos _ _ hq hw, h0]

/-- sum and difference of quantities of the same dimension (as the code compares dimensions):
    accepted, base values add / subtract, and the result carries the left operand's units
    (if the left operand is dimensionless its units are re-folded as in any constructor call). -/
theorem C06_add_sub (env : ι → UnitInfo ℝ) (hpos : EnvPos env) (l r : Qty ι ℝ)
    (hd : (l.units.dims env).beq (r.units.dims env) = true) :
    (∃ q, l.add env r = .ok q ∧ q.base env = l.base env + r.base env ∧
      q.units = (Qty.new env l.mag l.units).units ∧
      ((l.units.dims env).nodim = false → q.units = l.units)) ∧
    (∃ q, l.sub env r = .ok q ∧ q.base env = l.base env - r.base env ∧
      q.units = (Qty.new env l.mag l.units).units ∧
      ((l.units.dims env).nodim = false → q.units = l.units)) := by
  have hnd : (l.units.dims env).nodim = false → (Qty.new env l.mag l.units).units = l.units :=
    fun h => by rw [Qty.new_of_dim env _ _ h]
  obtain ⟨q, hq, hb, hu⟩ := addsub_spec env hpos Mag.add Mag.add_scaleBy l r hd
  obtain ⟨q', hq', hb', hu'⟩ := addsub_spec env hpos Mag.sub Mag.sub_scaleBy l r hd
  exact ⟨⟨q, hq, congrArg Mag.value hb, hu, fun h => hu.trans (hnd h)⟩,
    ⟨q', hq', congrArg Mag.value hb', hu', fun h => hu'.trans (hnd h)⟩⟩

/-- adding or subtracting quantities of different dimension is refused. -/
theorem C06_add_refuse (env : ι → UnitInfo ℝ) (l r : Qty ι ℝ)
    (hd : (l.units.dims env).beq (r.units.dims env) = false) :
    (∃ msg, l.add env r = .error msg) ∧ (∃ msg, l.sub env r = .error msg) :=
  ⟨addsub_error env Mag.add l r hd, addsub_error env Mag.sub l r hd⟩

/-- power with a rational exponent `n/d` — given as pair or as float (the rational the float
    denotes) — of a quantity with a non-negative value: the base value is raised to `n/d`. -/
theorem C06_pow (env : ι → UnitInfo ℝ) (hpos : EnvPos env) (q : Qty ι ℝ) (p : Frac)
    (hp : p.den ≠ 0) (hv : 0 ≤ q.mag.value) :
    ∃ r, q.pow env p = .ok r ∧ r.base env = (q.base env) ^ ((p.toRat : ℚ) : ℝ) := by
  obtain ⟨r, hr, hb⟩ := pow_spec env hpos q p hp
  refine ⟨r, hr, ?_⟩
  rw [hb, Qty.base, Real.mul_rpow hv (magnitude_pos env hpos _).le]

/-- power with an integer exponent, any sign of the value: `base (q^k) = (base q)^k`. -/
theorem C06_pow_int (env : ι → UnitInfo ℝ) (hpos : EnvPos env) (q : Qty ι ℝ) (k : ℤ) :
    ∃ r, q.pow env ⟨k, 1⟩ = .ok r ∧ r.base env = (q.base env) ^ k :=
  pow_spec_int env hpos q _ k one_ne_zero (mul_one k).symm

/-- an integer-valued exponent in *any* spelling — pair `(2,1)`, unreduced pair or Fraction
    `(4,2)`, float `2.0` (its Fraction is `⟨2,1⟩`) — and any sign of the value: the result is the
    one of the int spelling, `base (q^p) = (base q)^k` with `k = p.num / p.den`. -/
theorem C06_pow_integral (env : ι → UnitInfo ℝ) (hpos : EnvPos env) (q : Qty ι ℝ) (p : Frac) (k : ℤ)
    (hp : p.den ≠ 0) (hk : p.num = k * p.den) :
    ∃ r, q.pow env p = .ok r ∧ r.base env = (q.base env) ^ k ∧
      (∃ r', q.pow env ⟨k, 1⟩ = .ok r' ∧ r'.base env = r.base env) := by
  obtain ⟨r, hr, hb⟩ := pow_spec_int env hpos q p k hp hk
  obtain ⟨r', hr', hb'⟩ := C06_pow_int env hpos q k
  exact ⟨r, hr, hb, r', hr', hb'.trans hb.symm⟩

/-- a pair with denominator 0 is refused (`power[0]/power[1]` raises). -/
theorem C06_pow_refuse (env : ι → UnitInfo ℝ) (q : Qty ι ℝ) (n : ℤ) :
    ∃ msg, q.pow env ⟨n, 0⟩ = .error msg := ⟨_, by simp [Qty.pow]; rfl⟩

/-- cancellation: when the dimensions of a result vanish, every unit that has a dimension is
    dropped, only dimensionless units stay, and the dropped factors are folded into the number
    (the base value is unchanged). `F env (u, e)` is `factor(u)^e`, what the entry contributes to the factor. -/
theorem C06_cancel (env : ι → UnitInfo ℝ) (m : Mag ℝ) (b : BU ι) (h : (b.dims env).nodim = true) :
    (Qty.new env m b).base env = m.value * b.magnitude env ∧
    (∀ p ∈ (Qty.new env m b).units, p ∈ b ∧ (unitDims env p.1 p.2).nodim = true) ∧
    (Qty.new env m b).mag.value = m.value * ((b.filter (fun p => !(unitDims env p.1 p.2).nodim)).map (F env)).prod := by
  refine ⟨Qty.new_base env m b, ?_, by rw [Qty.new_of_nodim env m b h]; rfl⟩
  intro p hp
  rw [Qty.new_of_nodim env m b h] at hp
  exact List.mem_filter.mp (List.mem_of_mem_filter hp)

/-- when the dimensions of a result do not vanish the constructor touches nothing. -/
theorem C06_no_cancel (env : ι → UnitInfo ℝ) (m : Mag ℝ) (b : BU ι) (h : (b.dims env).nodim = false) :
    Qty.new env m b = ⟨m, b⟩ :=
  Qty.new_of_dim env m b h

/-- a product adds, a quotient subtracts the exponents of every unit (units map before the
    constructor's folding step, which `C06_cancel` describes). -/
theorem C06_exps_mul_div (a b : BU ι) (ha : a.WF) (hb : b.WF) (hna : a.KeysNodup) (hnb : b.KeysNodup) (u : ι) :
    (a.addU b).expOf u = a.expOf u + b.expOf u ∧ (a.subU b).expOf u = a.expOf u - b.expOf u ∧
    (a.addU b).KeysNodup ∧ (a.subU b).KeysNodup := by
  refine ⟨expOf_addU a b ha hb hna hnb u, ?_, addU_nodup a b hna, ?_⟩
  · rw [subU_eq_addU, expOf_addU a _ ha (negU_WF b hb) hna (map_nodup Frac.neg b hnb) u, BU.negU,
      expOf_map Frac.neg (fun q => -q) neg_zero toRat_neg, sub_eq_add_neg]
  · rw [subU_eq_addU]
    exact addU_nodup a _ hna

/-- a power multiplies every exponent by the exponent `p` — whether `p` came as an int `⟨k,1⟩`,
    a pair `⟨n,d⟩` or a float (the Fraction `from_float` returns). -/
theorem C06_exps_pow (a : BU ι) (p : Frac) (hna : a.KeysNodup) (u : ι) :
    (a.scale p).expOf u = a.expOf u * p.toRat := by
  rw [BU.scale, BU.expOf_new _ (map_nodup (fun x => x.mul p) a hna),
    expOf_map (fun x => x.mul p) (fun q => q * p.toRat) (by simp) (fun x => toRat_mul x p) a u]

/-- a unit with a non-zero exponent is present (an absent unit has exponent 0). -/
theorem C06_exps_zero_absent (b : BU ι) (u : ι) (h : (BU.new b).expOf u ≠ 0) :
    u ∈ (BU.new b).map Prod.fst := by
  by_contra hu
  exact h (expOf_notin _ u hu)

/-! ### non-vacuity: a concrete table (m, km, s) and concrete quantities -/

noncomputable def exEnv : String → UnitInfo ℝ := fun u =>
  if u = "k:m" then ⟨"km", "m", 1000, [⟨1,1⟩,⟨0,1⟩,⟨0,1⟩,⟨0,1⟩,⟨0,1⟩,⟨0,1⟩,⟨0,1⟩,⟨0,1⟩]⟩
  else if u = "m" then ⟨"m", "m", 1, [⟨1,1⟩,⟨0,1⟩,⟨0,1⟩,⟨0,1⟩,⟨0,1⟩,⟨0,1⟩,⟨0,1⟩,⟨0,1⟩]⟩
  else ⟨"s", "s", 1, [⟨0,1⟩,⟨0,1⟩,⟨1,1⟩,⟨0,1⟩,⟨0,1⟩,⟨0,1⟩,⟨0,1⟩,⟨0,1⟩]⟩

-- `EnvPos`, the hypothesis on the table of every theorem above that has one
example : EnvPos exEnv := by
  intro u; unfold exEnv; split_ifs <;> norm_num

-- `BU.WF` (C06_mul, C06_div, C06_exps_mul_div) for km·s⁻²
example : BU.WF ([("k:m", ⟨1, 1⟩), ("s", ⟨-2, 1⟩)] : BU String) := by
  intro p hp; simp at hp; rcases hp with rfl | rfl <;> decide

-- the hypotheses of C06_pow_integral for the unreduced spelling 4/2 of the exponent 2
example : (⟨4, 2⟩ : Frac).den ≠ 0 ∧ (⟨4, 2⟩ : Frac).num = (2 : ℤ) * (⟨4, 2⟩ : Frac).den := by decide

-- `KeysNodup` (C06_exps_mul_div, C06_exps_pow)
example : BU.KeysNodup ([("k:m", ⟨1, 1⟩), ("s", ⟨-2, 1⟩)] : BU String) := by
  simp [BU.KeysNodup]

-- C06_add_sub: km and m have the same dimension; C06_add_refuse: m and s have not; C06_cancel: km/m has none
example : (BU.dims exEnv [("k:m", ⟨1, 1⟩)]).beq (BU.dims exEnv [("m", ⟨1, 1⟩)]) = true := by
  decide
example : (BU.dims exEnv [("m", ⟨1, 1⟩)]).beq (BU.dims exEnv [("s", ⟨1, 1⟩)]) = false := by
  decide
example : (BU.dims exEnv [("k:m", ⟨1, 1⟩), ("m", ⟨-1, 1⟩)]).nodim = true := by
  decide

end SciVerif.C06
