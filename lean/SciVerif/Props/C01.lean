import SciVerif.Lemmas.C01RejectNested
import SciVerif.Lemmas.C01Balanced
import SciVerif.Lemmas.C01MissingOperand

/-!
# C01 — Expression solver evaluates by the documented step table

The operator table, the step table, the behaviour of every `operate_*` method (templates obtained by
abstract probing) and the 2x25 behaviour table of the sign operators are *regenerated from the live classes* into
`Generated/C01Tables.lean`; the model interprets those tables, so every theorem below is
re-checked against the current code on every run.
-/
namespace SciVerif.C01
open SciVerif.C01.Gen

variable {A : Type}

/-- The step table regenerated from the live `ExpressionSolver` equals the table
    "Operation steps" of `docs/source/solver/index.rst` (parsed by the translator). -/
theorem C01_step_order_documented : dfltSteps = docSteps := by decide

/-- **Token level.** For every well-formed expression `e` of the stratified grammar — every
    nesting depth and length — running the nine passes of the (regenerated) step table over the
    token list of `e` leaves exactly one token: the atom `eval e`, i.e. the value obtained by
    "functions and parentheses first, then unary signs, power, multiplicative, additive,
    comparison, negation, conjunction, disjunction, the operators of one step left to right".
    Universally over the atom algebra, under the one law the sign folding uses. -/
theorem C01_tokens_eq_eval (alg : AtomAlg A) (lit : List Char → A) (hn : NegNeg alg)
    (e : E) (hwf : e.WF) :
    solveToks dflt alg dfltSteps (toks dflt alg lit e) = .ok (.atom (eval alg lit e)) :=
  tokens_eq_eval alg lit hn e hwf

/-- (token level) **A binary operator without its RIGHT operand is rejected** (the left operand is
    `C01_reject_missing_left_operand`, the string form `C01_reject_missing_right_operand_text`). For every
    well-formed `e` and every binary-only operator `o` (`** * / == != <= >= < > && ||`), the token
    list of `e` followed by `o` makes the step loop raise: all passes before `o`'s own leave `o`
    in place, `o`'s pass finds no right operand.  (`+`/`-`: see `C01_reject_trailing_sign`.) -/
theorem C01_reject_missing_operand (alg : AtomAlg A) (lit : List Char → A) (hn : NegNeg alg)
    (e : E) (hwf : e.WF) (o : B2) (ho : o.level ≠ 4) :
    solveToks dflt alg dfltSteps (toks dflt alg lit e ++ [tokB o]) = .error "operand" := by
  obtain ⟨hk, hot, hin, hout⟩ := tokB_pass o ho
  obtain ⟨b, hb⟩ := (trailing alg lit _ _ o.level e o
    (pass_step alg lit hn e hwf o.level hk [] (fun _ _ => trivial) [tokB o])).2 hin hot
  have := run_passes_error alg lit hn e hwf [] [tokB o] trivial 0 o.level (by omega) hk
    (fun k hk' _ hlt => List.forall_mem_singleton.mpr (hout k hk' (by omega)))
    _ hb
  rw [List.drop_zero, flat_zero] at this
  exact solveToks_error alg _ _ _ this

/-- (string level) **Unbalanced parentheses are rejected.** For EVERY string whose parenthesis
    depth goes negative or does not return to 0 -- not only edits of rendered expressions --
    `solve` raises, for every atom class that refuses texts containing a parenthesis (as
    `float()` does).  Proved as: whatever the tokeniser loop accepts is balanced (the argument
    scanner only closes at depth 1; a `(` is always taken by an operator; a `)` outside a call
    ends up in an atom text). -/
theorem C01_reject_unbalanced (alg : AtomAlg A) (hpf : ParenFree alg) (s : List Char)
    (hs : ¬ Balanced s) : ∃ m, solve dflt alg dfltSteps s = .error m := by
  cases h : solve dflt alg dfltSteps s with
  | error m => exact ⟨m, rfl⟩
  | ok t => exact absurd (solve_ok_balanced alg hpf s t h) hs

/-- (string level) **A call with the wrong number of arguments is rejected.** A call form of
    the language applied to `k ≠ narg` top-level arguments -- any texts that are balanced and have
    no separator of their own at depth 0, in particular all rendered expressions --, after any
    blanks and followed by anything, makes `solve` raise "Wrong number of arguments" before any
    argument is evaluated. -/
theorem C01_reject_arity (alg : AtomAlg A) (c : Call) (Ts : List (List Char)) (hne : Ts ≠ [])
    (hb : ∀ T ∈ Ts, nest T 0 = some 0) (hk : Ts.length ≠ c.narg) (j : Nat) (rest : List Char) :
    solve dflt alg dfltSteps (blanks j ++ c.sym ++ joinArgs Ts ++ ')' :: rest) = .error "arity" := by
  -- the statement has no `lit`; the lemma about item lists wants one (for an empty list any will do)
  have := solve_items_arity alg (fun _ => alg.constE) [] trivial [] Pre.nil 0 (Nat.le_refl _)
    (fun _ _ => List.forall_mem_nil _) c Ts hne hb hk j rest
  simpa [List.append_assoc] using this

/-- (token level) **A binary operator without its left operand is rejected**: a binary-only
    operator in front of the tokens of a well-formed expression. -/
theorem C01_reject_missing_left_operand (alg : AtomAlg A) (lit : List Char → A) (hn : NegNeg alg)
    (e : E) (hwf : e.WF) (o : B2) (ho : o.level ≠ 4) :
    solveToks dflt alg dfltSteps (tokB o :: toks dflt alg lit e) = .error "operand" := by
  obtain ⟨hk, hot, hin, hout⟩ := tokB_pass o ho
  obtain ⟨b, hb⟩ := (leading alg lit _ _ o.level e o
    (pass_step alg lit hn e hwf o.level hk [tokB o] (fun _ _ => trivial) [])).2 hin hot
  have := run_passes_error alg lit hn e hwf [tokB o] [] trivial 0 o.level (by omega) hk
    (fun k hk' _ hlt => List.forall_mem_singleton.mpr (hout k hk' (by omega)))
    (b, "operand") (by simpa using hb)
  rw [List.drop_zero, flat_zero] at this
  exact solveToks_error alg _ _ _ (by simpa using this)

/-- (token level) **A trailing `+` or `-` is rejected**: the sign pass finds an atom on its left
    and nothing on its right, keeps the operator and stores the `None` it fetched; the additive pass
    then applies the operator to that `None`. -/
theorem C01_reject_trailing_sign (alg : AtomAlg A) (lit : List Char → A) (hn : NegNeg alg)
    (e : E) (hwf : e.WF) (s : Bool) :
    solveToks dflt alg dfltSteps (toks dflt alg lit e ++ [tokS s]) = .error "operand" := by
  have r0 := run_passes alg lit hn e hwf [] [tokS s] trivial 0 1 (by decide) (by decide) (fun k hk _ hlt =>
    List.forall_mem_singleton.mpr (skipped_sign s k hk (by omega) (by omega)))
  obtain ⟨b, hb⟩ := additive_pass_none alg lit hn e hwf s
  have r2 := run_passes_error alg lit hn e hwf [] [tokS s, .none] trivial 2 4 (by decide) (by decide)
    (fun k hk _ hlt => List.forall_mem_cons.mpr
      ⟨skipped_sign s k hk (by omega) (by omega), List.forall_mem_singleton.mpr trivial⟩)
    _ hb
  -- the sign pass does not skip the trailing sign, so `run_passes` does not cover pass 1: it is stepped by hand
  have r1 : runResolved dflt alg (passes.drop 1) ⟨[], flat alg lit 1 e ++ [tokS s]⟩
      = runResolved dflt alg (passes.drop 2) ⟨[], flat alg lit 2 e ++ [tokS s, .none]⟩ := by
    show (match operate dflt alg signOps .unary ⟨[], flat alg lit 1 e ++ [tokS s]⟩ with
      | .ok b' => runResolved dflt alg (passes.drop 2) b'
      | .error e => .error e) = _
    rw [sign_pass_trailing alg lit hn e hwf s]
  rw [List.drop_zero, flat_zero] at r0
  exact solveToks_error alg _ _ _ (by simpa using r0.trans (r1.trans r2))

/-! The three missing-operand rejections at STRING level: the text of a well-formed expression
    with an operator symbol before or after it, blanks anywhere. -/

theorem C01_reject_missing_right_operand_text (alg : AtomAlg A) (lit : List Char → A)
    (hn : NegNeg alg) (e : E) (hwf : e.WF) (hl : LitOK alg lit e) (o : B2) (ho : o.level ≠ 4)
    (u : List Char) (k : Nat) (hu : Pre (lexemes e ++ [o.sym]) u) :
    solve dflt alg dfltSteps (u ++ blanks k) = .error "operand" :=
  solve_framed_err alg lit hn e hwf hl [] [.opr (.bin o)] (List.forall_mem_nil _)
    (List.forall_mem_singleton.mpr rfl)
    (adj_post_opr alg lit e hl _) u k
    (by rw [framed_lex]; exact hu) "operand"
    (C01_reject_missing_operand alg lit hn e hwf o ho)

theorem C01_reject_trailing_sign_text (alg : AtomAlg A) (lit : List Char → A)
    (hn : NegNeg alg) (e : E) (hwf : e.WF) (hl : LitOK alg lit e) (s : Bool)
    (u : List Char) (k : Nat) (hu : Pre (lexemes e ++ [if s then ['-'] else ['+']]) u) :
    solve dflt alg dfltSteps (u ++ blanks k) = .error "operand" :=
  solve_framed_err alg lit hn e hwf hl [] [.opr (.sign s)] (List.forall_mem_nil _)
    (List.forall_mem_singleton.mpr rfl)
    (adj_post_opr alg lit e hl _) u k
    (by rw [framed_lex]; exact hu) "operand"
    (C01_reject_trailing_sign alg lit hn e hwf s)

theorem C01_reject_missing_left_operand_text (alg : AtomAlg A) (lit : List Char → A)
    (hn : NegNeg alg) (e : E) (hwf : e.WF) (hl : LitOK alg lit e) (o : B2) (ho : o.level ≠ 4)
    (u : List Char) (k : Nat) (hu : Pre (o.sym :: lexemes e) u) :
    solve dflt alg dfltSteps (u ++ blanks k) = .error "operand" := by
  have hadj : Adj ([.opr (.bin o)] ++ items e ++ []) := by
    simpa using Adj.cons_opr (.bin o) (items_head alg lit e hl) (adj_items alg lit e hl)
  exact solve_framed_err alg lit hn e hwf hl [.opr (.bin o)] []
    (List.forall_mem_singleton.mpr rfl) (List.forall_mem_nil _)
    hadj u k (by rw [framed_lex, List.flatMap_nil, List.append_nil]; exact hu) "operand"
    (by simpa [tokOf, tokB, OprK.name] using C01_reject_missing_left_operand alg lit hn e hwf o ho)

/-! Arity rejection at a GENERAL position of the string: the ill-formed call need not be at the
    start, it may come after any well-formed prefix.  (`C01_reject_arity` is the case of an empty
    prefix.)  The tokeniser works through the prefix -- literals, operator symbols, well-formed
    calls whose arguments the nested solver evaluates -- and raises at the call; nothing that
    follows the call is looked at. -/

/-- (string level, general position) **A call with the wrong number of arguments after a
    well-formed prefix is rejected**: the prefix is a well-formed expression
    framed by any operator symbols (`pre`, `post`: operator items only; `Adj`: no symbol is
    directly followed by `*` or `=` that would extend it), e.g. `- e * -` or `! e && !`. -/
theorem C01_reject_arity_after_prefix (alg : AtomAlg A) (lit : List Char → A) (hn : NegNeg alg)
    (e : E) (hwf : e.WF) (hl : LitOK alg lit e)
    (pre post : List LItem) (hpre : OprOnly pre) (hpost : OprOnly post)
    (hadj : Adj (pre ++ items e ++ post)) (u : List Char)
    (hu : Pre ((pre ++ items e ++ post).flatMap itemLex) u)
    (c : Call) (Ts : List (List Char)) (hne : Ts ≠ [])
    (hb : ∀ T ∈ Ts, nest T 0 = some 0) (hk : Ts.length ≠ c.narg) (j : Nat) (rest : List Char) :
    solve dflt alg dfltSteps (u ++ blanks j ++ c.sym ++ joinArgs Ts ++ ')' :: rest)
      = .error "arity" := by
  have := solve_items_arity alg lit _ hadj u hu (cdepth e)
    (framed_len alg lit e hl pre post u hu)
    (fun n hd => itemOK_framed alg lit hn e hwf hl pre post hpre hpost n hd) c Ts hne hb hk j rest
  simpa [List.append_assoc] using this

/-- (string level, general position) the case of a well-formed expression and one operator:
    `e o f(T1,…,Tk) rest` with `e` any well-formed expression, `o` ANY operator symbol of the
    language (binary, sign, `!`), blanks anywhere between the lexemes of the prefix and before the
    call, `k ≠ narg` balanced argument texts and an arbitrary remainder `rest` makes `solve` raise
    "Wrong number of arguments". -/
theorem C01_reject_arity_after_operator (alg : AtomAlg A) (lit : List Char → A) (hn : NegNeg alg)
    (e : E) (hwf : e.WF) (hl : LitOK alg lit e) (o : OprK)
    (u : List Char) (hu : Pre (lexemes e ++ [o.sym]) u)
    (c : Call) (Ts : List (List Char)) (hne : Ts ≠ [])
    (hb : ∀ T ∈ Ts, nest T 0 = some 0) (hk : Ts.length ≠ c.narg) (j : Nat) (rest : List Char) :
    solve dflt alg dfltSteps (u ++ blanks j ++ c.sym ++ joinArgs Ts ++ ')' :: rest)
      = .error "arity" := by
  exact C01_reject_arity_after_prefix alg lit hn e hwf hl [] [.opr o] (List.forall_mem_nil _)
    (List.forall_mem_singleton.mpr rfl) (adj_post_opr alg lit e hl o) u
    (by rw [framed_lex]; exact hu) c Ts hne hb hk j rest

/-- (string level, general position) the same for a call that follows a well-formed expression
    directly (`e f(T1,…,Tk) rest`, a missing operator AND a wrong arity: the arity error wins,
    as in the code, because it is raised while tokenising). -/
theorem C01_reject_arity_after_expression (alg : AtomAlg A) (lit : List Char → A) (hn : NegNeg alg)
    (e : E) (hwf : e.WF) (hl : LitOK alg lit e)
    (u : List Char) (hu : Pre (lexemes e) u)
    (c : Call) (Ts : List (List Char)) (hne : Ts ≠ [])
    (hb : ∀ T ∈ Ts, nest T 0 = some 0) (hk : Ts.length ≠ c.narg) (j : Nat) (rest : List Char) :
    solve dflt alg dfltSteps (u ++ blanks j ++ c.sym ++ joinArgs Ts ++ ')' :: rest)
      = .error "arity" := by
  exact C01_reject_arity_after_prefix alg lit hn e hwf hl [] [] (List.forall_mem_nil _)
    (List.forall_mem_nil _) (by simpa using adj_items alg lit e hl) u
    (by rw [framed_lex, List.flatMap_nil, List.append_nil]; exact hu) c Ts hne hb hk j rest

/-! Missing right operand at a GENERAL position: inside the argument of a one-argument call or
    inside parentheses (`F1` includes the plain parenthesis), the call being at the start of the
    string or after any well-formed prefix.  The nested solver that evaluates the argument raises,
    and the error propagates through the argument loop and the tokeniser of the outer `solve`. -/

/-- (token level) every operator except `!` -- binary-only or `+`/`-` -- dangling after a
    well-formed expression is rejected (`C01_reject_missing_operand` and
    `C01_reject_trailing_sign` in one statement over the operator items of the tokeniser). -/
theorem C01_reject_trailing_operator (alg : AtomAlg A) (lit : List Char → A) (hn : NegNeg alg)
    (e : E) (hwf : e.WF) (o : OprK) (ho : o ≠ .not) :
    solveToks dflt alg dfltSteps (toks dflt alg lit e ++ [tokOf alg lit (.opr o)])
      = .error "operand" := by
  cases o with
  | not => exact absurd rfl ho
  | sign s => exact C01_reject_trailing_sign alg lit hn e hwf s
  | bin b =>
    by_cases hb : b.level = 4
    · cases b <;> first | (exact absurd hb (by decide)) | skip
      · exact C01_reject_trailing_sign alg lit hn e hwf false
      · exact C01_reject_trailing_sign alg lit hn e hwf true
    · exact C01_reject_missing_operand alg lit hn e hwf b hb

/-- (string level, general position, ANY nesting depth) **A dangling operator inside any number
    of nested parentheses / one-argument calls is rejected**, after a well-formed prefix:
    `pre e post  f( g1( g2( … e' o … ) ) ) rest` -- `nestCalls fs t` wraps the text `t` in the calls
    `fs` (each of `( exp( log( log10( sqrt( sin( cos( tan(`, with arbitrary blanks before the
    symbol and after its closing parenthesis).  The innermost nested solver raises on `e' o`
    and the error propagates through every level.  `fs = []` is
    `C01_reject_missing_operand_in_call_after_prefix`. -/
theorem C01_reject_missing_operand_nested_after_prefix (alg : AtomAlg A) (lit : List Char → A)
    (hn : NegNeg alg) (e : E) (hwf : e.WF) (hl : LitOK alg lit e)
    (pre post : List LItem) (hpre : OprOnly pre) (hpost : OprOnly post)
    (hadj : Adj (pre ++ items e ++ post)) (u : List Char)
    (hu : Pre ((pre ++ items e ++ post).flatMap itemLex) u)
    (f : F1) (fs : List (F1 × Nat × Nat)) (e' : E) (hwf' : e'.WF) (hl' : LitOK alg lit e') (o : OprK)
    (ho : o ≠ .not) (v : List Char) (hv : Pre (lexemes e' ++ [o.sym]) v)
    (j k : Nat) (rest : List Char) :
    solve dflt alg dfltSteps (u ++ blanks j ++ f.sym ++ nestCalls fs (v ++ blanks k) ++ ')' :: rest)
      = .error "operand" := by
  have := solve_nested_err alg lit hn _ hadj u hu (cdepth e)
    (framed_len alg lit e hl pre post u hu)
    (fun n hd => itemOK_framed alg lit hn e hwf hl pre post hpre hpost n hd)
    f j rest fs e' hwf' hl' o v k hv "operand" (C01_reject_trailing_operator alg lit hn e' hwf' o ho)
  simpa [List.append_assoc] using this

/-- (string level, ANY nesting depth) the same at the start of the string:
    `f( g1( … e' o … ) ) rest`, e.g. `((sin( 1 * )))`. -/
theorem C01_reject_missing_operand_nested (alg : AtomAlg A) (lit : List Char → A)
    (hn : NegNeg alg) (f : F1) (fs : List (F1 × Nat × Nat)) (e' : E) (hwf' : e'.WF)
    (hl' : LitOK alg lit e') (o : OprK) (ho : o ≠ .not) (v : List Char)
    (hv : Pre (lexemes e' ++ [o.sym]) v) (j k : Nat) (rest : List Char) :
    solve dflt alg dfltSteps (blanks j ++ f.sym ++ nestCalls fs (v ++ blanks k) ++ ')' :: rest)
      = .error "operand" := by
  have := solve_nested_err alg lit hn [] trivial [] Pre.nil 0 (Nat.le_refl _)
    (fun _ _ => List.forall_mem_nil _)
    f j rest fs e' hwf' hl' o v k hv "operand" (C01_reject_trailing_operator alg lit hn e' hwf' o ho)
  simpa [List.append_assoc] using this

/-- (string level) a dangling operator inside ONE call or pair of parentheses at the start of the
    string, anything after it:
    `f( e' o ) rest` with `f` any of
    `( exp( log( log10( sqrt( sin( cos( tan(`, `e'` well-formed, `o` any operator but `!`, blanks
    anywhere, arbitrary `rest`. -/
theorem C01_reject_missing_operand_in_call (alg : AtomAlg A) (lit : List Char → A)
    (hn : NegNeg alg) (f : F1) (e' : E) (hwf' : e'.WF) (hl' : LitOK alg lit e') (o : OprK)
    (ho : o ≠ .not) (v : List Char) (hv : Pre (lexemes e' ++ [o.sym]) v)
    (j k : Nat) (rest : List Char) :
    solve dflt alg dfltSteps (blanks j ++ f.sym ++ v ++ blanks k ++ ')' :: rest)
      = .error "operand" := by
  simpa [nestCalls] using
    C01_reject_missing_operand_nested alg lit hn f [] e' hwf' hl' o ho v hv j k rest

/-- (string level, general position) the same after any well-formed prefix: `e o1 f( e' o ) rest`
    (prefix: a well-formed expression framed by operator symbols, as in
    `C01_reject_arity_after_prefix`; e.g. `1 + 2 * ( 3 - ) …`). -/
theorem C01_reject_missing_operand_in_call_after_prefix (alg : AtomAlg A) (lit : List Char → A)
    (hn : NegNeg alg) (e : E) (hwf : e.WF) (hl : LitOK alg lit e)
    (pre post : List LItem) (hpre : OprOnly pre) (hpost : OprOnly post)
    (hadj : Adj (pre ++ items e ++ post)) (u : List Char)
    (hu : Pre ((pre ++ items e ++ post).flatMap itemLex) u)
    (f : F1) (e' : E) (hwf' : e'.WF) (hl' : LitOK alg lit e') (o : OprK)
    (ho : o ≠ .not) (v : List Char) (hv : Pre (lexemes e' ++ [o.sym]) v)
    (j k : Nat) (rest : List Char) :
    solve dflt alg dfltSteps (u ++ blanks j ++ f.sym ++ v ++ blanks k ++ ')' :: rest)
      = .error "operand" := by
  simpa [nestCalls] using C01_reject_missing_operand_nested_after_prefix alg lit hn e hwf hl pre post
    hpre hpost hadj u hu f [] e' hwf' hl' o ho v hv j k rest

/-- (string level, general position, ANY nesting depth) **A call with the wrong number of
    arguments inside any number of nested parentheses / one-argument calls is rejected**, after a
    well-formed prefix: `pre e post  f( g1( … c(T1,…,Tk) … ) ) rest` with `k ≠ narg c`. -/
theorem C01_reject_arity_nested_after_prefix (alg : AtomAlg A) (lit : List Char → A)
    (hn : NegNeg alg) (e : E) (hwf : e.WF) (hl : LitOK alg lit e)
    (pre post : List LItem) (hpre : OprOnly pre) (hpost : OprOnly post)
    (hadj : Adj (pre ++ items e ++ post)) (u : List Char)
    (hu : Pre ((pre ++ items e ++ post).flatMap itemLex) u)
    (f : F1) (fs : List (F1 × Nat × Nat)) (c : Call) (Ts : List (List Char)) (hne : Ts ≠ [])
    (hb : ∀ T ∈ Ts, nest T 0 = some 0) (hk : Ts.length ≠ c.narg) (j a b : Nat) (rest : List Char) :
    solve dflt alg dfltSteps (u ++ blanks j ++ f.sym
        ++ nestCalls fs (blanks a ++ c.sym ++ joinArgs Ts ++ ')' :: blanks b) ++ ')' :: rest)
      = .error "arity" := by
  have := solve_nested_arity alg lit _ hadj u hu (cdepth e)
    (framed_len alg lit e hl pre post u hu)
    (fun n hd => itemOK_framed alg lit hn e hwf hl pre post hpre hpost n hd)
    f j rest fs c Ts hne hb hk a b
  simpa [List.append_assoc] using this

/-- (string level, ANY nesting depth) the same at the start of the string, e.g. `((sin(1,2)))`. -/
theorem C01_reject_arity_nested (alg : AtomAlg A) (lit : List Char → A)
    (f : F1) (fs : List (F1 × Nat × Nat)) (c : Call) (Ts : List (List Char)) (hne : Ts ≠ [])
    (hb : ∀ T ∈ Ts, nest T 0 = some 0) (hk : Ts.length ≠ c.narg) (j a b : Nat) (rest : List Char) :
    solve dflt alg dfltSteps (blanks j ++ f.sym
        ++ nestCalls fs (blanks a ++ c.sym ++ joinArgs Ts ++ ')' :: blanks b) ++ ')' :: rest)
      = .error "arity" := by
  have := solve_nested_arity alg lit [] trivial [] Pre.nil 0 (Nat.le_refl _)
    (fun _ _ => List.forall_mem_nil _) f j rest fs c Ts hne hb hk a b
  simpa [List.append_assoc] using this

/-- The full statement (character level): for every well-formed expression whose literals the
    atom class reads, and every blank oracle, `solve` on the rendered text returns `eval e`. -/
def C01_solve_eq_eval_statement : Prop :=
  ∀ (A : Type) (alg : AtomAlg A) (lit : List Char → A), NegNeg alg →
    ∀ e : E, e.WF → LitOK alg lit e → ∀ bl : List Nat,
      solve dflt alg dfltSteps (render bl e) = .ok (.atom (eval alg lit e))

/-- **Character level: the tokeniser.** For every well-formed `e` and every blank oracle the
    tokeniser loop of `solve` (first operator in table order whose symbol prefixes the rest, atom
    text in between, argument scanner with depth counting, a nested solver per argument) turns
    the rendered text into exactly the token list `toks e`.  Rests on the kernel-decided facts
    of `Facts/C01Sym.lean` about the regenerated operator table. -/
theorem C01_tokenize_eq_toks (alg : AtomAlg A) (lit : List Char → A) (hn : NegNeg alg)
    (e : E) (hwf : e.WF) (hl : LitOK alg lit e) (bl : List Nat) :
    tokenize dflt alg dfltSteps (render bl e) = .ok (toks dflt alg lit e) := by
  obtain ⟨u, k, hr, hu⟩ := joinBlanks_pre (lexemes e) bl
  unfold render
  rw [hr]
  exact tokenize_text alg lit hn e hwf hl u k hu

/-- **The property, first clause.** For every well-formed expression of the stratified
    grammar over the default operator set -- every nesting depth and length --, every atom class
    that reads its literals, and every placement of blanks, `solve` returns the value obtained
    by the documented order.  Unbounded; universally over the atom algebra under
    `neg (neg a) = a`. -/
theorem C01_solve_eq_eval (alg : AtomAlg A) (lit : List Char → A) (hn : NegNeg alg)
    (e : E) (hwf : e.WF) (hl : LitOK alg lit e) (bl : List Nat) :
    solve dflt alg dfltSteps (render bl e) = .ok (.atom (eval alg lit e)) := by
  obtain ⟨u, k, hr, hu⟩ := joinBlanks_pre (lexemes e) bl
  unfold render
  rw [hr]
  exact solve_text alg lit hn e hwf hl u k hu

/-- `C01_solve_eq_eval` as the closed proposition `C01_solve_eq_eval_statement` (all atom types
    at once) -/
theorem C01_solve_eq_eval_full : C01_solve_eq_eval_statement :=
  fun _ alg lit hn e hwf hl bl => C01_solve_eq_eval alg lit hn e hwf hl bl

/-- **Optional blanks around operators do not change the result.** -/
theorem C01_blank_invariance (alg : AtomAlg A) (lit : List Char → A) (hn : NegNeg alg)
    (e : E) (hwf : e.WF) (hl : LitOK alg lit e) (bl bl' : List Nat) :
    solve dflt alg dfltSteps (render bl e) = solve dflt alg dfltSteps (render bl' e) := by
  rw [C01_solve_eq_eval alg lit hn e hwf hl bl, C01_solve_eq_eval alg lit hn e hwf hl bl']

/-- The literals admitted by `LitOK` include every number literal of the grammar
    (`digits[.digits*][e digits]`, `.digits[e digits]`). -/
theorem C01_grammar_literals (t : List Char) (h : isGrammarLit t = true) : litSafe t = true :=
  grammarLit_safe t h

/-! ### Non-vacuity: the hypotheses have concrete, non-trivial instances -/

def litInt : List Char → Int
  | [c] => ((c.toNat - 48 : Nat) : Int)
  | _ => 0

/-- integers with real negation, addition, subtraction, multiplication and power; literals are
    single digits (`litInt`) -/
def intAlg : AtomAlg Int :=
  { parse := fun s => some (litInt s), constE := 3,
    un := fun f a => match f with | .neg => -a | _ => a,
    bin := fun f a b => match f with
      | .add => a + b | .sub => a - b | .mul => a * b | .pow => a ^ b.toNat | _ => 0 }

example : NegNeg intAlg := fun a => Int.neg_neg a

/-- `1 - -2**2`: a unary sign after a binary operator, before a power -/
def ex1 : E := .bin .sub (.num ['1']) (.bin .pow (.sign true (.num ['2'])) (.num ['2']))

example : ex1.WF := by simp [ex1, E.WF, E.level, B2.level]

/-- the documented order gives 1 - ((-2)**2) = -3, and so do the nine passes -/
example : eval intAlg litInt ex1 = -3 := by decide
example : solveToks dflt intAlg dfltSteps
    (toks dflt intAlg litInt ex1) = .ok (.atom (eval intAlg litInt ex1)) :=
  C01_tokens_eq_eval intAlg litInt (fun a => Int.neg_neg a) ex1 (by simp [ex1, E.WF, E.level, B2.level])

/-- `*` is a binary-only operator (hypothesis `o.level ≠ 4` of the operand rejections) -/
example : B2.mul.level ≠ 4 := by decide

/-- an atom class over digit strings: refuses every text with a parenthesis -/
def digAlg : AtomAlg Nat :=
  { parse := fun s => if s.all isDigit && !s.isEmpty then some s.length else none, constE := 3,
    un := fun _ a => a, bin := fun _ a b => a + b }

example : ParenFree digAlg := by
  intro t ht
  obtain ⟨c, hc, hp⟩ := List.any_eq_true.mp ht
  have hd : isDigit c = false := by
    simp only [isParen, Bool.or_eq_true, beq_iff_eq] at hp
    rcases hp with rfl | rfl <;> decide
  have : t.all isDigit = false := by
    cases h : t.all isDigit with
    | false => rfl
    | true => rw [List.all_eq_true.mp h c hc] at hd; cases hd
  show (if (t.all isDigit && !t.isEmpty) = true then some t.length else none) = none
  rw [this]; rfl

/-- a text of `1 *` (hypothesis of the string-level operand rejections): `1 *` with one blank -/
example : Pre (lexemes (.num ['1']) ++ [B2.mul.sym]) ['1', ' ', '*'] := by
  simpa [blanks, lexemes, B2.sym] using Pre.cons 0 ['1'] (Pre.cons 1 ['*'] Pre.nil)

/-- a prefix text for the general-position arity rejections: `1 *` in front of `sin(1,2)` -/
example : Pre (lexemes (.num ['1']) ++ [(OprK.bin .mul).sym]) ['1', ' ', '*'] := by
  simpa [blanks, lexemes, B2.sym, OprK.sym] using Pre.cons 0 ['1'] (Pre.cons 1 ['*'] Pre.nil)

/-- `1 * sin(1,2)+7` is rejected with "arity" (instance of `C01_reject_arity_after_operator`) -/
example : solve dflt intAlg dfltSteps
    (['1', ' ', '*'] ++ blanks 1 ++ (Call.f1 .sin).sym ++ joinArgs [['1'], ['2']] ++ ')' :: ['+', '7'])
      = .error "arity" :=
  C01_reject_arity_after_operator intAlg litInt (fun a => Int.neg_neg a) (.num ['1']) trivial
    ⟨by decide, rfl⟩ (.bin .mul) _
    (by simpa [blanks, lexemes, B2.sym, OprK.sym] using Pre.cons 0 ['1'] (Pre.cons 1 ['*'] Pre.nil))
    (.f1 .sin) [['1'], ['2']] (by simp) (by decide) (by decide) 1 ['+', '7']

/-- `( 1 *) +7` is rejected with "operand" (instance of `C01_reject_missing_operand_in_call`) -/
example : solve dflt intAlg dfltSteps
    (blanks 0 ++ F1.par.sym ++ ['1', ' ', '*'] ++ blanks 0 ++ ')' :: ['+', '7']) = .error "operand" :=
  C01_reject_missing_operand_in_call intAlg litInt (fun a => Int.neg_neg a) .par (.num ['1']) trivial
    ⟨by decide, rfl⟩ (.bin .mul) (by simp) _
    (by simpa [blanks, lexemes, B2.sym, OprK.sym] using Pre.cons 0 ['1'] (Pre.cons 1 ['*'] Pre.nil))
    0 0 ['+', '7']

/-- what `nestCalls` builds: `(1 *)`-to-be wrapped in `(` and `sin(` -- a text of the shape
    `C01_reject_missing_operand_nested` speaks of -/
example : nestCalls [(.sin, 0, 0), (.par, 1, 1)] ['1', ' ', '*']
    = "sin( (1 *) )".toList := by decide

example : ¬ Balanced ['(', '1'] := by unfold Balanced; decide
example : ¬ Balanced ['1', ')', '('] := by unfold Balanced; decide
example : ∀ T ∈ [['1'], ['2', '+', '(', '3', ')']], nest T 0 = some 0 := by decide
example : [['1'], ['2']].length ≠ (Call.f1 .sin).narg := by decide

example : LitOK termAlg Term.num ex1 := by
  simp [ex1, LitOK]; decide

/-- rendered with blanks: ` 1-  -2**2` -/
example : render [1, 0, 2] ex1 = [' ', '1', '-', ' ', ' ', '-', '2', '*', '*', '2'] := by decide

example : isGrammarLit ['1', '2', '.', '5', 'e', '3'] = true := by decide

end SciVerif.C01
