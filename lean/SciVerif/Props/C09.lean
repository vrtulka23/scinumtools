import SciVerif.Lemmas.C09Programs
import SciVerif.Lemmas.C09Histories
import SciVerif.Facts.C09

/-!
# C09 — Temporary custom units never outlive their scope

`Globals` = (UNIT_STANDARD as keyed ParameterTable: `_keys` list + dict rows in order,
UNIT_TYPES list, UNIT_PREFIXES keys). Equality of `Globals` is equality of the whole tables:
keys in order AND row contents AND the order of UNIT_TYPES.

Programs `P ::= skip | raise | use sym | seq P P | scope units P | attempt P`. Faults are
syntactic: every point at which the registration code can raise is selected by the data
(`UnitDef.other`, `quantity true`, absent `magnitude`/`dimensions`, a symbol already in the table,
rows that fail `check_unique_symbols`) and every body statement may be `raise`; quantifying over
all programs is quantifying over all fault placements (each program point runs at most once).

`WF g` (hypothesis of every theorem) is the ParameterTable invariant `_keys = list(_data)`,
proved for every table built through the class's API in `C20_table_refines`; that it holds of the
library's own start tables, and restoration instantiated at them (`C09_real_tables_wf`,
`C09_restored_real`), is in `Facts/C09.lean`, imported here so that the audit of this property's theorems
(`harness/props/c09.py`, `EXTRA_OBLIGATIONS`) reaches them.
-/
namespace SciVerif.C09
open SciVerif.C20 (Tbl dget dset ddel)

/-- `UnitEnvironment.__init__` is all-or-nothing: if it raises — at whichever unit, at whichever
    statement, or in `check_unique_symbols` after all registrations — the process-wide tables
    are exactly what they were before the call. -/
theorem C09_init_atomic (g : Globals) (w : WF g) (units : List (Sym × UnitDef))
    (h : (init g units).2 = none) : (init g units).1 = g := by
  exact init_spec w (show init g units = (_, none) from Prod.ext rfl h)

/-- A constructed environment followed by `close()` (in particular `with … : pass`) gives the
    tables back, and `close` does not raise. -/
theorem C09_open_close (g : Globals) (w : WF g) (units : List (Sym × UnitDef)) (e : Env)
    (h : (init g units).2 = some e) : close (init g units).1 e = (g, true) := by
  exact close_added g _ e w (init_spec w (show init g units = (_, some e) from Prod.ext rfl h)).1

/-- **Restoration.** For every program — any nesting and repetition of scopes, any placement of
    registration faults, any body exceptions, caught or propagating — the process-wide tables
    after the run are identical to the tables before it. -/
theorem C09_restored (p : Prog) (g : Globals) (w : WF g) : (run p g).1 = g :=
  (run_restored p g w).1

/-- `__exit__` never raises (`close` always finds what it has to remove), in every program. -/
theorem C09_exit_never_raises (p : Prog) (g : Globals) (w : WF g) (ok : Bool) (g' : Globals)
    (h : Ev.exited ok g' ∈ (run p g).2.2) : ok = true :=
  (run_restored p g w).2 _ h

/-- **Usable inside, registration part.** When `__init__` completes, every symbol it was given is a
    key of UNIT_STANDARD, reads exactly the row defined for it (with the documented defaults),
    and every row that was there before is still there unchanged (no field is overwritten). -/
theorem C09_usable (g : Globals) (w : WF g) (units : List (Sym × UnitDef)) (e : Env)
    (h : (init g units).2 = some e) :
    (∀ su ∈ units, ∃ r, rowOf su.1 su.2 = some r ∧ resolves (init g units).1 su.1 = true ∧
      dget (init g units).1.std.data su.1 = some r) ∧
    (∀ k v, dget g.std.data k = some v → dget (init g units).1.std.data k = some v) := by
  obtain ⟨ha, hrows⟩ := init_spec w (show init g units = (_, some e) from Prod.ext rfl h)
  refine ⟨fun su hsu => ?_, ha.ext.2⟩
  obtain ⟨r, hr, hk, hd⟩ := hrows su hsu
  exact ⟨r, hr, resolves_iff.2 ⟨hk, congrArg Option.isSome hd⟩, hd⟩

/-- **Usable inside, body part.** A symbol that resolves when a program starts (e.g. the body of a
    scope that registered it) resolves at every `use` during the run, whatever nested scopes
    are opened, fail or raise in between. -/
theorem C09_usable_throughout (p : Prog) (g : Globals) (w : WF g) (s : Sym) (ok : Bool)
    (hr : resolves g s = true) (h : Ev.used s ok ∈ (run p g).2.2) : ok = true :=
  (run_restored p g w).2 _ h hr

/-- **Outside fails.** A symbol that was not in the table before a program is not in it afterwards:
    `Quantity(1, sym)` after the scope raises. -/
theorem C09_outside_fails (p : Prog) (g : Globals) (w : WF g) (s : Sym) (h : s ∉ g.std.keys) :
    resolves (run p g).1 s = false ∧
    (run (.seq (.attempt p) (.use s)) g).2.1 = false := by
  have hres : resolves g s = false := Bool.eq_false_iff.2 fun hr => h (resolves_iff.1 hr).1
  have hg := C09_restored p g w
  refine ⟨by rw [hg]; exact hres, ?_⟩
  rcases hr : run p g with ⟨g1, ok, ev⟩
  rw [hr] at hg
  obtain rfl : g1 = g := hg
  cases ok <;> simp [run, hr, hres]

/-! ### Overlapping lifetimes: the explicit `e = UnitEnvironment(units)` … `e.close()` API, closed in ANY order -/

/-- **The history invariant.** After any sequence of constructions (completing or raising),
    `close()` calls on any of the currently open environments (in any order — first-opened-first,
    LIFO, arbitrary) and uses, the process-wide tables are the initial tables plus exactly what
    the environments that are still open registered, appended in opening order (rows behind the old
    rows, conversion classes in front of UNIT_TYPES); nothing else is added, removed or altered. -/
theorem C09_history_invariant (ops : List HOp) (g : Globals) (w : WF g) :
    Added g (hrun ops ⟨g, []⟩).1.g (merged (hrun ops ⟨g, []⟩).1.opens) :=
  (hrun_inv g w ops ⟨g, []⟩ (Added.refl g)).1

/-- **Restoration for any interleaving.** Whenever every environment that was opened has been
    closed (each once, in whatever order), the tables are identical to the initial ones. -/
theorem C09_restored_any_order (ops : List HOp) (g : Globals) (w : WF g)
    (h : (hrun ops ⟨g, []⟩).1.opens = []) : (hrun ops ⟨g, []⟩).1.g = g := by
  have hi := C09_history_invariant ops g w
  rw [h] at hi
  exact hi.eq_of_nil

/-- `close()` never raises in any history, whatever the order of closing. -/
theorem C09_close_never_raises_any_order (ops : List HOp) (g : Globals) (w : WF g) (ok : Bool)
    (g' : Globals) (h : HEv.closed ok g' ∈ (hrun ops ⟨g, []⟩).2) : ok = true :=
  (hrun_inv g w ops ⟨g, []⟩ (Added.refl g)).2 ok g' h

/-- While an environment is open its symbols resolve, whatever other environments were closed in
    between: every unit of every still-open environment is a key of the table and reads a row. -/
theorem C09_open_units_resolve (ops : List HOp) (g : Globals) (w : WF g) (s : Sym)
    (h : s ∈ (merged (hrun ops ⟨g, []⟩).1.opens).new_units) :
    resolves (hrun ops ⟨g, []⟩).1.g s = true := by
  have hi := C09_history_invariant ops g w
  have hk : s ∈ (hrun ops ⟨g, []⟩).1.g.std.keys := by rw [hi.keys]; exact List.mem_append_right _ h
  exact resolves_iff.2 ⟨hk, (C20.dget_isSome_iff _ _).mpr ((hi.wf w : _ = _) ▸ hk)⟩

/-- a small table in the shape of the real one -/
def exG : Globals :=
  ⟨⟨["m", "g"], [("m", ⟨"1.0", "[1, 0]", .none, "meter", .all⟩), ("g", ⟨"1.0", "[0, 1]", .none, "gram", .all⟩)]⟩,
   ["Temperature", "Standard"], ["k", "m"]⟩

example : WF exG := rfl

/-- `UnitEnvironment({'x': {...}, 'm': {...}})` raises at the second unit: `m` exists -/
def exUnits : List (Sym × UnitDef) :=
  [("x", .dict (some "3") (some "[3, 2]") (some (.ty "T")) none none), ("m", .dict (some "3") (some "[3, 2]") none none none)]

example : (init exG exUnits).2 = none := by decide +kernel
example : "x" ∉ exG.std.keys := by decide +kernel
-- hypotheses `(init g units).2 = some e` are satisfiable:
example : (init exG [("x", .dict (some "3") (some "[3, 2]") (some (.ty "T")) none none)]).2 =
    some ⟨["x"], ["T"]⟩ := by decide +kernel
-- the clash with a prefixed symbol is detected only after the registration, and undone
example : (regLoop exG ⟨[], []⟩ [("km", .dict (some "3") (some "[1, 0]") none none none)]).2.2 = true ∧
    (init exG [("km", .dict (some "3") (some "[1, 0]") none none none)]) = (exG, none) := by decide +kernel
-- a nested program with a failing inner registration, a body exception and uses
example : (run (.seq (.attempt (.scope [("x", .quantity false "0.02" "[1, -2]")]
      (.seq (.use "x") (.seq (.attempt (.scope exUnits .skip)) (.seq (.use "x") .raise)))))
      (.attempt (.use "x"))) exG).1 = exG := by decide +kernel

/-- Sensitivity: `__init__` WITHOUT the undo (the code before the repair) leaves `x` and the
    conversion class `T` behind on the same input, so `C09_init_atomic` is not a triviality. -/
example : (regLoop exG ⟨[], []⟩ exUnits).1 ≠ exG ∧
    (regLoop exG ⟨[], []⟩ exUnits).1.std.keys = ["m", "g", "x"] ∧
    (regLoop exG ⟨[], []⟩ exUnits).1.types = ["T", "Temperature", "Standard"] := by decide +kernel

-- overlapping lifetimes: open A, open B, close A (first opened), close B
example : (hrun [.opn [("x", .dict (some "3") (some "[3, 2]") (some (.ty "TA")) none none)],
                 .opn [("y", .dict (some "5") (some "[1, 0]") (some (.ty "TB")) none none)],
                 .cls 0, .use "y", .cls 0] ⟨exG, []⟩).1 = ⟨exG, []⟩ := by decide +kernel
example : ((hrun [.opn [("x", .dict (some "3") (some "[3, 2]") (some (.ty "TA")) none none)],
                  .opn [("y", .dict (some "5") (some "[1, 0]") (some (.ty "TB")) none none)],
                  .cls 0] ⟨exG, []⟩).1.g.types) = ["TB", "Temperature", "Standard"] := by decide +kernel

end SciVerif.C09
