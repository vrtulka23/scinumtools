import SciVerif.Lemmas.C07Step

/-!
# C07 — Operations on quantities never alter their operands

The heap model of `quantity.py / unit_types.py / magnitude.py / base_units.py` is `Model/C07.lean`.

`step h op` is one library call on heap `h`; `Op` covers the constructor, `+ - * / ** neg`, `== !=`, the NumPy
functions (sqrt cbrt power / sin cos tan / arcsin arccos arctan / every "units preserved" function / sum /
isnan), `np.linspace / np.logspace`, `value(unit)` and the in-place methods `to` (text, BaseUnits, Quantity),
`rebase`, `abse`, `rele` and a write into the array handed out by `value()` / `abse()`.
Every theorem quantifies over ALL heaps satisfying the invariant `WF`, all operands (any locations, also
`x op x` and results of earlier operations) and all unit-algebra facts `Facts` (did the call raise, which
unit type matched, linear conversion or not, dimensionless result, …).  `WF` holds after every finite
program (`C07_invariant`), so nothing is assumed about the history.

`obs h x = (value, units, abse)` of quantity `x`; `mutReach h x` = the mutable cells reachable from `x`
(the Quantity object, its Magnitude object, the value array, the error array).  BaseUnits objects and
exponent dicts are *frozen* (`C07_units_frozen`): no operation writes one that exists, so sharing them is
not shared mutable state.  (`Fraction.rebase()` normalising an exponent in place inside a shared dict is
value-preserving and below the granularity of the model.)
-/
namespace SciVerif.C07

/-- The ownership invariant holds after every finite program, whatever the facts of unit algebra were. -/
theorem C07_invariant (ops : List Op) : WF (run Heap.empty ops) :=
  WF.empty.run ops

/-- Operators, comparisons, NumPy functions, the constructor and `value(unit)` (every operation that is
    not an in-place method) leave what EVERY existing quantity reports — in particular every operand —
    exactly as it was (`C07_inplace_local` for an operation without target). -/
theorem C07_operands_unchanged (h : Heap) (w : WF h) (op : Op) (hp : target op = none)
    (x : Nat) (hx : (h.q x).isSome) : obs (step h op).1 x = obs h x := by
  obtain ⟨qc, hq⟩ := Option.isSome_iff_exists.mp hx
  exact (step_ok w op).stable x qc hq (hp ▸ nofun)

/-- The in-place methods (`to`, `rebase`, `abse`, `rele`, a write into the array handed out by `value()` /
    `abse()`) change nothing but the object they are called on: every other quantity — the operands a
    result was computed from, the results computed from it, the argument of `to(other)` — reports the
    same value, units and uncertainty. -/
theorem C07_inplace_local (h : Heap) (w : WF h) (op : Op) (x : Nat) (hx : (h.q x).isSome)
    (hne : some x ≠ target op) : obs (step h op).1 x = obs h x := by
  obtain ⟨qc, hq⟩ := Option.isSome_iff_exists.mp hx
  exact (step_ok w op).stable x qc hq hne

/-- In every reachable heap two different quantities share no mutable cell: not the Magnitude object,
    not the value array, not the error array.  (The result of an operation is a different quantity than
    each operand, so this is "the result shares no mutable state with an operand".) -/
theorem C07_result_separate (h : Heap) (w : WF h) (x y : Nat) (hxy : x ≠ y) :
    ∀ c ∈ mutReach h x, c ∉ mutReach h y :=
  w.separate hxy

/-- The quantity returned by an operation that is not an in-place method is a NEW object: its location
    is fresh and held no quantity before. -/
theorem C07_result_new (h : Heap) (w : WF h) (op : Op) (hp : target op = none) (r : Nat)
    (hr : (step h op).2 = .qty r) : h.n ≤ r ∧ (h.q r) = none := by
  have ⟨_, sp⟩ := step_spec w op
  have key : h.n ≤ r := (sp.qty r hr).resolve_left fun e => nomatch hp.symm.trans e
  refine ⟨key, ?_⟩
  cases hq : h.q r with
  | none => rfl
  | some c => exact absurd (w.q_lt r c hq) (Nat.not_lt_of_le key)

/-- The array returned by `value(unit)` is a new array: no quantity that existed before (no operand)
    can reach it. -/
theorem C07_value_result_fresh (h : Heap) (w : WF h) (a : Nat) (f : Facts) (l : Nat)
    (hr : (step h (.value a f)).2 = .val (.arr l)) :
    h.n ≤ l ∧ ∀ x, (h.q x).isSome → Cell.a l ∉ mutReach h x := by
  have ⟨_, sp⟩ := step_spec w (.value a f)
  have key := sp.arr l hr
  exact ⟨key, fun x _ hmem => Nat.not_lt_of_le key (w.mutReach_lt hmem)⟩

/-- BaseUnits objects and exponent dicts are frozen: no operation, in-place or not, writes one that
    exists (`UnitType.convert` as of commit 83f1645, which does not write `baseunits.magnitude`). -/
theorem C07_units_frozen (h : Heap) (w : WF h) (op : Op) :
    (∀ l c, h.b l = some c → (step h op).1.b l = some c) ∧
    (∀ l c, h.d l = some c → (step h op).1.d l = some c) :=
  (step_ok w op).frozen

/-- Histories: after ANY finite program, a further operation leaves every quantity it is not an in-place
    method of unchanged (`C07_inplace_local` in a heap that a program built). -/
theorem C07_history (ops : List Op) (op : Op) (x : Nat) (hx : ((run Heap.empty ops).q x).isSome)
    (hne : some x ≠ target op) :
    obs (step (run Heap.empty ops) op).1 x = obs (run Heap.empty ops) x :=
  C07_inplace_local _ (C07_invariant ops) op x hx hne

/-- After ANY finite program any two different quantities are separate (`C07_result_separate` in a heap
    that a program built). -/
theorem C07_history_separate (ops : List Op) (x y : Nat) (hxy : x ≠ y) :
    ∀ c ∈ mutReach (run Heap.empty ops) x, c ∉ mutReach (run Heap.empty ops) y :=
  C07_result_separate _ (C07_invariant ops) x y hxy

/-- A quantity keeps reporting the same through ANY further sequence of operations and in-place
    conversions of other quantities (operands or results) — as long as no in-place method is called on
    itself. -/
theorem C07_sequence_stable (ops : List Op) (h : Heap) (w : WF h) (x : Nat) (hx : (h.q x).isSome)
    (hnt : ∀ op ∈ ops, some x ≠ target op) : obs (run h ops) x = obs h x := by
  obtain ⟨qc, hq⟩ := Option.isSome_iff_exists.mp hx
  exact run_stable w hq ops hnt

/-- `a = Quantity([..],'m',abse=…); c = a + a; d = -c; d.to('cm'); a.abse(1); write into c's array`
    (quantities live at locations 12, 19, 23) -/
def demo : List Op :=
  [.new true true {}, .add 12 12 {}, .neg 19 {}, .to 23 .text {}, .abse 12, .poke 19 false]

example : ((run Heap.empty demo).q 12).isSome ∧ ((run Heap.empty demo).q 19).isSome ∧
    ((run Heap.empty demo).q 23).isSome := by decide
-- the three quantities own different Magnitude objects and different arrays
example : mutReach (run Heap.empty demo) 12 = [.q 12, .m 7, .a 5] := by decide
example : mutReach (run Heap.empty demo) 19 = [.q 19, .m 18, .a 16, .a 17] := by decide
example : mutReach (run Heap.empty demo) 23 = [.q 23, .m 26, .a 24, .a 25] := by decide
-- `target` is not vacuous: the in-place method does change its own object
example : obs (step (run Heap.empty (demo.take 3)) (.to 23 .text {})).1 23 ≠
    obs (run Heap.empty (demo.take 3)) 23 := by decide

/-- `UnitType.add` as it stood in /repo before the commits that `Model/C07.lean` mirrors:
    `unit2.to(unit1.baseunits)`, an in-place conversion of the right operand, followed by the addition. -/
def addBeforeRepair (h : Heap) (a b : Nat) : Heap :=
  (step (step h (.to b (.buOf a) {})).1 (.add a b {})).1

-- the statement discriminates: that operation does change what the right operand reports
example : obs (addBeforeRepair (run Heap.empty [.new false false {}, .new false false {}]) 10 21) 21 ≠
    obs (run Heap.empty [.new false false {}, .new false false {}]) 21 := by decide

/-- A write to the cached magnitude of an EXISTING BaseUnits object: the statement
    `self.baseunits1.magnitude = Decimal(...)` of `UnitType.convert` in /repo before commit 83f1645.
    It is not an action of `step`: `C07_units_frozen` forbids exactly this event. -/
def writeBUCache (h : Heap) (bl : Nat) : Heap :=
  match h.b bl with
  | some bc => { h with b := upd h.b bl { bc with cache := h.n }, n := h.n + 1 }
  | none => h

/-- `x.value(unit)` with that statement in front of the conversion -/
def valueBeforeRepair (h : Heap) (x : Nat) : Heap :=
  match h.q x with
  | some qc => (step (writeBUCache h qc.bu) (.value x {})).1
  | none => h

/-- `f = Quantity(…); d = Quantity(…); s = f + d` : `f` lives at 10, `s` at 26, both hold BaseUnits object 9 -/
def sumHeap : Heap := run Heap.empty [.new false false {}, .new false false {}, .add 10 21 {}]

example : (sumHeap.q 10).map (·.bu) = some 9 ∧ (sumHeap.q 26).map (·.bu) = some 9 := by decide
-- the repaired `value` leaves the shared BaseUnits object and the operand alone
example : (step sumHeap (.value 26 {})).1.b 9 = sumHeap.b 9 ∧
    obs (step sumHeap (.value 26 {})).1 10 = obs sumHeap 10 := by decide
-- the unrepaired one writes it (the event `C07_units_frozen` excludes), and the write is seen through the
-- untouched operand `f`: sharing a BaseUnits object is harmless only because nothing writes one
example : (valueBeforeRepair sumHeap 26).b 9 ≠ sumHeap.b 9 ∧
    obs (valueBeforeRepair sumHeap 26) 10 ≠ obs sumHeap 10 := by decide

/-- The hypothesis `WF` is what excludes hand-made sharing: in a heap where two quantities hold the same
    Magnitude object, `abse` on one is seen through the other. -/
def sharedHeap : Heap :=
  { q := fun i => if i = 0 then some ⟨2, 3⟩ else if i = 1 then some ⟨2, 3⟩ else none,
    m := fun i => if i = 2 then some ⟨.scalar 0, .none⟩ else none,
    a := fun _ => none,
    b := fun i => if i = 3 then some ⟨4, 0⟩ else none,
    d := fun i => if i = 4 then some ⟨0, true⟩ else none,
    n := 5 }

example : obs (step sharedHeap (.abse 0)).1 1 ≠ obs sharedHeap 1 := by decide

end SciVerif.C07
