import SciVerif.Lemmas.C02

/-!
# C02 — A solver instance is unaffected by what it solved before

The independence theorems hold by construction of the model, and are proved by `rfl`: `solveI`
first applies `resetBufs`, which ignores the state it is given (`Model/C01.lean`, mirroring the
assignment at the entry of `solve`); `C02_reset_needed` shows that the body without that reset does
depend on the state.
The instance is a state machine over the two token buffers (`Model/C02.lean`); a failing call leaves
its tokens behind (that state is compared with the real instance after every call of every generated
history).  All theorems quantify over the operator table, the step table and the atom algebra, i.e.
over every customised solver.
-/
namespace SciVerif.C02
open SciVerif.C01 SciVerif.C01.Gen

variable {A : Type}

/-- **History independence.** Whatever sequence of calls -- succeeding or failing at any point --
    the instance went through, the next call returns (or raises) exactly what a fresh instance
    does.  For every operator table, step table and atom algebra. -/
theorem C02_history_independence (tbl : Table) (alg : AtomAlg A)
    (steps : List (List String × Otype)) (h : List (List Char)) (s : List Char) :
    (solveI tbl alg steps (runHistory tbl alg steps ⟨[], []⟩ h) s).2 = solve tbl alg steps s := rfl

/-- The same from arbitrary buffer contents: `solve` does not read the state it finds. -/
theorem C02_state_independence (tbl : Table) (alg : AtomAlg A)
    (steps : List (List String × Otype)) (st : Bufs A) (s : List Char) :
    solveI tbl alg steps st s = solveI tbl alg steps ⟨[], []⟩ s := rfl

/-- every outcome of a history equals the outcome of a fresh instance on that expression -/
theorem C02_outcomes_fresh (tbl : Table) (alg : AtomAlg A) (steps : List (List String × Otype))
    (st : Bufs A) (h : List (List Char)) :
    outcomes tbl alg steps st h = h.map (solve tbl alg steps) := by
  induction h generalizing st with
  | nil => rfl
  | cons s h ih => simp only [outcomes, List.map_cons, ih]; rfl

/-- The buffers are drained on the success path: after a successful call they are empty. -/
theorem C02_success_leaves_empty (tbl : Table) (alg : AtomAlg A)
    (steps : List (List String × Otype)) (st b : Bufs A) (s : List Char) (t : Tok A)
    (h : solveI tbl alg steps st s = (b, .ok t)) : b = ⟨[], []⟩ :=
  solveFromF_ok_empty tbl alg steps _ _ b s t h

/-- **Everything a call writes.** With `self.expr` in the state as well (the two buffers and the
    expression object are all that `solve` assigns): whatever the instance went through, the next
    outcome is a fresh instance's. -/
theorem C02_instance_independence (tbl : Table) (alg : AtomAlg A)
    (steps : List (List String × Otype)) (i : Inst A) (h : List (List Char)) (s : List Char) :
    ((Inst.run tbl alg steps i h).solve tbl alg steps s).2 = solve tbl alg steps s := rfl

/-- The same when the world changed in between: each earlier call may have run under a different
    atom algebra (a constructor reading variables that were changed between the calls). -/
theorem C02_history_independence_changing_atoms (tbl : Table) (steps : List (List String × Otype))
    (st : Bufs A) (h : List (AtomAlg A × List Char)) (alg : AtomAlg A) (s : List Char) :
    (solveI tbl alg steps (runHistoryW tbl steps st h) s).2 = solve tbl alg steps s := rfl

/-- **Nested argument solving uses a fresh state.** A call's arguments are solved by ONE nested
    instance, one after the other (as in the code); the values are those that independent fresh
    instances return, whatever state the nested instance starts in -- argument k is unaffected by
    arguments 1..k-1. -/
theorem C02_nested_fresh (tbl : Table) (alg : AtomAlg A) (steps : List (List String × Otype))
    (st0 : Bufs A) (args : List (List Char)) :
    solveArgs (fun st a => solveI tbl alg steps st a) st0 args = freshArgs tbl alg steps args := by
  induction args generalizing st0 with
  | nil => rfl
  | cons a as ih =>
    simp only [solveArgs, freshArgs]
    have e : (solveI tbl alg steps st0 a).2 = SciVerif.C01.solve tbl alg steps a := rfl
    cases hf : solveI tbl alg steps st0 a with
    | mk st' r =>
      rw [hf] at e
      simp only at e
      subst e
      generalize SciVerif.C01.solve tbl alg steps a = r
      cases r with
      | error m => rfl
      | ok t =>
        cases t with
        | op i x => rfl
        | none => simp only [ih st']; rfl
        | atom v => simp only [ih st']; rfl

/-- The same for the nested solver of every nesting depth inside `solve` itself (fuel `n`): the
    values of a whole argument list do not depend on the state `st0` or `st1` the nested instance
    starts in (each argument resets it). -/
theorem C02_nested_state_irrelevant (tbl : Table) (alg : AtomAlg A)
    (steps : List (List String × Otype)) (n : Nat) (st0 st1 : Bufs A) (args : List (List Char)) :
    solveArgs (fun st a => solveFromF tbl alg steps n (resetBufs st) a) st0 args
      = solveArgs (fun st a => solveFromF tbl alg steps n (resetBufs st) a) st1 args :=
  solveArgs_reset (fun b a => solveFromF tbl alg steps n b a) args st0 st1

/-- the history of DESIGN §9: `solve("1 + x")` raises, then `solve("2")` -/
def h1x : List Char := ['1', ' ', '+', ' ', 'x']

/-- A failing call does leave tokens behind (the state machine is not trivial): after
    `solve("1 + x")` the buffers hold the atom `1` and the `+` operator. -/
theorem C02_failure_leaves_tokens :
    (solveI dflt termAlg dfltSteps ⟨[], []⟩ h1x).2 = .error "atom" ∧
    ((solveI dflt termAlg dfltSteps ⟨[], []⟩ h1x).1.right.length = 2) := by
  unfold h1x
  rw [solveI_one_plus_x]
  exact ⟨rfl, rfl⟩

/-- The reset is what makes C02 true: the body of `solve` started on those leftovers
    (the method before commit 8818136) answers `1 + 2` to `solve("2")`. -/
theorem C02_reset_needed :
    (solveFrom dflt termAlg dfltSteps (solveI dflt termAlg dfltSteps ⟨[], []⟩ h1x).1 ['2']).2
      = .ok (.atom (.bin .add (.num ['1']) (.num ['2']))) ∧
    solve dflt termAlg dfltSteps ['2'] = .ok (.atom (.num ['2'])) := by
  unfold h1x
  rw [solveI_one_plus_x]
  exact ⟨solveFrom_leftover_two, congrArg Prod.snd solveI_two⟩

/-! Non-vacuity: a successful call exists (hypothesis of `C02_success_leaves_empty`). -/
example : solveI dflt termAlg dfltSteps ⟨[], []⟩ ['2'] = (⟨[], []⟩, .ok (.atom (.num ['2']))) :=
  solveI_two

end SciVerif.C02
