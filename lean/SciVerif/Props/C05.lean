import SciVerif.Lemmas.C05

/-!
# C05 — Temperature and logarithmic conversions follow their formulas and invert

Table facts are decided by the kernel over the *whole* tables
regenerated from `unit_types.py` on every run (`Generated/C05Tables.lean`); they are lifted
to statements about the conversion model `pick (unitTypes Gen.tables)` — i.e.
`Quantity._convert` with the regenerated `UNIT_TYPES` — for all real values, all non-zero
unit magnitudes (hence all prefixes) and scalars or arrays.
-/
namespace SciVerif.C05
open SciVerif.C04

/-- `UNIT_TYPES` tries the temperature class, then the logarithmic class, then the standard one. -/
theorem C05_unit_types_order :
    Gen.unitTypes = ["TemperatureUnitType", "LogarithmicUnitType", "StandardUnitType"] :=
  rfl

/-- Every `TemperatureUnitType._convert_<u>_<v>` method is exactly the standard affine map
    between the scales it sees (K, °C: `K − 273.15`, °F: `K·9/5 − 459.67`; degR and prefixed
    kelvin arrive as kelvin through the magnitude wrapper), and is named after its units. -/
theorem C05_temp_formulas : ∀ e ∈ Gen.tempMethods, tempEntryOk e = true := by
  decide +kernel

/-- For every ordered pair `(u, v)` of {K, Cel, degF, degR}, the four identities included: if the
    temperature class handles the pair (Cel or degF is among the two), the methods `u_v` and `v_u`
    both exist and are mutually inverse affine maps (`a·a' = 1`, `a'·b + b' = 0`). Each of the four
    units has a row in the dimension table (the second clause: a look-up of `u` succeeds), and its
    dimension vector is that of K; so the pairs the class does not handle (K, degR) have equal
    dimensions, and the linear rule (C04) is the one that answers them. The method of a unit handled
    by the temperature class to itself is `1·x + 0`. -/
theorem C05_temp_total_inverse :
    (∀ u ∈ temps, ∀ v ∈ temps, tempPairInv Gen.tables u v = true ∧
      mapGet (Gen.dims.map (fun d => (d.1, (0 : Rat)))) u = some 0 ∧
      (Gen.dims.find? (·.1 == u)).map (·.2) = (Gen.dims.find? (·.1 == "K")).map (·.2)) ∧
    ∀ u ∈ Gen.tempProcess, findTemp Gen.tempMethods (u ++ "_" ++ u) = some ⟨u ++ "_" ++ u, u, u, 1, 0⟩ := by
  decide +kernel

/-- degR's table magnitude is 5/9 up to the float's precision. -/
theorem C05_degR_magnitude :
    ∃ m, mapGet Gen.mags "degR" = some m ∧ |m - mkRat 5 9| ≤ mkRat 1 1000000000000000 := by
  refine ⟨_, rfl, ?_⟩
  decide +kernel

/-- Every documented level unit: its two table entries are `k·log10(x/ref)` (k = 1
    power-like, 2 amplitude-like) and `ref·10^(L/k)` with the documented reference level;
    B against PR/AR likewise with reference 1. -/
theorem C05_log_table_matches_doc : ∀ d ∈ docAll, docLevelOk Gen.tables Gen.mags d = true := by
  simp only [docLevelOk, mapGet, findLog_eq, Util.beq_eq_keyCode]
  decide +kernel

/-- Nepers are natural logarithms: `ln(x)` of an amplitude ratio, `½·ln(x)` of a power ratio. -/
theorem C05_neper_table_matches_doc : ∀ d ∈ docNepers, docNeperOk Gen.tables d = true := by
  decide +kernel

/-- Table entries between two documented dB-type units add `k·log10(ref_u/ref_v)` bels;
    all other `value + exp` entries are identities. -/
theorem C05_log_shifts_match_doc : ∀ e ∈ Gen.logConversions, shiftOk e = true := by
  decide +kernel

/-- Each table entry `X_Y` (and each method reachable by name) has its reverse `Y_X`, which
    undoes it: same `k ≠ 0`, `c·c' = 1`; shifts are opposite; `·c` against `/c`. -/
theorem C05_log_pairs_inverse :
    (∀ e ∈ Gen.logConversions, logEntryInv Gen.tables e = true) ∧
    (∀ e ∈ Gen.logMethods, logEntryInv Gen.tables e = true) := by
  simp only [logEntryInv, lookupLog, findLog_eq, Util.beq_eq_keyCode]
  decide +kernel

/-- Every logarithmic unit converts to itself by `value + 0`, and none is an offset
    temperature unit. -/
theorem C05_log_self_entries : ∀ s ∈ Gen.logProcess,
    (lookupLog Gen.tables (s ++ "_" ++ s)).map (·.fn) = some (.shift 0) ∧
    Gen.tempProcess.contains s = false := by
  simp only [lookupLog, findLog_eq, List.contains_eq_any_beq, Util.beq_eq_keyCode]
  decide +kernel

/-- The conversion the model performs for a pair handled by the temperature class is the
    standard affine map through kelvin, wrapped by the unit magnitudes. -/
theorem C05_temp_value (b1 b2 : BU ℝ) (u v : String) (e : TempEntry) (val : Mag ℝ)
    (hu : b1.units = [u]) (hv : b2.units = [v])
    (ht : (Gen.tempProcess.contains u || Gen.tempProcess.contains v) = true)
    (he : findTemp Gen.tempMethods (u ++ "_" ++ v) = some e) :
    Q.valueIn (unitTypes Gen.tables) ⟨val, b1⟩ b2
      = .ok (val.map (fun x => ((e.a : ℝ) * (x * b1.magnitude) + (e.b : ℝ)) / b2.magnitude)) :=
  Q.valueIn_ok (pick_temperature hu hv ht he)

/-- Round trip for every ordered pair of temperature units handled by the temperature
    class, every non-zero magnitude of the two units (all prefixes of kelvin), every real
    value or array: converting there and back restores value and units. -/
theorem C05_temp_roundtrip (b1 b2 : BU ℝ) (u v : String) (val : Mag ℝ)
    (hu : b1.units = [u]) (hv : b2.units = [v]) (hum : u ∈ temps) (hvm : v ∈ temps)
    (ht : (Gen.tempProcess.contains u || Gen.tempProcess.contains v) = true)
    (h1 : b1.magnitude ≠ 0) (h2 : b2.magnitude ≠ 0) :
    Q.to (unitTypes Gen.tables) (Q.to (unitTypes Gen.tables) ⟨val, b1⟩ b2).1 b1 = (⟨val, b1⟩, true) := by
  obtain ⟨e, e', he, he', hab, hb⟩ :=
    tempPairInv_spec (C05_temp_total_inverse.1 u hum v hvm).1 ht
  exact Q.to_roundtrip (pick_temperature hu hv ht he)
    (pick_temperature hv hu ((Bool.or_comm _ _).trans ht) he')
    (Mag.all_true _) fun x _ => affine_roundtrip x hab hb h1 h2

/-- Converting Cel or degF to itself is the identity. -/
theorem C05_temp_identity (b1 b2 : BU ℝ) (u : String) (val : Mag ℝ)
    (hu : b1.units = [u]) (hv : b2.units = [u]) (hp : u = "Cel" ∨ u = "degF")
    (hm : b1.magnitude = 1) (hm2 : b2.magnitude = 1) :
    Q.valueIn (unitTypes Gen.tables) ⟨val, b1⟩ b2 = .ok val := by
  have hup : u ∈ Gen.tempProcess := by
    rcases hp with rfl | rfl
    exacts [.head _, .tail _ (.head _)]
  rw [C05_temp_value b1 b2 u u _ val hu hv (by rw [List.contains_iff_mem.mpr hup]; rfl)
    (C05_temp_total_inverse.2 u hup), hm, hm2]
  refine congrArg Except.ok (Mag.map_id_of_all (Mag.all_true _) fun x _ => ?_)
  rw [Rat.cast_one, Rat.cast_zero, one_mul, mul_one, add_zero, div_one]

/-- For every documented level unit and its linear counterpart: the temperature class does not handle
    the pair, the logarithmic class does, the reference level is not 0 and the counterpart's table
    magnitude is not 0 (the first two select the class in `C05_log_value_matches_doc` and
    `C05_level_to_linear_matches_doc`). -/
theorem C05_doc_side_conditions : ∀ d ∈ docAll,
    (Gen.tempProcess.contains d.2.1 || Gen.tempProcess.contains d.1) = false ∧
    (Gen.logProcess.contains d.2.1 || Gen.logProcess.contains d.1) = true ∧
    d.2.2.2 ≠ 0 ∧ (∀ m, mapGet Gen.mags d.2.1 = some m → m ≠ 0) := by
  simp only [mapGet, List.contains_eq_any_beq, Util.beq_eq_keyCode]
  decide +kernel

/-- The documented definition, for every documented level unit `L` with counterpart `lin`
    (any prefixes on either side; `linSI` = factor from the given linear unit to the SI
    unit, i.e. its magnitude over the table magnitude `m` of the SI symbol; `p` = magnitude
    of the level unit): the model computes `k·log10(x·linSI/ref)/p`. -/
theorem C05_log_value_matches_doc (b1 b2 : BU ℝ) (L lin : String) (k ref : Rat) (val : Mag ℝ)
    (hd : (L, lin, k, ref) ∈ docAll) (hu : b1.units = [lin]) (hv : b2.units = [L]) :
    ∃ m : Rat, mapGet Gen.mags lin = some m ∧
    Q.valueIn (unitTypes Gen.tables) ⟨val, b1⟩ b2
      = .ok (val.map (fun x => specToLevel k ref b2.magnitude (b1.magnitude / (m : ℝ)) x)) := by
  obtain ⟨htt, ht, _⟩ := C05_doc_side_conditions _ hd
  obtain ⟨m, e, _, hm, he, _, hfn, _⟩ :=
    docLevelOk_spec (C05_log_table_matches_doc _ hd)
  refine ⟨m, hm, ?_⟩
  rw [Q.valueIn_ok
    (pick_logarithmic hu hv htt ht (lookupLog_of_findLog he)), hfn]
  exact congrArg (fun f => Except.ok (val.map f))
    (funext fun x => ratioB_apply_eq_specToLevel k ref m _ _ x)

/-- The documented definition read backwards: a level `y` (in a unit of `p` bels) converts to
    `ref·10^(y·p/k)` in the SI unit, divided by the target's factor to it. -/
theorem C05_level_to_linear_matches_doc (b1 b2 : BU ℝ) (L lin : String) (k ref : Rat) (val : Mag ℝ)
    (hd : (L, lin, k, ref) ∈ docAll) (hu : b1.units = [L]) (hv : b2.units = [lin]) :
    ∃ m : Rat, mapGet Gen.mags lin = some m ∧
    Q.valueIn (unitTypes Gen.tables) ⟨val, b1⟩ b2
      = .ok (val.map (fun y => specFromLevel k ref b1.magnitude (b2.magnitude / (m : ℝ)) y)) := by
  obtain ⟨htt, ht, _⟩ := C05_doc_side_conditions _ hd
  rw [Bool.or_comm] at htt ht
  obtain ⟨m, _, e', hm, _, he', _, hfn⟩ :=
    docLevelOk_spec (C05_log_table_matches_doc _ hd)
  refine ⟨m, hm, ?_⟩
  rw [Q.valueIn_ok
    (pick_logarithmic hu hv htt ht (lookupLog_of_findLog he')), hfn]
  exact congrArg (fun f => Except.ok (val.map f))
    (funext fun y => bRatio_apply_eq_specFromLevel k ref m _ _ y)

/-- Round trip for every pair of single units handled by the logarithmic class whose table
    entry has an inverse entry (all of them, by `C05_log_pairs_inverse`): any non-zero unit
    magnitudes (prefixes), every value in the domain of the forward map (positive argument
    of the logarithm). -/
theorem C05_log_roundtrip (b1 b2 : BU ℝ) (u v : String) (e e' : LogEntry) (val : Mag ℝ)
    (hu : b1.units = [u]) (hv : b2.units = [v])
    (htt : (Gen.tempProcess.contains u || Gen.tempProcess.contains v) = false)
    (ht : (Gen.logProcess.contains u || Gen.logProcess.contains v) = true)
    (he : lookupLog Gen.tables (u ++ "_" ++ v) = some e)
    (he' : lookupLog Gen.tables (v ++ "_" ++ u) = some e')
    (hinv : inverseFn e.fn e'.fn = true)
    (h1 : b1.magnitude ≠ 0) (h2 : b2.magnitude ≠ 0)
    (hdom : val.All (fun x => InDomain e.fn (x * b1.magnitude))) :
    Q.to (unitTypes Gen.tables) (Q.to (unitTypes Gen.tables) ⟨val, b1⟩ b2).1 b1 = (⟨val, b1⟩, true) :=
  Q.to_roundtrip (pick_logarithmic hu hv htt ht he)
    (pick_logarithmic hv hu ((Bool.or_comm _ _).trans htt) ((Bool.or_comm _ _).trans ht) he')
    hdom fun x hx => by
      rw [div_mul_cancel₀ _ h2, inverseFn_apply hinv hx, mul_div_cancel_right₀ _ h1]

/-- A logarithmic unit converts to itself — with any prefixes — as `x·p₁/p₂`, in
    particular as the identity when the prefixes agree. -/
theorem C05_log_identity (b1 b2 : BU ℝ) (s : String) (val : Mag ℝ)
    (hs : s ∈ Gen.logProcess) (hu : b1.units = [s]) (hv : b2.units = [s]) :
    Q.valueIn (unitTypes Gen.tables) ⟨val, b1⟩ b2
      = .ok (val.map (fun x => x * b1.magnitude / b2.magnitude)) := by
  obtain ⟨hself, htemp⟩ := C05_log_self_entries s hs
  obtain ⟨e, hl, hfn⟩ := Option.map_eq_some_iff.mp hself
  rw [Q.valueIn_ok (pick_logarithmic hu hv (by simp only [Gen.tables, htemp, Bool.or_self])
    (by simp only [Gen.tables, Bool.or_self, List.contains_iff_mem.mpr hs]) hl), hfn]
  simp only [LogFn.apply, ofRat_real, Rat.cast_zero, add_zero]

/-- `LogarithmicUnitType.add/sub` on two levels of the same unit (the right one possibly with
    another prefix, converted by `g`): the result is the power sum
    `10·log10(10^(a/10) ± 10^(b/10))` dB, for bels (`m = 1`), decibels (`m = 1/10`) and any
    other prefix. -/
theorem C05_level_add_sub (sub? : Bool) (b1 b2 : BU ℝ) (g : ℝ → ℝ) (x y : ℝ)
    (hd : b1.dims.eq b2.dims = true) (hu : b1.units = b2.units)
    (hg : pick (unitTypes Gen.tables) b2 b1 = .ok g) :
    levelOp Gen.tables sub? b1 b2 x y = .ok (specLevelOp sub? b1.magnitude x (g y)) := by
  simp only [levelOp, hd, hu, hg, Bool.not_true, bne_self_eq_false, Bool.false_eq_true, if_false]
  rw [← level_arith]

/-- `add/sub` on two levels of one logarithmic unit `s`: the right operand is re-expressed in the
    left operand's prefix; with equal prefixes: `a ⊕ b = 10·log10(10^(a/10) ± 10^(b/10))` dB. -/
theorem C05_level_add_sub_same_unit (sub? : Bool) (b1 b2 : BU ℝ) (s : String) (x y : ℝ)
    (hs : s ∈ Gen.logProcess) (hu : b1.units = [s]) (hv : b2.units = [s])
    (hd : b1.dims.eq b2.dims = true) :
    levelOp Gen.tables sub? b1 b2 x y
      = .ok (specLevelOp sub? b1.magnitude x (y * b2.magnitude / b1.magnitude)) := by
  have h := C05_log_identity b2 b1 s (.scalar y) hs hv hu
  cases hp : pick (unitTypes Gen.tables) b2 b1 with
  | error e => rw [Q.valueIn_error hp] at h; exact nomatch h
  | ok g =>
    rw [Q.valueIn_ok hp] at h
    rw [C05_level_add_sub sub? b1 b2 g x y hd (hu.trans hv.symm) hp, Mag.scalar.inj (Except.ok.inj h)]

/-- Histories: however many additions, subtractions and reads were evaluated before on the
    same operand objects, the operands are as constructed afterwards and every operation
    yields what it yields on the operands as constructed — the second `a+b` equals the first.
    In the model this holds by construction (`lvStep` hands the store on as it got it: `add`/`sub` work
    on copies); the correspondence run compares it with the code. -/
theorem C05_level_history (st : List (ℝ × BU ℝ)) (ops : List LvOp) :
    (lvRun Gen.tables st ops).1 = st ∧
    (lvRun Gen.tables st ops).2 = ops.map (fun op => (lvStep Gen.tables st op).2) := by
  rw [lvRun_eq]
  exact ⟨rfl, rfl⟩

/-- Opening and closing a unit environment restores `UNIT_TYPES` exactly, whichever
    conversion classes its units name — built-in ones included. -/
theorem C05_env_restores_unit_types (types defs : List String) :
    envClose (envOpen types defs).1 (envOpen types defs).2 = types := by
  obtain ⟨rec', he, hn⟩ := envOpenAux_spec types defs types [] (by simp) List.nodup_nil
  simp only [envOpen, he]
  exact envClose_reverse_append types rec' hn


/-- Every conversion after a unit environment is decided by the same classes in the same order
    as before it. -/
theorem C05_conversions_unchanged_by_environment (T : Tables) (defs : List String) :
    (unitTypes { T with unitTypes := envClose (envOpen T.unitTypes defs).1 (envOpen T.unitTypes defs).2 }
      : List (Rule ℝ)) = unitTypes T := by
  simp only [unitTypes, C05_env_restores_unit_types]

section examples
-- a concrete temperature pair satisfying the hypotheses of C05_temp_roundtrip
example : ("Cel" ∈ temps ∧ "degF" ∈ temps) ∧ (Gen.tempProcess.contains "Cel" || Gen.tempProcess.contains "degF") = true ∧
    ∃ e, findTemp Gen.tempMethods ("Cel" ++ "_" ++ "degF") = some e ∧ e.a = mkRat 9 5 ∧ e.b = 32 :=
  have h : ("Cel" ∈ temps ∧ "degF" ∈ temps) ∧
      (Gen.tempProcess.contains "Cel" || Gen.tempProcess.contains "degF") = true ∧
      findTemp Gen.tempMethods ("Cel" ++ "_" ++ "degF") = some ⟨"Cel_degF", "Cel", "degF", mkRat 9 5, 32⟩ := by
    decide +kernel
  ⟨h.1, h.2.1, _, h.2.2, rfl, rfl⟩
-- a concrete logarithmic pair satisfying the hypotheses of C05_log_roundtrip / C05_log_value_matches_doc
example : ∃ e e', lookupLog Gen.tables ("W" ++ "_" ++ "Bm") = some e ∧ lookupLog Gen.tables ("Bm" ++ "_" ++ "W") = some e' ∧
    inverseFn e.fn e'.fn = true ∧ e.fn = .ratioB 1 (1 / (mkRat 1 1000 * 1000)) ∧ ("Bm", "W", (1 : Rat), mkRat 1 1000) ∈ docAll :=
  ⟨⟨"W_Bm", "W", "Bm", .ratioB 1 1⟩, ⟨"Bm_W", "Bm", "W", .bRatio 1 1⟩, by decide +kernel⟩
-- the domain condition is satisfiable: 2 W (magnitude 1000) has a positive logarithm argument
example : InDomain (.ratioB 1 1) ((2 : ℝ) * 1000) := by
  simp only [InDomain]; norm_num
-- the power sum: two equal levels add 10·log10(2) dB ≈ 3.01 dB (here in bels: log10 2)
example : specLevelOp false (1 : ℝ) 0 0 = Real.logb 10 2 := by
  simp only [specLevelOp, ofRat_real, log10_real, pow10_real]
  norm_num
end examples

end SciVerif.C05
