import SciVerif.Lemmas.C12
import Mathlib.Algebra.Order.Ring.Rat

/-!
# C12 — Densities, volume and masses of matter are mutually consistent

`α` is an arbitrary
linearly ordered field, `cs` any non-empty list of components with positive proportions and
masses (an element with proportion `p` is the one-component list `(p, m)`, a substance the list of its
elements with their counts, a material the list of its substances), `da > 0` the magnitude of
the Dalton, `h` either construction history (`dictHistory`: `_norm` after every `add`, or
`stringHistory`: one `_norm`).  Quantities given by the user are pairs (value, unit magnitude).

`MASS_FRACTION` materials: `composite_mass` is then a bare number and `Matter._norm` raises for
every attached density (known finding, see `C12_consistent_counterexample`); the theorems carry
the guard `mode ≠ .massFraction`.
-/
-- the `variable` line gives every statement the ordered field; those that need only the field would be flagged
set_option linter.unusedSectionVars false
namespace SciVerif.C12
open SciVerif.C11
variable {α : Type} [Field α] [LinearOrder α] [IsStrictOrderedRing α]

/-- the histories the constructors produce -/
def IsHistory (mode : Mode) (cs : List (Comp α)) (h : List (Option α)) : Prop :=
  h = dictHistory mode cs ∨ h = stringHistory mode cs

/-- Full statement: for every mode, attaching a mass density or a number density (and optionally
    a volume) to a composite yields a state in which `rho = n · M`, the attached density is the
    one reported, and `mass = rho · V`. -/
def C12_consistent_statement (α : Type) [Field α] [LinearOrder α] [IsStrictOrderedRing α] : Prop :=
  ∀ (mode : Mode) (cs : List (Comp α)) (da : α) (rho n vol : Option (Q α)) (h : List (Option α)),
    cs ≠ [] → Pos cs → 0 < da → (rho.isSome ∨ n.isSome) → IsHistory mode cs h →
    ∃ s r v, runHistory da h (MState.init rho n vol) = some s ∧ s.rho = some r ∧ s.n = some v ∧
      r = v * (compositeMass mode cs * da) ∧
      (∀ q, rho = some q → r = q.std) ∧ (∀ q, rho = none → n = some q → v = q.std) ∧
      s.mass = vol.map (fun V => r * V.std)

/-- The full statement fails on the code as it is: a `MASS_FRACTION` material with a mass
    density raises (`g/cm3` divided by a bare number cannot be converted to `cm-3`). -/
theorem C12_consistent_counterexample : ¬ C12_consistent_statement Rat := by
  intro hS
  obtain ⟨s, r, v, h, _⟩ := hS .massFraction [⟨1, 18⟩] 1 (some ⟨1, 1⟩) none none
    (stringHistory .massFraction [⟨1, 18⟩]) (by simp)
    (by intro c hc; simp only [List.mem_singleton] at hc; subst hc; constructor <;> norm_num)
    (by norm_num) (Or.inl rfl) (Or.inr rfl)
  revert h
  simp [stringHistory, compositeMassQ, runHistory, normStep, MState.init]

/-- Proved part, for **any** earlier history: under the guard `mode ≠ MASS_FRACTION`, however many
    times `_norm` ran before (constructor, `add()` of new or of already present components, …) with
    whatever composite masses, after the `_norm` that sees the final components the state is the
    closed form of the final composite. -/
theorem C12_any_history_partial (mode : Mode) (hm : mode ≠ .massFraction) (cs : List (Comp α))
    (da : α) (rho n vol : Option (Q α)) (Ms : List α)
    (hne : cs ≠ []) (hp : Pos cs) (hda : 0 < da) (hg : rho.isSome ∨ n.isSome) :
    ∃ s r v, runHistory da (Ms.map some ++ [compositeMassQ mode cs]) (MState.init rho n vol) = some s ∧
      s.rho = some r ∧ s.n = some v ∧ r = v * (compositeMass mode cs * da) ∧
      (∀ q, rho = some q → r = q.std) ∧ (∀ q, rho = none → n = some q → v = q.std) ∧
      s.mass = vol.map (fun V => r * V.std) := by
  rw [compositeMassQ_number mode hm]
  obtain ⟨g, d, hreach, hrho, hn⟩ := reach_init rho n vol hg
  obtain ⟨r, v, hr, hv, hrv, hgr, hgv, hmass, _⟩ := closed_consistent da (compositeMass mode cs)
    (compositeMass_pos mode cs hne hp).ne' hda.ne' g d (vol.map Q.std)
  refine ⟨_, r, v, runHistory_reach da g d _ Ms _ _ hreach, hr, hv, hrv, ?_, ?_, ?_⟩
  · intro q hq
    rw [hgr (hrho q hq).1, (hrho q hq).2]
  · intro q h0 hq
    rw [hgv (hn q h0 hq).1, (hn q h0 hq).2]
  · rw [hmass, Option.map_map]
    rfl

/-- The statement under the guard, for the histories the constructors produce — in particular the
    reported densities do not depend on how often `_norm` ran while the composite was built. -/
theorem C12_consistent_partial (mode : Mode) (hm : mode ≠ .massFraction) (cs : List (Comp α))
    (da : α) (rho n vol : Option (Q α)) (h : List (Option α))
    (hne : cs ≠ []) (hp : Pos cs) (hda : 0 < da) (hg : rho.isSome ∨ n.isSome)
    (hh : IsHistory mode cs h) :
    ∃ s r v, runHistory da h (MState.init rho n vol) = some s ∧ s.rho = some r ∧ s.n = some v ∧
      r = v * (compositeMass mode cs * da) ∧
      (∀ q, rho = some q → r = q.std) ∧ (∀ q, rho = none → n = some q → v = q.std) ∧
      s.mass = vol.map (fun V => r * V.std) := by
  obtain ⟨Ms, rfl⟩ := history_form mode hm cs h hh
  exact C12_any_history_partial mode hm cs da rho n vol Ms hne hp hda hg

/-- Component rows of `data_matter` (number modes): the component number densities are the
    component amounts times `n`, the particle numbers `n_i · V`, and the `sum` row of the mass
    densities is `n · M` (= `rho` by `C12_consistent_partial`), that of the masses `n · M · V`
    (= `mass`), that of the number densities `n · Σ p_i`. -/
theorem C12_table (mode : Mode) (hm : mode ≠ .massFraction) (cs : List (Comp α)) (da n V : α) :
    nCol cs n = cs.map (fun c => amount mode c * n) ∧
    NCol cs n V = (nCol cs n).map (· * V) ∧
    (nCol cs n).sum = propNorm mode cs * n ∧
    (rhoCol da cs n).sum = n * (compositeMass mode cs * da) ∧
    (NCol cs n V).sum = propNorm mode cs * n * V ∧
    (MCol da cs n V).sum = n * (compositeMass mode cs * da) * V := by
  refine ⟨?_, rfl, ?_, ?_, ?_, ?_⟩
  · cases mode <;> first | rfl | exact absurd rfl hm
  · rw [sum_nCol, propNorm_number mode hm]
  · rw [sum_rhoCol, compositeMass_number mode hm]; ring
  · rw [NCol, sum_map_id_mul_right, sum_nCol, propNorm_number mode hm]
  · rw [MCol, sum_map_id_mul_right, sum_rhoCol, compositeMass_number mode hm]; ring

/-- Tables are read-only views: a selection `components=[…]` lists exactly the selected rows of
    the full table, its `sum` row is the sum over the selected components, and selecting every row
    gives the full column back. -/
theorem C12_select_rows (da : α) (cs : List (Comp α)) (s : MState α) (t : Table α)
    (h : dataMatter da cs s = some t) (keep : List Bool) :
    (t.select keep).n = C11.select keep t.n ∧ (t.select keep).rho = C11.select keep t.rho ∧
    (t.select keep).sums.2.1 = (C11.select keep t.rho).sum ∧
    (t.select (List.replicate t.n.length true)).n = t.n := by
  refine ⟨rfl, rfl, rfl, ?_⟩
  simp only [Table.select]
  exact C11.select_all t.n

/-- End to end: whatever density was attached and however the composite was built, the `sum`
    row of `data_matter` reports the mass density of the object in column `rho` and its total
    mass in column `M`. -/
theorem C12_sums_match (mode : Mode) (hm : mode ≠ .massFraction) (cs : List (Comp α))
    (da : α) (rho n vol : Option (Q α)) (h : List (Option α))
    (hne : cs ≠ []) (hp : Pos cs) (hda : 0 < da) (hg : rho.isSome ∨ n.isSome)
    (hh : IsHistory mode cs h) :
    ∃ s t, runHistory da h (MState.init rho n vol) = some s ∧ dataMatter da cs s = some t ∧
      some t.sums.2.1 = s.rho ∧ t.sums.2.2.2 = s.mass := by
  obtain ⟨Ms, rfl⟩ := history_form mode hm cs h hh
  rw [compositeMassQ_number mode hm]
  obtain ⟨g, d, hreach, _, _⟩ := reach_init rho n vol hg
  obtain ⟨r, v, hr, hv, hrv, _, _, hmass, hvol⟩ := closed_consistent da (compositeMass mode cs)
    (compositeMass_pos mode cs hne hp).ne' hda.ne' g d (vol.map Q.std)
  refine ⟨_, ⟨nCol cs v, rhoCol da cs v, (vol.map Q.std).map (NCol cs v),
      (vol.map Q.std).map (MCol da cs v)⟩,
    runHistory_reach da g d _ Ms _ _ hreach, by simp [dataMatter, hv, hvol], ?_, ?_⟩
  · simp only [Table.sums]
    -- the conjunct of `C12_table` about `Σ rho_i` does not mention the volume: any value serves for it
    rw [(C12_table mode hm cs da v 0).2.2.2.1, hr, hrv]
  · simp only [Table.sums, hmass]
    cases vol with
    | none => rfl
    | some V =>
      simp only [Option.map_some]
      rw [(C12_table mode hm cs da v V.std).2.2.2.2.2, hrv]

/-- The results do not depend on the units of the inputs: two descriptions of the same physical
    quantities (equal values in the standard unit) lead to the same state, hence to the same
    densities, mass and table. -/
theorem C12_unit_independent (rho n vol rho' n' vol' : Option (Q α))
    (hr : rho.map Q.std = rho'.map Q.std) (hn : n.map Q.std = n'.map Q.std)
    (hv : vol.map Q.std = vol'.map Q.std) :
    (MState.init rho n vol : MState α) = MState.init rho' n' vol' := by
  have h1 : rho.isSome = rho'.isSome := by
    cases rho <;> cases rho' <;> simp_all
  have h2 : n.isSome = n'.isSome := by
    cases n <;> cases n' <;> simp_all
  simp only [MState.init, hr, hn, hv, h1, h2]

/-- e.g. the same density written in a unit `u` times larger -/
theorem C12_unit_rescale (v f u : α) (hu : u ≠ 0) : (⟨v / u, f * u⟩ : Q α).std = (⟨v, f⟩ : Q α).std := by
  simp only [Q.std]; field_simp

/-! Non-vacuity: water (H₂, O with rounded masses) with 1 g/cm³ given in kg/m³ and one litre. -/
def exCs : List (Comp Rat) := [⟨2, 1⟩, ⟨1, 16⟩]

example : exCs ≠ [] ∧ Pos exCs ∧ IsHistory .number exCs (dictHistory .number exCs) := by
  refine ⟨by simp [exCs], ?_, Or.inl rfl⟩
  intro c hc
  simp only [exCs, List.mem_cons, List.not_mem_nil, or_false] at hc
  rcases hc with rfl | rfl <;> constructor <;> norm_num

example : runHistory (1/2 : Rat) (dictHistory .number exCs)
    (MState.init (some ⟨1000, 1/1000⟩) none (some ⟨1, 1000⟩)) =
    some ⟨some 1, some (1/9), some 1000, some 1000, false⟩ := by decide +kernel

example : runHistory (1/2 : Rat) (dictHistory .number exCs)
    (MState.init none (some ⟨1/9, 1⟩) (some ⟨1, 1000⟩)) =
    some ⟨some 1, some (1/9), some 1000, some 1000, true⟩ := by decide +kernel

end SciVerif.C12
