import SciVerif.Lemmas.C20Table
import SciVerif.Lemmas.C20Rows

/-!
# C20 — Table, row and grid helpers behave like their simple models
-/
namespace SciVerif.C20
variable {K V : Type} [DecidableEq K]

/-- ParameterTable (keyed): after *any* operation sequence from the empty table
    (i) every output equals the output of the insertion-ordered-map specification,
    (ii) the dict content equals the specification state, (iii) `_keys` is exactly the
    dict's key order and has no duplicates. -/
theorem C20_table_refines (ops : List (Op K V)) :
    ((Tbl.init : Tbl K V).run ops).2 = (specRun [] ops).2 ∧
    ((Tbl.init : Tbl K V).run ops).1.data = (specRun [] ops).1 ∧
    ((Tbl.init : Tbl K V).run ops).1.keys = ((Tbl.init : Tbl K V).run ops).1.data.map Prod.fst ∧
    ((Tbl.init : Tbl K V).run ops).1.keys.Nodup := by
  obtain ⟨e, hn⟩ := run_refines ([] : List (K × V)) List.nodup_nil ops
  rw [show (Tbl.init : Tbl K V) = ⟨([] : List (K × V)).map Prod.fst, []⟩ from rfl, e]
  exact ⟨rfl, rfl, rfl, hn⟩

/-- The specification really is a map: reading a key just written returns the value. -/
theorem C20_spec_get_set (m : List (K × V)) (k : K) (v : V) : dget (dset m k v) k = some v := by
  fun_induction dset m k v with
  | case1 => exact dget_cons_self ..
  | case2 => exact dget_cons_self ..
  | case3 k' v' t k v h ih => rw [dget_cons_ne h, ih]

/-- The specification is a map: writing one key does not disturb the value under another. -/
theorem C20_spec_get_set_other (m : List (K × V)) (k k2 : K) (v : V) (hne : k2 ≠ k) :
    dget (dset m k v) k2 = dget m k2 := by
  fun_induction dset m k v with
  | case1 => exact dget_cons_ne hne.symm ..
  | case2 v' t k v => rw [dget_cons_ne hne.symm, dget_cons_ne hne.symm]
  | case3 k' v' t k v h ih => simp only [dget, ih hne]

/-- Deleting removes the key. -/
theorem C20_spec_get_del (m : List (K × V)) (k : K) (hn : (m.map Prod.fst).Nodup) :
    dget (ddel m k) k = none :=
  dget_eq_none (by rw [map_fst_ddel]; exact fun h => (hn.mem_erase_iff.mp h).1 rfl)

/-- RowCollector: appending a row (as list) to a well-formed collector appends exactly that
    row (truncated to the number of columns) to the row view and keeps all earlier rows. -/
theorem C20_rows_preserved {α : Type} (r : RC α) (row : List α) (h : r.WF)
    (hl : r.cols.length ≤ row.length) :
    ∃ r', r.appendRow row = some r' ∧ r'.WF ∧ r'.names = r.names ∧
      r'.rows = r.rows ++ [row.take r.cols.length] := by
  obtain ⟨hne, hlen⟩ := h
  obtain ⟨names, cols⟩ := r
  cases cols with
  | nil => exact absurd rfl hne
  | cons c cs =>
    cases row with
    | nil => cases hl
    | cons v vs =>
      -- `size` reads the first column: `c.length` before, `(c ++ [v]).length` after
      refine ⟨⟨names, List.zipWith (fun c v => c ++ [v]) (c :: cs) (v :: vs)⟩,
        if_neg (Nat.not_lt.mpr hl), ⟨List.cons_ne_nil _ _, ?_⟩, rfl, ?_⟩
      · intro c' hc'
        show c'.length = (c ++ [v]).length
        rw [List.length_append]; exact appendCols_length _ _ c.length hlen c' hc'
      · show (List.range (c ++ [v]).length).map _ = (List.range c.length).map _ ++ _
        rw [List.length_append, List.length_singleton, List.range_succ, List.map_append,
          List.map_singleton]
        congr 1
        · exact List.map_congr_left fun i hi => (appendCols_row _ _ c.length i hlen hl
            (Nat.le_of_lt (List.mem_range.mp hi))).trans (if_pos (List.mem_range.mp hi))
        · exact congrArg (· :: []) ((appendCols_row _ _ c.length _ hlen hl (Nat.le_refl _)).trans
            (if_neg (Nat.lt_irrefl _)))

/-- Any sequence of list-appends: the row view is exactly the list of appended rows. -/
theorem C20_rows_preserved_seq {α : Type} (r : RC α) (rows : List (List α)) (h : r.WF)
    (hl : ∀ row ∈ rows, row.length = r.cols.length) :
    ∃ r', rows.foldlM (fun s row => RC.appendRow s row) r = some r' ∧ r'.WF ∧
      r'.cols.length = r.cols.length ∧ r'.rows = r.rows ++ rows := by
  induction rows generalizing r with
  | nil => exact ⟨r, rfl, h, rfl, by simp⟩
  | cons row rest ih =>
    have hrow : row.length = r.cols.length := hl row (List.mem_cons_self ..)
    obtain ⟨r1, e1, w1, _, rows1⟩ := C20_rows_preserved r row h (Nat.le_of_eq hrow.symm)
    have hc1 := appendRow_cols_length (Nat.le_of_eq hrow.symm) e1
    obtain ⟨r', e', w', c', rows'⟩ :=
      ih r1 w1 (fun x hx => hc1 ▸ hl x (List.mem_cons_of_mem _ hx))
    refine ⟨r', by rw [List.foldlM_cons, e1]; exact e', w', c'.trans hc1, ?_⟩
    rw [rows', rows1, ← hrow, List.take_length, List.append_assoc]
    rfl

/-- RowCollector.sort: whatever index list `argsort` returns, as long as it is a permutation
    of the row indices, whole rows are permuted (the multiset of rows is unchanged). -/
theorem C20_sort_perm {α : Type} (r : RC α) (ids : List Nat) (h : r.WF)
    (hp : ids.Perm (List.range r.size)) :
    (r.sortWith ids).WF ∧ (r.sortWith ids).rows = takeIdx r.rows ids ∧
      (r.sortWith ids).rows.Perm r.rows := by
  have hid : ∀ i ∈ ids, i < r.size := fun i hi => List.mem_range.mp (hp.mem_iff.mp hi)
  obtain ⟨w, e⟩ := sortWith_rows r ids h hid
  refine ⟨w, e, ?_⟩
  rw [e]
  apply takeIdx_perm
  rw [RC.rows_length]; exact hp

/-- RowCollector.sort: row `j` of the result is row `ids[j]` of the input, so the key column of the
    result is the key column re-indexed by `ids` (its order is then `argsort`'s affair: `ids` is a parameter). -/
theorem C20_sort_sorted {α : Type} (r : RC α) (ids : List Nat) (h : r.WF)
    (hid : ∀ i ∈ ids, i < r.size) (j : Nat) (hj : j < ids.length) :
    (r.sortWith ids).rows[j]? = r.rows[ids[j]]? := by
  obtain ⟨_, e⟩ := sortWith_rows r ids h hid
  rw [e, takeIdx_getElem? _ _ (fun i hi => (RC.rows_length r).symm ▸ hid i hi),
    List.getElem?_eq_getElem hj]
  rfl

/-- DataPlotGrid: the data cells and the missing cells together are exactly the cell
    indices `0 … ncols*nrows-1`, each once. -/
theorem C20_grid_partition (n ncols : Nat) (hc : 0 < ncols) (tr : Bool) :
    (gridItems n ncols false tr).map (·.1) ++ (gridItems n ncols true tr).map (·.1) =
      List.range (ncols * gridRows n ncols) := by
  have hfst : ∀ i, (if tr = true then (i, cellT (gridRows n ncols) i) else (i, cellN ncols i)).1 = i :=
    fun i => by cases tr <;> rfl
  simp only [gridItems, List.map_map, Function.comp_def, hfst, List.map_id', Bool.false_eq_true,
    if_false, if_true]
  have : List.range n = (List.range (ncols * gridRows n ncols)).take n := by
    rw [List.take_range, Nat.min_eq_left (gridRows_bounds n ncols hc).1]
  rw [this, List.take_append_drop]

/-- The grid has no spare row: fewer than `ncols` cells are missing. -/
theorem C20_grid_tight (n ncols : Nat) (hc : 0 < ncols) :
    n ≤ ncols * gridRows n ncols ∧ ncols * gridRows n ncols < n + ncols :=
  gridRows_bounds n ncols hc

/-- Normal order: cell index ↦ (row, col) is a bijection from `0 … R*C-1` onto the grid. -/
theorem C20_grid_cover (R C : Nat) (hC : 0 < C) :
    (∀ i, i < C * R → (cellN C i).1 < R ∧ (cellN C i).2 < C) ∧
    (∀ i j, cellN C i = cellN C j → i = j) ∧
    (∀ r c, r < R → c < C → ∃ i, i < C * R ∧ cellN C i = (r, c)) :=
  ⟨fun i hi => cellN_bounds R C i hC hi, cellN_inj C, fun r c hr hc => cellN_surj R C r c hr hc⟩

/-- Transposed order: the same for (i % R, i / R). -/
theorem C20_grid_cover_transposed (R C : Nat) (hR : 0 < R) :
    (∀ i, i < C * R → (cellT R i).1 < R ∧ (cellT R i).2 < C) ∧
    (∀ i j, cellT R i = cellT R j → i = j) ∧
    (∀ r c, r < R → c < C → ∃ i, i < C * R ∧ cellT R i = (r, c)) :=
  ⟨fun i hi => cellT_bounds R C i hR hi, cellT_inj R, fun r c hr hc => cellT_surj R C r c hr hc⟩

/-- DataCombination: `values()` is exactly the Cartesian product of the item lists. -/
theorem C20_product_mem {α : Type} (items : List (List α)) (v : List α) :
    v ∈ comboValues items ↔ InProd v items := mem_product items v

/-- DataCombination: `values()` has as many entries as the product of the list lengths. -/
theorem C20_product_length {α : Type} (items : List (List α)) :
    (comboValues items).length = (items.map List.length).prod := length_product items

/-- DataCombination: `keys()` enumerates every index tuple exactly once. -/
theorem C20_product_keys {α : Type} (items : List (List α)) :
    (comboKeys items).Nodup ∧ (comboKeys items).length = (items.map List.length).prod ∧
    ∀ ks, ks ∈ comboKeys items ↔ InProd ks (items.map (fun l => List.range l.length)) := by
  refine ⟨?_, ?_, fun ks => mem_product _ ks⟩
  · apply product_nodup
    intro l hl
    simp only [List.mem_map] at hl
    obtain ⟨l0, _, rfl⟩ := hl
    exact List.nodup_range
  · simp [comboKeys, length_product, List.map_map, Function.comp_def]

/-- DataCombination: `items()` pairs every index tuple with exactly the tuple of items it indexes:
    the key list is `keys()`, the looked-up values are `values()`, position by position,
    and no lookup is out of range. -/
theorem C20_product_items_aligned {α : Type} (items : List (List α)) :
    (comboItems items).map (·.1) = comboKeys items ∧
    (comboItems items).map (·.2) = (comboValues items).map some := by
  constructor
  · simp [comboItems, List.map_map, Function.comp_def]
  · simp only [comboItems, List.map_map, Function.comp_def, comboValues]
    exact combo_lookup items

/-- RowCollector: appending a dict that has exactly the column names (in any order) is the
    same as appending the list of its values read in column order. -/
theorem C20_dict_row {α : Type} (r : RC α) (kvs : List (String × α)) (vals : List α)
    (hk : ∀ kv ∈ kvs, kv.1 ∈ r.names)
    (hv : r.names.mapM (fun n => dget kvs n) = some vals) :
    r.appendDict kvs = r.appendRow vals := by
  unfold RC.appendDict
  have : kvs.any (fun kv => !(r.names.contains kv.1)) = false := by
    rw [List.any_eq_false]
    intro kv hkv
    simp [hk kv hkv]
  rw [this]
  simp [hv]

/-! Non-vacuity: concrete instances of the hypotheses used above. -/
example : (RC.mk ["a", "b"] [[1, 2], [3, 4]] : RC Nat).WF := by
  refine ⟨by simp, ?_⟩; intro c hc; simp at hc; rcases hc with rfl | rfl <;> rfl
example : [1, 0].Perm (List.range (RC.mk ["a", "b"] [[1, 2], [3, 4]] : RC Nat).size) := by
  decide +kernel
example : ((Tbl.init : Tbl String Nat).run [.append "a" 1, .append "b" 2, .append "a" 3,
    .del "a", .getPos (-1), .keys]).2 = [.unit, .unit, .unit, .unit, .val 2, .keys ["b"]] := by
  decide +kernel
example : (["a", "b"] : List String).mapM (fun n => dget [("b", 2), ("a", 1)] n) = some [1, 2] := by
  decide +kernel
example : gridItems 5 3 true false = [(5, 1, 2)] := by decide +kernel

end SciVerif.C20
