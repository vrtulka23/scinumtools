import SciVerif.Lemmas.C17Declared
import SciVerif.Generated.C17Units

/-!
# C17 — References deliver the referenced node's current value and unit

Property theorems with their examples (helper lemmas and the notions of the refinement part: `Lemmas/C17*.lean`):
first what the single operations do — query, import, injection and the unit rule, slices, copies —, then, from
`C17_refinement_partial` on, the refinement of the parse loop to the path-keyed specification.  All theorems
quantify over all environments / node lists / lines / values / slice lists; none is bounded.
-/
namespace SciVerif.C17

/-- the attributes an import has to leave unchanged: type, dimension, unit, value, constraints -/
def sameAttrs (a b : Node) : Prop :=
  a.kw = b.kw ∧ a.dims = b.dims ∧ a.unitsRaw = b.unitsRaw ∧ a.value = b.value ∧
  a.constant = b.constant ∧ a.condition = b.condition ∧ a.format = b.format ∧
  a.tags = b.tags ∧ a.options = b.options ∧ a.defined = b.defined

/-- `NodeList.query` returns exactly the matching nodes, renamed: characterisation of membership. -/
theorem C17_query_select (ns : List Node) (q : Query) (n' : Node) :
    n' ∈ query ns q ↔ ∃ n ∈ ns, qMatches q n = true ∧ n' = qRename q n :=
  mem_query ns q n'

/-- `NodeList.query` selects in the order of the node list (it is a list homomorphism) and never more nodes than there are. -/
theorem C17_query_order (a b : List Node) (q : Query) :
    query (a ++ b) q = query a q ++ query b q ∧ (query a q).length ≤ a.length := by
  refine ⟨by simp [query, List.filter_append], ?_⟩
  simp only [query, List.length_map]
  exact List.length_filter_le _ _

/-- renaming touches nothing but the name -/
theorem C17_query_attrs (q : Query) (n : Node) : sameAttrs (qRename q n) n := by
  obtain ⟨nm, e⟩ := qRename_eq q n
  rw [e]
  exact ⟨rfl, rfl, rfl, rfl, rfl, rfl, rfl, rfl, rfl, rfl⟩

/-- `{?*}`: all nodes, names unchanged. -/
theorem C17_import_all (ns : List Node) : query ns (parseQuery ['*']) = ns := by
  rw [show parseQuery ['*'] = .all by simp [parseQuery], query_all]

/-- `{?path.*}`: the query text `path.*` is read as "children of `path`". -/
theorem C17_parse_children (p : Str) : parseQuery (p ++ ['.', '*']) = .children (p ++ ['.']) :=
  parseQuery_children p

/-- `{?path.*}` selects exactly the nodes whose name starts with `path.`, the prefix stripped. -/
theorem C17_import_children (ns : List Node) (p : Str) (n' : Node) :
    n' ∈ query ns (parseQuery (p ++ ['.', '*'])) ↔
      ∃ n ∈ ns, (p ++ ['.']).isPrefixOf n.name = true ∧
        n' = { n with name := n.name.drop (p.length + 1) } := by
  rw [parseQuery_children, mem_query]
  simp [qMatches, qRename]

/-- `{?path}` (a query that is neither `*` nor ends in `.*`): exactly the node of that name,
    re-rooted to its last component. -/
theorem C17_import_single (ns : List Node) (q : Str) (n' : Node)
    (h1 : q ≠ ['*']) (h2 : q.drop (q.length - 2) ≠ dotStar) :
    n' ∈ query ns (parseQuery q) ↔ ∃ n ∈ ns, n.name = q ∧ n' = { n with name := lastComp n.name } := by
  have : parseQuery q = .exact q := by simp [parseQuery, h1, h2]
  rw [this, mem_query]
  simp [qMatches, qRename]

-- the two hypotheses of `C17_import_single` hold for the query text `a.b`
example : (['a', '.', 'b'] : Str) ≠ ['*'] ∧
    (['a', '.', 'b'] : Str).drop ((['a', '.', 'b'] : Str).length - 2) ≠ dotStar := by decide

/-- the last component really is what follows the last dot -/
theorem C17_lastComp (p c : Str) (hc : '.' ∉ c) : lastComp (p ++ '.' :: c) = c ∧ lastComp c = c :=
  ⟨lastComp_append p c hc, lastComp_nodot c hc⟩

/-- `ImportNode.parse`: the nodes handed to the main loop are exactly the requested nodes (at
    least one), each with unchanged type, dimension, unit, value and constraints, its name
    re-rooted by the import line's name, carrying its current value as raw value and no reference. -/
theorem C17_import_nodes (env : Env) (imp : Node) (res : List Node)
    (h : importNodes env imp = .ok res) :
    ∃ r ns, imp.ref = some r ∧ request env r .any = .ok ns ∧ ns ≠ [] ∧ res.length = ns.length ∧
      ∀ i (hi : i < res.length) (hj : i < ns.length),
        sameAttrs res[i] ns[i] ∧ res[i].name = importName imp.name ns[i].name ∧
        res[i].indent = imp.indent ∧ res[i].ref = none ∧ res[i].raw = rawValue ns[i] := by
  obtain ⟨r, ns, hr, hq, hne, rfl⟩ := importNodes_ok h
  refine ⟨r, ns, hr, hq, hne, by simp, ?_⟩
  intro i hi hj
  simp [mkCopy, sameAttrs]

/-- re-rooting, prefixed form `name {request}`: the imported node goes below `name`. -/
theorem C17_import_name_prefixed (p r nodeName : Str) (hp : '{' ∉ p) (hr : '{' ∉ r) :
    importName (p ++ '.' :: '{' :: (r ++ ['}'])) nodeName = p ++ '.' :: nodeName :=
  importName_prefixed p r nodeName hp hr

/-- re-rooting, bare form `{request}`: the name is kept (the hierarchy puts it below the group). -/
theorem C17_import_name_bare (r nodeName : Str) (hr : '{' ∉ r) :
    importName ('{' :: (r ++ ['}'])) nodeName = nodeName :=
  importName_bare r nodeName hr

-- the hypothesis of `C17_import_name_prefixed` / `_bare` holds for the prefix `h.k`
example : ('{' : Char) ∉ (['h', '.', 'k'] : Str) := by decide

/-- An import that selects nothing is rejected: no entry is added, in particular not the
    import line itself. -/
theorem C17_no_unreadable_entry (tbl : UnitTable) (env : Env) (imp : Node) (r : Str)
    (hk : imp.kw = .imp) (hr : imp.ref = some r) (h0 : request env r .any = .ok []) :
    ∃ e, step tbl env (.node imp) = .error e := by
  simp [step, hk, importNodes, hr, h0]

/-- A successful `ImportNode.parse` hands over at least one node. -/
theorem C17_import_nonempty (env : Env) (imp : Node) (res : List Node)
    (h : importNodes env imp = .ok res) : res ≠ [] := by
  obtain ⟨_, ns, _, _, hne, rfl⟩ := importNodes_ok h
  simpa using hne

/-- An injection whose request selects no node or several is rejected. -/
theorem C17_count_rejected (env : Env) (n : Node) (r : Str) (ns : List Node)
    (hr : n.ref = some r) (hsel : request env r .any = .ok ns) (hc : ns.length ≠ 1) :
    ∃ e, injectValue env n = .error e := by
  obtain ⟨e, he⟩ := request_count hsel hc
  exact ⟨e, by simp [injectValue, hr, he]⟩

-- the hypothesis `hc` of `C17_count_rejected` holds for an empty selection
example : ([] : List Node).length ≠ 1 := by decide

/-- The unit rule: the host keeps the unit it states itself and adopts the referenced node's
    unit when it states none.  Nothing else of the host changes but the raw value. -/
theorem C17_unit_rule (env : Env) (n n' src : Node) (r : Str)
    (hr : n.ref = some r) (hreq : request env r .one = .ok [src])
    (h : injectValue env n = .ok n') :
    (∀ u, n.unitsRaw = some u → n'.unitsRaw = some u) ∧
    (n.unitsRaw = none → n'.unitsRaw = src.unitsRaw) ∧
    n'.name = n.name ∧ n'.kw = n.kw ∧ n'.dims = n.dims ∧ n'.slice = n.slice ∧ n'.value = n.value := by
  rw [injectValue_single hr hreq] at h
  cases h
  refine ⟨fun u hu => by simp [hu, pickUnit], fun hn => by simp [hn, pickUnit], rfl, rfl, rfl, rfl, rfl⟩

/-- The conversion of an assigned value into the target's definition unit (`modify_value`, applied after the
    unit rule `C17_unit_rule`): same unit → unchanged, unit missing on either side → unchanged, another
    unit of the same dimension → the affine map `x ↦ (a_f·x + b_f − b_t)/a_t` applied to every
    element (temperatures have an offset), another dimension or unknown unit → refused. -/
theorem C17_unit_conversion (tbl : UnitTable) (v : Val) (u w : Str) :
    convertVal tbl v (some u) (some u) = some v ∧
    convertVal tbl v none (some w) = some v ∧ convertVal tbl v (some u) none = some v ∧
    (∀ d af bf at' bt, u ≠ w → lookupUnit tbl u = some (d, af, bf) → lookupUnit tbl w = some (d, at', bt) →
      convertVal tbl v (some u) (some w) = some (affVal (af / at') ((bf - bt) / at') v)) ∧
    (∀ d d' af bf at' bt, u ≠ w → d ≠ d' → lookupUnit tbl u = some (d, af, bf) →
      lookupUnit tbl w = some (d', at', bt) → convertVal tbl v (some u) (some w) = none) := by
  refine ⟨by simp [convertVal], by simp [convertVal], by simp [convertVal], ?_, ?_⟩
  · intro d af bf at' bt hne h1 h2
    simp [convertVal, hne, h1, h2]
  · intro d d' af bf at' bt hne hd h1 h2
    simp [convertVal, hne, h1, h2, hd]

/-- the conversion acts on every element of an array (and on nothing but numbers) -/
theorem C17_convert_elementwise (a b : Rat) (l : List Val) (q : Rat) :
    affVal a b (.arr l) = .arr (l.map (affVal a b)) ∧ affVal a b (.num q) = .num (q * a + b) := by
  refine ⟨?_, rfl⟩
  simp only [affVal, affList_eq_map]

/-- The injected value is the referenced node's *current* value (not the raw text of its first
    definition), cut by the host's slice: after injection and `set_value`, the host holds
    `cast_value` of the source's current value, with the host's type, dimension and slice. -/
theorem C17_inject_current (env : Env) (n n' n'' src : Node) (r : Str) (v : Val)
    (hr : n.ref = some r) (hreq : request env r .one = .ok [src])
    (hv : src.value = some v) (hnv : n.value = none) (hk : n.kw ≠ .mod)
    (h : injectValue env n = .ok n') (hs : setValue n' = .ok n'') :
    n''.value = castValue n v ∧ n''.value.isSome ∧ n''.slice = [] := by
  rw [injectValue_single hr hreq] at h
  cases h
  simp only [setValue, rawValue_some hv, hk, if_false, hnv] at hs
  split at hs
  · cases hs
  · rename_i w hw
    cases hs
    exact ⟨hw.symm, rfl, rfl⟩

/-- for an array host, `cast_value` is: convert the elements to the host's type, apply
    `slice_value`, test the dimension -/
theorem C17_cast_slice (n : Node) (v : Val) (hs : n.slice ≠ []) (hd : n.dims ≠ []) :
    castValue n v = (castElem (dtypeOf n.kw) v).bind (fun v1 =>
      (sliceValue n.slice v1).bind (fun v2 =>
        if checkDims n.dims (shape v2) then some v2 else none)) := by
  have h1 : n.dims.isEmpty = false := by cases h : n.dims <;> simp_all
  have h2 : n.slice.isEmpty = false := by cases h : n.slice <;> simp_all
  unfold castValue
  simp only [h1, h2, Bool.not_false, Bool.or_self, if_true, Bool.false_eq_true, if_false]
  cases castElem (dtypeOf n.kw) v with
  | none => rfl
  | some v1 =>
    simp only [Option.bind]
    cases hsv : sliceValue n.slice v1 <;> rfl

/-- Every host that `inject_value` serves with a node other than itself (`$unit` definitions,
    and in the model also option lines) receives the referenced node's CURRENT value and keeps
    the unit it states itself, adopting the referenced node's unit when it states none. -/
theorem C17_host_unit_rule (env : Env) (ref : Str) (unit : Option Str) (src : Node) (v : Val)
    (hreq : request env ref .one = .ok [src]) (hv : src.value = some v) :
    injectHost env ref unit = .ok (v, pickUnit unit src.unitsRaw) ∧
    (∀ u, pickUnit (some u) src.unitsRaw = some u) ∧ pickUnit none src.unitsRaw = src.unitsRaw := by
  refine ⟨by simp [injectHost, hreq, rawValue_some hv], fun u => rfl, rfl⟩

/-- `$unit name = {ref} [unit]`: the custom unit that is stored is exactly (name, current value
    of the referenced node, own-or-adopted unit); a request selecting no node or several, a
    non-numeric value, an unknown unit or an existing name are errors. -/
theorem C17_unit_by_reference (tbl : UnitTable) (env env' : Env) (name ref : Str) (unit : Option Str)
    (h : step tbl env (.unitref name ref unit) = .ok env') :
    ∃ src q, request env ref .one = .ok [src] ∧ rawValue src = some (.num q) ∧
      env'.units = env.units ++ [(name, .num q, pickUnit unit src.unitsRaw)] ∧
      env'.nodes = env.nodes ∧ unitKnown tbl (pickUnit unit src.unitsRaw) = true := by
  simp only [step] at h
  split at h
  · cases h
  · rename_i v u hi
    obtain ⟨src, hr, hv, rfl⟩ := injectHost_ok hi
    obtain ⟨⟨q, rfl⟩, hk, rfl⟩ := addUnit_ok h
    exact ⟨src, q, hr, hv, rfl, rfl, hk⟩

/-- `@case {ref}`: the condition of a clause is the referenced node's current boolean value; a
    reference that selects no node or several is rejected (with `C17_case_chain`: in every clause
    of an open chain, whatever the earlier clauses were). -/
theorem C17_case_condition (env : Env) (ref : Str) :
    (∀ src b, request env ref .one = .ok [src] → src.value = some (.bool b) →
      caseValue env none (some ref) = .ok b) ∧
    (∀ ns, request env ref .any = .ok ns → ns.length ≠ 1 → ∃ e, caseValue env none (some ref) = .error e) := by
  refine ⟨fun src b hreq hv => by simp [caseValue, hreq, rawValue_some hv], fun ns hsel hc => ?_⟩
  obtain ⟨e, he⟩ := request_count hsel hc
  exact ⟨e, by simp [caseValue, he]⟩

/-- a later clause of an open branch is evaluated (its reference injected) whatever the earlier
    clauses were, and is selected exactly when its condition is true and no earlier one was -/
theorem C17_case_chain (tbl : UnitTable) (env : Env) (b : Branch) (raw : Option Val) (ref : Option Str)
    (hb : b.afterElse = false) :
    stepC tbl ⟨env, some b⟩ (.case b.indent (.cond raw ref)) =
      (match caseValue env raw ref with
       | .error e => .error e
       | .ok v => .ok ⟨{ env with parents := popParents b.indent env.parents },
           some ⟨b.indent, b.anyTrue || v, v && !b.anyTrue, false⟩⟩) := by
  simp only [stepC]
  cases caseValue env raw ref with
  | error e => rfl
  | ok v => simp [hb]

/-- without `@case` lines the chain-aware loop (what the driver runs) is the plain main loop of
    the refinement theorem -/
theorem C17_chain_loop_conservative (tbl : UnitTable) (items : List Item) (env : Env)
    (h : ∀ it ∈ items, isCase it = false) :
    items.foldlM (stepC tbl) ⟨env, none⟩ = (match items.foldlM (step tbl) env with
      | .ok e => .ok ⟨e, none⟩
      | .error e => .error e) :=
  foldlM_stepC_none tbl items env h

/-- `$unit {source?*}` (`UnitList.extend`): a custom unit of the remote source whose name exists
    already in the importing environment is refused — it is never skipped, so a host can never adopt
    a unit text that means something else locally. -/
theorem C17_unit_import_clash (tbl : UnitTable) (env : Env) (source : Str)
    (s : Str × List (Str × Val × Option Str)) (u : Str × Val × Option Str)
    (hs : env.srcUnits.find? (fun x => x.1 = source) = some s) (hu : u ∈ s.2)
    (hc : env.units.any (fun x => decide (x.1 = u.1)) = true) :
    ∃ e, step tbl env (.unitimp source none) = .error e := by
  obtain ⟨e, he⟩ := extendUnits_clash env.units s.2 u hu hc
  exact ⟨e, by simp [step, importUnits, hs, he]⟩

/-- Whenever numpy/Python slicing `v[s1, s2, …]` is defined — index, range (also `n:n`, the
    empty range), mixed forms, any number of entries, arrays of any rank, text at the last
    position — `slice_value` delivers exactly that result. -/
theorem C17_slice_python (ss : List Sl) (v r : Val) (hsp : specSlice ss v = some r) :
    sliceValue ss v = some r := by
  rw [sliceValue_eq_spec ss v (Or.inr (by simp [hsp]))]
  exact hsp

/-- On values without text leaves `slice_value` IS numpy/Python slicing (also in refusing:
    an index or a range applied to a number or boolean, an index out of range). -/
theorem C17_slice_python_eq (ss : List Sl) (v : Val) (ht : noText v = true) :
    sliceValue ss v = specSlice ss v :=
  sliceValue_eq_spec ss v (Or.inl ht)

example : noText (.arr [.arr [.num 1, .num 2], .arr [.num 3, .num 4]]) = true ∧
    specSlice [Sl.rng none (some 2), Sl.idx 1] (.arr [.arr [.num 1, .num 2], .arr [.num 3, .num 4]]) =
      some (.arr [.num 2, .num 4]) ∧
    specSlice [Sl.rng (some 1) (some 1)] (.arr [.num 1, .num 2]) = some (.arr []) ∧
    specSlice [Sl.rng (some 1) none] (.str ['a', 'b', 'c']) = some (.str ['b', 'c']) := by
  refine ⟨by simp [noText, noTextL], by simp [specSlice, pySlice], by simp [specSlice, pySlice],
    by simp [specSlice, pySlice]⟩

/-- Python slice law on lists of any length: the full range is the identity. -/
theorem C17_slice_full (α : Type) (l : List α) :
    pySlice l none none = l ∧ pySlice l (some 0) none = l ∧ pySlice l none (some l.length) = l := by
  simp [pySlice]

/-- Python slice law on lists of any length: a slice of a slice is a slice, `l[a:b][c:d] = l[a+c : min b (a+d)]`. -/
theorem C17_slice_slice (α : Type) (l : List α) (a b c d : Nat) :
    pySlice (pySlice l (some a) (some b)) (some c) (some d) =
      pySlice l (some (a + c)) (some (min b (a + d))) := by
  show (((l.take b).drop a).take d).drop c = (l.take (min b (a + d))).drop (a + c)
  rw [List.take_drop, List.drop_drop, List.take_take, Nat.min_comm]

/-- a full-range entry leaves an array as it is -/
theorem C17_slice_value_full (l : List Val) : sliceValue [.rng none none] (.arr l) = some (.arr l) := by
  simp [sliceValue, pySlice]

/-- `target = self.env.copy()` as a deep copy on the heap: whatever the main loop then does to
    the target (writes through the target's addresses, new objects), every object of the heap
    that existed before — in particular every node of the base environment — is unchanged. -/
theorem C17_base_unchanged (h : Heap Node) (base : List Nat) (ops : List (HOp Node)) :
    let s := ops.foldl hStep (deepCopy h base)
    ∀ a, a < h.length → s.1[a]? = h[a]? :=
  deepCopy_frame h base ops

/-- without the copy (`target = self.env`) a modification writes through to the base -/
theorem C17_base_shared_counterexample :
    ∃ (h : Heap Node) (base : List Nat) (op : HOp Node) (a : Nat),
      a < h.length ∧ ((hStep (h, base) op).1[a]?).map (·.constant) ≠ (h[a]?).map (·.constant) := by
  refine ⟨[⟨[], 0, .int, [], none, none, [], none, none, false, false, none, none, [], [], none, false⟩], [0],
    .write 0 (fun n => { n with constant := true }), 0, by simp, ?_⟩
  simp [hStep, writeAt]

/-- The copy `NodeList.query` hands out is deep for every mutable attribute (value object,
    options list, tags list, dimension list): (i) each attribute object of the copy is a fresh
    object equal to the original's, and (ii) whatever is later done through the copy — in-place
    mutation of any of its attribute objects (`options.append`, `tags +=`, conversion of the
    value object) or creation of new objects — every attribute object that existed before, in
    particular those of the node it was copied from (locally or in a remote source), is unchanged. -/
theorem C17_query_copy_deep (h : Heap AttrObj) (n : ObjNode) (newName : Str)
    (hv : ∀ a ∈ n.attrs, a < h.length) (ops : List (HOp AttrObj)) :
    (∀ i (hi : i < n.attrs.length),
      (queryCopy h n newName).2.attrs[i]? = some (h.length + i) ∧
      (queryCopy h n newName).1[h.length + i]? = h[n.attrs[i]]?) ∧
    (let s := ops.foldl hStep ((queryCopy h n newName).1, (queryCopy h n newName).2.attrs)
     ∀ a, a < h.length → s.1[a]? = h[a]?) :=
  ⟨fun i hi => deepCopy_get h n.attrs hv i hi, deepCopy_frame h n.attrs ops⟩

/-- `copy.copy(node)` instead: an option appended to the copy's list lands on the original -/
theorem C17_query_copy_shallow_counterexample :
    ∃ (h : Heap AttrObj) (n : ObjNode) (op : HOp AttrObj),
      let c := queryCopyShallow h n []
      (hStep (c.1, c.2.attrs) op).1[0]? ≠ h[0]? := by
  refine ⟨[.options []], ⟨[], [0]⟩, .write 0 (fun o => match o with
    | .options l => .options (l ++ [(.str [], none)])
    | x => x), ?_⟩
  simp [queryCopyShallow, hStep, writeAt]

-- the hypothesis `hv` of `C17_query_copy_deep` holds for a node with two attribute objects
example : ∀ a ∈ (⟨[], [0, 1]⟩ : ObjNode).attrs, a < ([.options [], .tags []] : Heap AttrObj).length := by
  decide

/-- the functional model's own frame property: a parse step never changes the remote sources,
    and custom units are only ever added at the end -/
theorem C17_sources_unchanged (tbl : UnitTable) (env env' : Env) (it : Item)
    (h : step tbl env it = .ok env') :
    env'.sources = env.sources ∧ ∃ us, env'.units = env.units ++ us :=
  step_frame tbl env env' it h

/-! Refinement of the parse loop to the path-keyed specification.
`absEnv` maps a model environment to a specification environment (node name ↦ path by
`split('.')`); `conc` writes a statement as the line record at indent 0 with the full dotted
name (`a.b float[2] = {src?c.d}[1:] cm`, `a.b = …`, `h.k {src?c.*}`, `{?*}`); `Inv` is the
invariant on stored nodes; `InFrag` / `FragRun` are the side conditions of the proved fragment. -/

/-- The refinement WITHOUT side conditions, as a statement only: every program of definition / modification /
    injection / import lines runs in the model exactly as in the specification.  It is not a theorem here and
    does not hold as written (an import that selects nothing: the specification accepts, the model refuses,
    `C17_refinement_import_empty`).  The theorems named `…_partial` prove it under side conditions: flat programs
    (`C17_refinement_partial`), lines nested by indentation with group and property lines
    (`C17_refinement_nested_partial`), import lines at any indentation (`C17_refinement_nested_imports_partial`),
    declared nodes in flat programs with literal values (`C17_refinement_declared_partial`), the side conditions as
    executable checks and through `parse` / `parseC` (`C17_refinement_checked_partial` and after).  Left out by
    all of them: declared nodes in nested programs and with values by reference, `$unit` / option / `@case` hosts
    by reference as refinement statements. -/
def C17_refinement_statement : Prop :=
  ∀ (tbl : UnitTable) (stmts : List SStmt) (items : List Item) (env : Env) (s' : SEnv),
    Inv tbl env → stmts.mapM conc = some items → sRun tbl (absEnv env) stmts = .ok s' →
    ∃ env', items.foldlM (step tbl) env = .ok env' ∧ absEnv env' = s'

/-- Refinement, flat programs: for every program (any length) of definitions and modifications with literal
    or injected values (`{?p}`, `{source?p}`, any slice on definitions) and of imports (`{?*}`,
    `{?p.*}`, `{?p}`, bare or prefixed, local or from a remote source, onto fresh paths or onto
    nodes that exist already), from every environment
    that satisfies the invariant: whenever the specification accepts the program, the model's
    main loop accepts its lines, ends in an environment whose abstraction IS the specification's
    result (names, types, dimensions, units, values, constraints of all nodes; remote sources
    untouched), and the invariant holds again.  Side conditions (`FragRun`, checked along the
    specification's run): well-formed path / request texts, an injected definition takes a node
    of its own type, integer nodes stay dimensionless, an import selects at least one node; a
    modification by reference with a slice has no line (`conc` is `none` on it, so `hc` excludes it).
    An imported node whose destination path already exists is
    assigned to that node like a modification (same type required, current value converted from
    the imported node's unit into the existing node's definition unit, the existing node keeps
    its constraints) — on both sides, in the order of selection. -/
theorem C17_refinement_partial (tbl : UnitTable) (stmts : List SStmt) (items : List Item) (env : Env)
    (s' : SEnv) (hinv : Inv tbl env) (hfrag : FragRun tbl (absEnv env) stmts)
    (hc : stmts.mapM conc = some items) (h : sRun tbl (absEnv env) stmts = .ok s') :
    ∃ env', items.foldlM (step tbl) env = .ok env' ∧ absEnv env' = s' ∧ Inv tbl env' :=
  refine_run tbl stmts items env s' hinv hfrag hc h

/-- The hierarchy stack is the chain of nearest earlier lines with smaller indentation: after
    any sequence of named lines `ls` and one more line `(d, nm)`, `HierarchyList.register` holds
    that line followed by exactly "the nearest earlier line with a smaller indent, then the
    nearest before that with a still smaller one, …", and the dotted path it assigns is that chain
    (outermost first) followed by the line's own name. -/
theorem C17_paths (ls : List (Nat × Str)) (d : Nat) (nm : Str) :
    pushAll [] (ls ++ [(d, nm)]) = (d, nm) :: anc d ls.reverse ∧
    regNameOf (pushAll [] ls) d nm = joinDot (((anc d ls.reverse).reverse.map Prod.snd) ++ [nm]) := by
  have h := pushAll_stackOf (ls ++ [(d, nm)])
  simp only [List.reverse_append, List.reverse_cons, List.reverse_nil, List.nil_append,
    List.singleton_append, stackOf] at h
  refine ⟨h, ?_⟩
  simp only [regNameOf, regStackOf, pushAll_stackOf ls, popParents_stackOf, List.reverse_cons, List.map_append,
    List.map_cons, List.map_nil]

-- `anc` of `C17_paths` on three earlier lines: the line at indent 5 is no ancestor of a line at indent 4
example : anc 4 [(2, ['b']), (5, ['x']), (0, ['a'])] = [(2, ['b']), (0, ['a'])] := by decide

/-- Refinement, nested programs: lines at ANY indentation (group lines, definitions,
    modifications, injections with relative or dotted names; imports written at the root), and
    PROPERTY lines (`!constant`, `!condition`, `!format`, `!tags`, `!description`, literal options)
    placed after the node they are meant for.  Whenever the specification — which addresses nodes
    by path — accepts the statements, the model's main loop — which computes paths with the
    hierarchy stack and attaches property lines to the last node — accepts the lines and ends in
    an environment whose abstraction is the specification's result.  Side conditions (`RunH`,
    checked along the joint run): `InFrag` for every statement, the registered path of a line is
    the path its statement addresses (`PathOK`; by `C17_paths` this is the chain of nearest
    earlier lines with smaller indentation), and for a property line: the last node is the node at
    its path, no earlier node has that name, its type admits the property (`PropOK`). -/
theorem C17_refinement_nested_partial (tbl : UnitTable) (lines : List HLine) (items : List Item)
    (env : Env) (s' : SEnv) (hinv : Inv tbl env) (hrun : RunH tbl env lines)
    (hc : lines.mapM HLine.item = some items)
    (h : sRun tbl (absEnv env) (lines.filterMap HLine.stmt?) = .ok s') :
    ∃ env', items.foldlM (step tbl) env = .ok env' ∧ absEnv env' = s' ∧ Inv tbl env' :=
  refine_runN tbl (lines.map NLine.base) items env s' hinv (runN_of_runH tbl lines env hrun)
    (by rw [List.mapM_map]; exact hc) (by rw [List.filterMap_map]; exact h)

/-- Refinement, nested programs WITH IMPORT LINES AT ANY INDENTATION (strictly more programs than
    `C17_refinement_nested_partial`, which keeps import lines at the root): a program is a list of
    `NLine`s — every line of the nested theorem (group lines, definitions / modifications /
    injections at any indent, root imports, property lines) and import lines `pre {source?q}` or
    `{source?q}` written at ANY indent `i` below any chain of groups.  `ImportNode.parse` hands
    each copy over with the indent of the import line and the main loop registers every copy with
    the hierarchy stack (each copy pops its predecessor); the theorem shows that all copies land
    below the same chain of parents, i.e. exactly where the path-keyed specification's
    `.imp dest source q` puts them, for every request form (`*`, `p.*`, `p`), local or remote,
    onto fresh paths or onto existing nodes.  Side conditions (`RunN`, checked along the joint
    run): those of `RunH` for the lines of `HLine`; for an import line at indent `i`: `InFrag` of
    `.imp dest source q`, no `{` in the written prefix `pre`, and `ImpPathOK`: the chain of
    parents of the line, then `pre`, is `dest` (see `C17_import_path_parents`).  Left out:
    declared nodes (`Inv` and `invB` refuse an environment that holds one; see `C17_refinement_declared_partial`), `$unit` / option / `@case` hosts by reference, imports inside `@case` branches, programs outside the side conditions. -/
theorem C17_refinement_nested_imports_partial (tbl : UnitTable) (lines : List NLine) (items : List Item)
    (env : Env) (s' : SEnv) (hinv : Inv tbl env) (hrun : RunN tbl env lines)
    (hc : lines.mapM NLine.item = some items)
    (h : sRun tbl (absEnv env) (lines.filterMap NLine.stmt?) = .ok s') :
    ∃ env', items.foldlM (step tbl) env = .ok env' ∧ absEnv env' = s' ∧ Inv tbl env' :=
  refine_runN tbl lines items env s' hinv hrun hc h

/-- One import line `pre {source?q}` at indent `i`: whenever the specification's import to `dest` is accepted, the
    main loop accepts the line and ends in the abstraction of the specification's result (the step of
    `C17_refinement_nested_imports_partial` for such a line). -/
theorem C17_refinement_import_at_step (tbl : UnitTable) (env : Env) (hinv : Inv tbl env) (i : Nat)
    (pre dest : List Str) (source : Option Str) (q : SQuery) (s' : SEnv)
    (hfrag : InFrag (absEnv env) (.imp dest source q)) (hpre : '{' ∉ joinDot pre)
    (hpath : ImpPathOK env.parents i pre dest)
    (h : sStep tbl (absEnv env) (.imp dest source q) = .ok s') :
    ∃ env', step tbl env (.node (impAt i pre source q)) = .ok env' ∧ absEnv env' = s' ∧ Inv tbl env' :=
  refine_imp_at tbl env hinv i pre dest source q s' hfrag hpre hpath h

/-- the nested-imports theorem contains the nested theorem: a program without indented import
    lines satisfies `RunN` as soon as it satisfies `RunH` -/
theorem C17_nested_imports_conservative (tbl : UnitTable) (lines : List HLine) (env : Env)
    (h : RunH tbl env lines) : RunN tbl env (lines.map NLine.base) :=
  runN_of_runH tbl lines env h

/-- `ImpPathOK` in its natural form: the destination of an import line `pre {…}` written at
    indent `i` is the chain of names left on the hierarchy stack (by `C17_paths`: the nearest
    earlier lines with smaller indentation, outermost first) followed by the written prefix. -/
theorem C17_import_path_parents (ps : List (Nat × Str)) (i : Nat) (pre : List Str) :
    ImpPathOK ps i pre (((popParents i ps).reverse.map Prod.snd) ++ pre) :=
  impPathOK_parents ps i pre

/-- the hypotheses of the indented import step are satisfiable by a non-trivial instance: after
    `a float = 3 m` and the group line `g` (indent 0), the line `{?*}` at indent 2 imports to `g` -/
example : let env : Env := { Env.empty with
      nodes := [{ blank ['a'] .float with value := some (.num 3), unitsRaw := some ['m'] }],
      parents := [(0, ['g'])] }
    Inv unitTable env ∧ InFrag (absEnv env) (.imp [['g']] none .all) ∧ '{' ∉ joinDot ([] : List Str) ∧
    ImpPathOK env.parents 2 [] [['g']] ∧
    (∃ s', sStep unitTable (absEnv env) (.imp [['g']] none .all) = .ok s') := by
  intro env
  exact ⟨(invB_iff _ _).mp (by decide +kernel), (inFragB_iff _ _).mp (by decide +kernel), by decide,
    impPathOK_parents [(0, ['g'])] 2 [], exists_ok_of_isSome (by decide +kernel)⟩

/-- With the destination of an indented import line COMPUTED from the hierarchy stack and the written prefix
    (`impDest`: the names left on the stack, then the prefix, joined and split at the dots — a group
    line may itself carry a dotted name) two of its side conditions hold for
    every stack, indent and prefix: `ImpPathOK` and the `WFDest` conjunct of `InFrag`. -/
theorem C17_import_dest_computed (ps : List (Nat × Str)) (i : Nat) (pre : List Str) :
    ImpPathOK ps i pre (impDest ps i pre) ∧ WFDest (impDest ps i pre) :=
  impDest_ok ps i pre

example : impDest [(2, ['b', '.', 'c']), (0, ['a'])] 4 [['h']] = [['a'], ['b'], ['c'], ['h']] ∧
    impDest [(2, ['b']), (0, ['a'])] 2 [] = [['a']] ∧ impDest [] 0 [] = [] := by decide

/-- The side conditions of the flat refinement theorem are an executable check: `fragRunB` (a
    `Bool`-valued function of the unit table, the initial specification environment and the
    program: it evaluates the decidable form `inFragB` of `InFrag` for each statement in the
    environment the specification's own run reaches) accepts exactly the programs of the proved
    fragment — sound and complete. -/
theorem C17_fragment_decidable (tbl : UnitTable) (senv : SEnv) (stmts : List SStmt) :
    (fragRunB tbl senv stmts = true ↔ FragRun tbl senv stmts) ∧
    (∀ s, inFragB senv s = true ↔ InFrag senv s) :=
  ⟨fragRunB_iff tbl senv stmts, inFragB_iff senv⟩

/-- Refinement, flat programs, with the side condition as a computation: for every program that the check
    `fragRunB` accepts (no `Prop`-valued hypothesis about the program is left; by
    `C17_fragment_decidable` these are exactly the programs of `C17_refinement_partial`), from every
    environment satisfying the invariant: whenever the specification accepts the program, the
    model's main loop accepts its lines and ends in the abstraction of the specification's result.
    Left out: the programs `fragRunB` refuses (declared nodes, hosts by reference, injections across types,
    integer nodes with units, empty imports) and those that have no lines (`hc`: `conc` is `none` on a
    modification by reference with a slice; `fragRunB` does not look at that slice). -/
theorem C17_refinement_checked_partial (tbl : UnitTable) (stmts : List SStmt) (items : List Item)
    (env : Env) (s' : SEnv) (hinv : Inv tbl env) (hchk : fragRunB tbl (absEnv env) stmts = true)
    (hc : stmts.mapM conc = some items) (h : sRun tbl (absEnv env) stmts = .ok s') :
    ∃ env', items.foldlM (step tbl) env = .ok env' ∧ absEnv env' = s' ∧ Inv tbl env' :=
  refine_run tbl stmts items env s' hinv ((fragRunB_iff tbl (absEnv env) stmts).mp hchk) hc h

/-- the check accepts a non-trivial program (definition with unit, injected definition that adopts
    the unit, modification by injection, import of everything below `g`) … and refuses one that
    injects across types -/
example : fragRunB unitTable (absEnv Env.empty)
      [.defn [['a']] .float [] (.lit (.num 3)) (some ['m']),
       .defn [['b']] .float [] (.inj none (.exact [['a']]) []) none,
       .modl [['a']] (.inj none (.exact [['b']]) []) (some ['c', 'm']),
       .imp [['g']] none .all] = true ∧
    fragRunB unitTable (absEnv Env.empty)
      [.defn [['a']] .float [] (.lit (.num 3)) (some ['m']),
       .defn [['b']] .str [] (.inj none (.exact [['a']]) []) none] = false := by
  decide +kernel

/-- Refinement, nested programs, side conditions as a computation: `runNB` (a `Bool`-valued
    function of the unit table, the initial environment and the program) evaluates the decidable
    forms of `InFrag`, `PathOK`, `PropOK` for every line in the environment the MODEL's own run
    reaches, and demands of an import line at indent `i` that its statement addresses the
    destination `impDest` computes from the hierarchy stack.  For every program it accepts — no
    `Prop`-valued hypothesis about the program is left — whenever the specification accepts the
    statements, the main loop accepts the lines and ends in the abstraction of the specification's
    result.  (`runNB` is sound for `RunN`; unlike `fragRunB` it is not claimed complete: `ImpPathOK`
    also holds for other spellings of the same destination.) -/
theorem C17_refinement_nested_checked_partial (tbl : UnitTable) (lines : List NLine) (items : List Item)
    (env : Env) (s' : SEnv) (hinv : Inv tbl env) (hchk : runNB tbl env lines = true)
    (hc : lines.mapM NLine.item = some items)
    (h : sRun tbl (absEnv env) (lines.filterMap NLine.stmt?) = .ok s') :
    ∃ env', items.foldlM (step tbl) env = .ok env' ∧ absEnv env' = s' ∧ Inv tbl env' :=
  refine_runN tbl lines items env s' hinv (runNB_sound tbl env lines hchk) hc h

/-- the nested check accepts `a float = 3 m` / `g` / `  b float = {?a}` / `  {?*}` / `  !constant`
    (the import at indent 2 re-creates `a` and `g.b` below `g`; the property line is for `g.g.b`) -/
example : runNB unitTable Env.empty
    [.base (.stmt 0 ['a'] (.defn [['a']] .float [] (.lit (.num 3)) (some ['m']))),
     .base (.group 0 ['g']),
     .base (.stmt 2 ['b'] (.defn [['g'], ['b']] .float [] (.inj none (.exact [['a']]) []) none)),
     .imp 2 [] [['g']] none .all,
     .base (.prop [['g'], ['g'], ['b']] .constant)] = true := by
  decide +kernel

/-- The invariant of the refinement theorems as a computation: `invB` (a `Bool`-valued function of
    the unit table and the environment: every stored node and every node of every remote source
    is typed, holds a value that its own cast leaves unchanged, has no pending slice, carries a
    unit of the table — none on str/bool/int) is sound AND complete for `Inv`.  Equality of values
    is decided by the structural test `valEqB` (`Val` is a nested inductive).  With it `Inv` of the
    initial environment of a run — the base environment `DIP(base)` starts from, the parsed remote
    sources — can be evaluated (the driver does, for every generated program). -/
theorem C17_inv_decidable (tbl : UnitTable) (env : Env) : invB tbl env = true ↔ Inv tbl env :=
  invB_iff tbl env

/-- Refinement, nested programs from ANY initial environment, no `Prop`-valued hypothesis left
    about the environment or the program: if the computation `invB` accepts the initial environment
    and the computation `runNB` accepts the program there, then whenever the specification accepts
    the statements, the main loop accepts the lines, ends in the abstraction of the specification's
    result, and `invB` accepts the final environment (so the result can serve as the base of a
    further program).  Left out: declared nodes (`Inv` and `invB` refuse an environment that holds one; see `C17_refinement_declared_partial`), `$unit` / option / `@case` hosts by reference, imports inside `@case` branches, programs outside the side conditions. -/
theorem C17_refinement_env_checked_partial (tbl : UnitTable) (lines : List NLine) (items : List Item)
    (env : Env) (s' : SEnv) (hinv : invB tbl env = true) (hchk : runNB tbl env lines = true)
    (hc : lines.mapM NLine.item = some items)
    (h : sRun tbl (absEnv env) (lines.filterMap NLine.stmt?) = .ok s') :
    ∃ env', items.foldlM (step tbl) env = .ok env' ∧ absEnv env' = s' ∧ invB tbl env' = true := by
  obtain ⟨env', h1, h2, h3⟩ := refine_runN tbl lines items env s' ((invB_iff tbl env).1 hinv)
    (runNB_sound tbl env lines hchk) hc h
  exact ⟨env', h1, h2, (invB_iff tbl env').2 h3⟩

/-- `invB` accepts a non-trivial environment (a float with unit, a 2-element integer array, a
    remote source holding a string) and, there, `runNB` accepts a program that injects from the
    source; `invB` refuses a declared node (no value), a value that does not conform to the
    declared type, and a unit on a string -/
example : let env : Env := { Env.empty with
      nodes := [{ blank ['a'] .float with value := some (.num 3), unitsRaw := some ['m'] },
                { blank ['v'] .int with dims := [(some 2, some 2)], value := some (.arr [.num 1, .num 2]) }],
      sources := [(['s'], [{ blank ['t'] .str with value := some (.str ['x']) }])] }
    invB unitTable env = true ∧
    runNB unitTable env [.base (.stmt 0 ['b'] (.defn [['b']] .str [] (.inj (some ['s']) (.exact [['t']]) []) none))] = true ∧
    invB unitTable { env with nodes := [blank ['d'] .float] } = false ∧
    invB unitTable { env with nodes := [{ blank ['d'] .float with value := some (.str ['x']) }] } = false ∧
    invB unitTable { env with nodes := [{ blank ['d'] .str with value := some (.str ['x']), unitsRaw := some ['m'] }] } = false := by
  decide +kernel

/-- Refinement, the whole parse: not the bare main loop
    (`foldlM step`) but the functions the correspondence runs against `DIP.parse` — `parseC` (main
    loop WITH the `@case` branch state, then the final validation loop `validate`) and `parse`.
    For an initial environment accepted by `invB` and a program accepted by `runNB` (both
    computations), whenever the specification accepts the statements: `parseC` and `parse` return
    the same environment, its abstraction is the specification's result, and `invB` accepts it.
    (The lines of `NLine` are never clause lines, so the branch state stays empty; `Inv` of the
    result makes the validation loop pass: no stored node is left without value.)  Left out:
    declared nodes (`Inv` and `invB` refuse an environment that holds one; see `C17_refinement_declared_partial`), `$unit` / option / `@case` hosts by reference, imports inside `@case` branches, programs outside the side conditions. -/
theorem C17_refinement_parse_partial (tbl : UnitTable) (lines : List NLine) (items : List Item)
    (env : Env) (s' : SEnv) (hinv : invB tbl env = true) (hchk : runNB tbl env lines = true)
    (hc : lines.mapM NLine.item = some items)
    (h : sRun tbl (absEnv env) (lines.filterMap NLine.stmt?) = .ok s') :
    ∃ env', parseC tbl env items = .ok env' ∧ parse tbl env items = .ok env' ∧ absEnv env' = s' ∧
      invB tbl env' = true := by
  obtain ⟨env', h1, h2, h3, h4⟩ := refine_parse tbl lines items env s' ((invB_iff tbl env).1 hinv) hchk hc h
  exact ⟨env', h1, h2, h3, (invB_iff tbl env').2 h4⟩

/-- Refinement, `DIP(base)`: a base text parsed first (`parseC` from `env`, giving `benv`), then
    the main text parsed on top of `benv`.  All hypotheses about environment and programs are
    computations: `invB` on the initial environment, `runNB` on the base text there, and `runNB` on
    the main text in the environment the base parse returns (`afterB`).  Whenever the specification
    accepts the base statements (result `s1`) and then the main statements from `s1` (result `s2`),
    both parses succeed, the base environment abstracts to `s1`, the final one to `s2`, and `invB`
    accepts it.  Left out: declared nodes (`Inv` and `invB` refuse an environment that holds one; see `C17_refinement_declared_partial`), `$unit` / option / `@case` hosts by reference, imports inside `@case` branches, programs outside the side conditions;
    the frame property (base object unchanged) is `C17_base_unchanged`. -/
theorem C17_refinement_on_base_partial (tbl : UnitTable) (base main : List NLine) (bitems mitems : List Item)
    (env : Env) (s1 s2 : SEnv) (hinv : invB tbl env = true)
    (hb : runNB tbl env base = true) (hcb : base.mapM NLine.item = some bitems)
    (h1 : sRun tbl (absEnv env) (base.filterMap NLine.stmt?) = .ok s1)
    (hm : afterB tbl env bitems (fun benv => runNB tbl benv main) = true)
    (hcm : main.mapM NLine.item = some mitems)
    (h2 : sRun tbl s1 (main.filterMap NLine.stmt?) = .ok s2) :
    ∃ benv env', parseC tbl env bitems = .ok benv ∧ absEnv benv = s1 ∧ parseC tbl benv mitems = .ok env' ∧
      absEnv env' = s2 ∧ invB tbl env' = true := by
  obtain ⟨e1, e2, a, b, c, d, e⟩ := refine_two_stage tbl base main bitems mitems env s1 s2 id id
    (fun e he => ⟨he, rfl⟩) ((invB_iff tbl env).1 hinv) hb hcb h1 hm hcm h2
  exact ⟨e1, e2, a, b, c, d, (invB_iff tbl e2).2 e⟩

/-- Refinement, remote files: the text of a remote file is parsed on its own from `env` (the
    sources installed so far), its nodes and custom units are installed as source `name`
    (`withSource`; on the specification side `sWithSource`), then the main text is parsed.  Same
    form as `C17_refinement_on_base_partial`: only computations as hypotheses; both parses succeed
    and the final environment abstracts to the specification's.  `withSource` keeps `Inv` and
    commutes with the abstraction, so the step can be iterated for any number of files. -/
theorem C17_refinement_with_source_partial (tbl : UnitTable) (name : Str) (src main : List NLine)
    (sitems mitems : List Item) (env : Env) (sS s' : SEnv) (hinv : invB tbl env = true)
    (hs : runNB tbl env src = true) (hcs : src.mapM NLine.item = some sitems)
    (h1 : sRun tbl (absEnv env) (src.filterMap NLine.stmt?) = .ok sS)
    (hm : afterB tbl env sitems (fun envS => runNB tbl (withSource env name envS) main) = true)
    (hcm : main.mapM NLine.item = some mitems)
    (h2 : sRun tbl (sWithSource (absEnv env) name sS) (main.filterMap NLine.stmt?) = .ok s') :
    ∃ envS env', parseC tbl env sitems = .ok envS ∧ absEnv envS = sS ∧
      parseC tbl (withSource env name envS) mitems = .ok env' ∧ absEnv env' = s' ∧ invB tbl env' = true := by
  have hi := (invB_iff tbl env).1 hinv
  obtain ⟨e1, e2, a, b, c, d, e⟩ := refine_two_stage tbl src main sitems mitems env sS s'
    (fun e => withSource env name e) (fun s => sWithSource (absEnv env) name s)
    (fun e he => ⟨inv_withSource tbl env e name hi he, abs_withSource env e name⟩) hi hs hcs h1 hm hcm h2
  exact ⟨e1, e2, a, b, c, d, (invB_iff tbl e2).2 e⟩

/-- the assembly of the initial environment keeps the invariant and commutes with the abstraction -/
theorem C17_inv_with_source (tbl : UnitTable) (env envS : Env) (name : Str) (h : Inv tbl env) (hS : Inv tbl envS) :
    Inv tbl (withSource env name envS) ∧
    absEnv (withSource env name envS) = sWithSource (absEnv env) name (absEnv envS) :=
  ⟨inv_withSource tbl env envS name h hS, abs_withSource env envS name⟩

/-- the computational hypotheses of the two staged theorems hold for non-trivial instances: base
    `a float = 3 m` then main `b float = {?a}` / `a = {?b} cm`; remote file `t str = "x"` installed
    as `s`, then main `b str = {s?t}`; the specification accepts both stages -/
example :
    let base : List NLine := [.base (.stmt 0 ['a'] (.defn [['a']] .float [] (.lit (.num 3)) (some ['m'])))]
    let main : List NLine := [.base (.stmt 0 ['b'] (.defn [['b']] .float [] (.inj none (.exact [['a']]) []) none)),
                              .base (.stmt 0 ['a'] (.modl [['a']] (.inj none (.exact [['b']]) []) (some ['c', 'm'])))]
    let src : List NLine := [.base (.stmt 0 ['t'] (.defn [['t']] .str [] (.lit (.str ['x'])) none))]
    let main2 : List NLine := [.base (.stmt 0 ['b'] (.defn [['b']] .str [] (.inj (some ['s']) (.exact [['t']]) []) none))]
    invB unitTable Env.empty = true ∧ runNB unitTable Env.empty base = true ∧
    (∃ bitems, base.mapM NLine.item = some bitems ∧
      afterB unitTable Env.empty bitems (fun benv => runNB unitTable benv main) = true ∧
      (parseC unitTable Env.empty bitems).toOption.isSome = true) ∧
    (match sRun unitTable (absEnv Env.empty) (base.filterMap NLine.stmt?) with
     | .ok s1 => (sRun unitTable s1 (main.filterMap NLine.stmt?)).toOption.isSome
     | .error _ => false) = true ∧
    runNB unitTable Env.empty src = true ∧
    (∃ sitems, src.mapM NLine.item = some sitems ∧
      afterB unitTable Env.empty sitems (fun envS => runNB unitTable (withSource Env.empty ['s'] envS) main2) = true ∧
      (parseC unitTable Env.empty sitems).toOption.isSome = true) ∧
    (match sRun unitTable (absEnv Env.empty) (src.filterMap NLine.stmt?) with
     | .ok sS => (sRun unitTable (sWithSource (absEnv Env.empty) ['s'] sS) (main2.filterMap NLine.stmt?)).toOption.isSome
     | .error _ => false) = true := by
  refine ⟨by decide +kernel, by decide +kernel, ⟨_, rfl, by decide +kernel, by decide +kernel⟩, by decide +kernel,
    by decide +kernel, ⟨_, rfl, by decide +kernel, by decide +kernel⟩, by decide +kernel⟩

/-- DECLARED nodes inside the invariant.  `InvD` weakens `Inv`: a stored node of the main
    environment may hold no value (`a float` without `=`); if it holds one, the value conforms.
    `Inv` implies `InvD`, and `InvD` of an environment whose nodes all hold a value is `Inv`
    (so the result of a declare-then-assign program can serve the other refinement theorems).
    `invDB` is `InvD` as a computation (sound and complete). -/
theorem C17_declared_invariant (tbl : UnitTable) (env : Env) :
    (Inv tbl env → InvD tbl env) ∧
    (InvD tbl env → (∀ n ∈ env.nodes, n.value.isSome = true) → Inv tbl env) ∧
    (invDB tbl env = true ↔ InvD tbl env) :=
  ⟨inv_invD, invD_inv, invDB_iff tbl env⟩

/-- Step refinement for the statements that create and fill declared nodes, from ANY environment
    with the weak invariant `InvD` (declared nodes may be present): a declaration `path kw[dims] unit`
    (line record `declNode`: no raw value, flagged to-be-defined), a definition with a literal
    value, a modification with a literal value — which may address a node that holds no value yet
    (`modify_value` casts the new value by the target's type and dimension and converts it into
    the target's unit; the old value is not looked at).  Whenever the specification accepts the
    statement, the main loop accepts its line, the abstraction of the new environment is the
    specification's, and `InvD` holds again. -/
theorem C17_refinement_declared_step (tbl : UnitTable) (env : Env) (hinv : InvD tbl env) (stmt : SStmt)
    (item : Item) (s' : SEnv) (hfrag : LitFrag stmt) (hc : concD stmt = some item)
    (h : sStep tbl (absEnv env) stmt = .ok s') :
    ∃ env', step tbl env item = .ok env' ∧ absEnv env' = s' ∧ InvD tbl env' :=
  refine_stepD tbl env hinv stmt item s' hfrag hc h

/-- Refinement, programs with declared nodes, through the whole parse.  Hypotheses about
    environment and program are computations (`invDB`, `litFragB`: flat lines — declarations,
    literal definitions, literal modifications —, well-formed paths, typed keywords, integers
    without unit).  Whenever the specification accepts the statements (result `s'`): the main loop
    accepts the lines and ends in `env'` with `absEnv env' = s'` and `invDB`; `parse` and `parseC`
    (main loop with `@case` state + final validation) both equal `validate env'`; and if `s'` leaves
    no node without value, the validation passes and the STRONG invariant `invB` holds for `env'`.
    Left out for declared nodes: nested lines (hierarchy), values by
    reference (an injection from a declared node is outside the specification; an import that
    copies or lands on a declared node is not covered), property lines. -/
theorem C17_refinement_declared_partial (tbl : UnitTable) (stmts : List SStmt) (items : List Item)
    (env : Env) (s' : SEnv) (hinv : invDB tbl env = true) (hchk : stmts.all litFragB = true)
    (hc : stmts.mapM concD = some items) (h : sRun tbl (absEnv env) stmts = .ok s') :
    ∃ env', items.foldlM (step tbl) env = .ok env' ∧ absEnv env' = s' ∧ invDB tbl env' = true ∧
      parse tbl env items = validate env' ∧ parseC tbl env items = validate env' ∧
      ((∀ n ∈ s'.nodes, n.value.isSome = true) → validate env' = .ok env' ∧ invB tbl env' = true) := by
  have hfrag : ∀ s ∈ stmts, LitFrag s := by
    intro s hs
    exact (litFragB_iff s).1 (List.all_eq_true.1 hchk s hs)
  obtain ⟨env', h1, h2, h3, h4, h5, h6⟩ := refine_parseD tbl stmts items env s' ((invDB_iff tbl env).1 hinv) hfrag hc h
  refine ⟨env', h1, h2, (invDB_iff tbl env').2 h3, h4, h5, ?_⟩
  intro hv
  exact ⟨(h6 hv).1, (invB_iff tbl env').2 (h6 hv).2⟩

/-- the final validation loop of the model, exactly: it passes iff no to-be-defined node is left
    without value -/
theorem C17_validate_exact (env : Env) :
    validate env = .ok env ↔ ∀ n ∈ env.nodes, n.defined = true → n.value.isSome = true :=
  validate_ok_iff env

/-- non-vacuity: from an environment that already holds a declared node `d bool` (refused by
    `invB`, accepted by `invDB`), the program `a float m` / `b int = 2` / `a = 300 cm` / `d = true`
    passes the checks, the specification accepts it and leaves every node with a value; after
    `a float m` alone a node without value is left -/
example :
    let env : Env := { Env.empty with nodes := [{ blank ['d'] .bool with defined := true }] }
    let stmts : List SStmt := [.decl [['a']] .float [] (some ['m']), .defn [['b']] .int [] (.lit (.num 2)) none,
      .modl [['a']] (.lit (.num 300)) (some ['c', 'm']), .modl [['d']] (.lit (.bool true)) none]
    invB unitTable env = false ∧ invDB unitTable env = true ∧ stmts.all litFragB = true ∧
    (stmts.mapM concD).isSome = true ∧
    (match sRun unitTable (absEnv env) stmts with
     | .ok s' => s'.nodes.all (fun n => n.value.isSome)
     | .error _ => false) = true ∧
    (match sRun unitTable (absEnv env) (stmts.take 1) with
     | .ok s' => s'.nodes.all (fun n => n.value.isSome)
     | .error _ => true) = false := by
  decide +kernel

/-- The case the import side condition of `InFrag` excludes, as a theorem of its own: when the
    specification's import selects no node — it then records `mayReject`, i.e. allows the program
    to be rejected — the model's import line, at any indent and with any written prefix, IS an
    error (no entry is added).  Together with `C17_refinement_import_at_step` every import whose
    source exists is covered: selection non-empty → same result on both sides; empty → rejected. -/
theorem C17_refinement_import_empty (tbl : UnitTable) (env : Env) (hinv : Inv tbl env) (i : Nat)
    (pre dest : List Str) (source : Option Str) (q : SQuery) (hws : WFSource source) (hq : WFQ q)
    (ss : List SNode) (hl : sLookup (absEnv env) source = some ss) (hsel : select q ss = []) :
    sStep tbl (absEnv env) (.imp dest source q) = .ok { absEnv env with mayReject := true } ∧
    ∃ e, step tbl env (.node (impAt i pre source q)) = .error e := by
  refine ⟨?_, imp_empty_rejected tbl env hinv i pre source q hws hq ss hl hsel⟩
  simp [sStep, hl, hsel]

/-- non-trivial instance: one node `a`, the request `b.*` selects nothing -/
example : let env : Env := { Env.empty with
      nodes := [{ blank ['a'] .float with value := some (.num 3), unitsRaw := some ['m'] }] }
    WFSource none ∧ WFQ (.children [['b']]) ∧
    sLookup (absEnv env) none = some (absEnv env).nodes ∧ select (.children [['b']]) (absEnv env).nodes = [] := by
  intro env
  refine ⟨by simp [WFSource], ⟨⟨by simp, by simp⟩, by simp [joinDot]⟩, by simp [sLookup, absEnv, env], ?_⟩
  simp [select, absEnv, env, absN, blank, splitDot, sMatches, List.filter]

/-- a property line in its documented place: "update the node at the path" (specification) and
    "update the last node" (code) are the same update -/
theorem C17_refinement_property_step (tbl : UnitTable) (env : Env) (hinv : Inv tbl env)
    (path : List Str) (p : PropLine) (s' : SEnv) (hok : PropOK env path p)
    (h : sStep tbl (absEnv env) (propStmt path p) = .ok s') :
    ∃ env', step tbl env (.prop p) = .ok env' ∧ absEnv env' = s' ∧ Inv tbl env' :=
  refine_prop tbl env hinv path p s' hok h

/-- Rejection on both sides: when the specification rejects an injection because its request —
    exact, `p.*` or `*` — selects no node or several, the model's line (definition or
    modification carrying that reference) is an error too. -/
theorem C17_refinement_rejected (tbl : UnitTable) (env : Env) (hinv : Inv tbl env) (source : Option Str)
    (hws : WFSource source) (q : SQuery) (hq : WFQ q) (sl : List Sl) (n : Node) (hk : n.kw ≠ .imp)
    (hr : n.ref = some (source.getD [] ++ '?' :: renderQ q))
    (h : sEval (absEnv env) (.inj source q sl) = .error .rejected) :
    ∃ e, step tbl env (.node n) = .error e := by
  obtain ⟨e, he⟩ := request_rejected tbl env hinv source hws q hq sl h
  exact ⟨e, by simp [step, hk, injectValue, hr, he]⟩

/-- One statement of the flat fragment and the line `conc` writes for it: whenever the specification accepts the
    statement, the main loop accepts the line, ends in the abstraction of the specification's result and keeps the
    invariant (the step of `C17_refinement_partial`). -/
theorem C17_refinement_step (tbl : UnitTable) (env : Env) (hinv : Inv tbl env) (stmt : SStmt)
    (item : Item) (s' : SEnv) (hfrag : InFrag (absEnv env) stmt) (hc : conc stmt = some item)
    (h : sStep tbl (absEnv env) stmt = .ok s') :
    ∃ env', step tbl env item = .ok env' ∧ absEnv env' = s' ∧ Inv tbl env' :=
  refine_step tbl env hinv stmt item s' hfrag hc h

/-- the hypotheses are satisfiable: the empty environment satisfies the invariant, and
    `a float = 3 m` is a statement of the fragment that the specification accepts there -/
example : Inv unitTable Env.empty ∧
    InFrag (absEnv Env.empty) (.defn [['a']] .float [] (.lit (.num 3)) (some ['m'])) ∧
    (∃ s', sStep unitTable (absEnv Env.empty) (.defn [['a']] .float [] (.lit (.num 3)) (some ['m'])) = .ok s') := by
  exact ⟨(invB_iff _ _).mp (by decide +kernel), (inFragB_iff _ _).mp (by decide +kernel),
    exists_ok_of_isSome (by decide +kernel)⟩

end SciVerif.C17
