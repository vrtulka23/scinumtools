import SciVerif.Lemmas.C15Tree
import SciVerif.Lemmas.C15Lines

/-!
# C15 — A node takes effect exactly when all enclosing case clauses are selected

`parse`/`run`/`step` = the model of `DIP.parse` + `HierarchyList` + `BranchingList`
(`Model/C15.lean`); `Items` = program trees (node definitions, modifications, property lines
below a node or on their own, groups, blocks in plain form or in compact form `parent.@case`),
`render` = the lines of a tree under an arbitrary indentation oracle (the `extra`
annotations), `sem` = the lines of the selected clauses.  Every theorem quantifies over all
trees (any nesting depth), all truth values, all indentation annotations, all written parents.
-/
namespace SciVerif.C15

/-- Main theorem.  For every program tree — any nesting of blocks and groups, blocks written
    plainly or in compact form with any dotted parent, any truth assignment, any indentation
    oracle, blocks closed by `@end`, by the next clause, by a neighbouring block with another
    parent, by de-indentation over any number of levels (by a node, a group or a property
    line) or by the end of the text — the parser accepts the rendered text and the node and
    property lines that take effect are exactly, and in order, the lines of the selected
    clauses (`sem`: first true clause of each block, else `@else`, else nothing; a nested
    block counts only inside a selected clause). -/
theorem C15_effect_iff_selected (p : Items) : parse (p.render 0) = .ok (p.sem []) := by
  obtain ⟨s', hr⟩ := items_ok_top p St.init rfl
  unfold parse
  rw [hr]

/-- The "exactly when" reading, spelled out: list every node/property occurrence of the tree
    with, for each enclosing clause, the flag "this clause is the selected one of its block"
    (`occ`); the lines that take effect are exactly the occurrences all of whose flags are true. -/
theorem C15_effect_iff_all_enclosing_selected (p : Items) :
    parse (p.render 0) = .ok (selectedOnly (p.occ [] [])) := by
  rw [C15_effect_iff_selected, Items.occ_sem]
  rfl

/-- The same inside any context: at any indent `k`, below any stack `B` of open branches and
    any hierarchy `P`, the lines of a rendered item sequence take effect iff every branch of
    `B` has its current clause selected (`falseCase B = false`) — and then exactly the lines
    of the selected clauses do, under the cleaned hierarchical name of `P`; the enclosing
    stack and hierarchy are found unchanged afterwards. -/
theorem C15_effect_iff_selected_nested (p : Items) (k : Nat) (s : St)
    (hB : Below k s.state) (hP : BelowP k s.parents) :
    ∃ s', run s (p.render k) =
        .ok (s', if falseCase s.state then [] else p.sem (cleanName (fullName s.parents))) ∧
      closeGE k s'.state = s.state ∧ popGE k s'.parents = s.parents :=
  items_ok p k s s.state s.parents hB hP (closeGE_of_below hB) (popGE_of_below hP)
    (fun _ _ => closeFor_new (closeGE_of_below (hB.mono (Nat.le_succ k))) hB)

/-- The hypotheses are satisfiable by non-trivial states: after `@case false` (resp. `@case true`)
    at indent 0 the state has one open branch; at indent 1 the theorem applies, with all
    lines skipped (resp. taken). -/
example :
    (match run St.init [⟨0, [], .case false⟩] with
      | .ok (s, _) => decide (s.state.length = 1 ∧ s.state.all (fun b => b.cur.indent < 1) ∧
          s.parents.all (fun p => p.1 < 1) ∧ falseCase s.state = true)
      | .error _ => false) = true ∧
    (match run St.init [⟨0, ["g"], .case true⟩] with
      | .ok (s, _) => decide (s.state.length = 1 ∧ s.state.all (fun b => b.cur.indent < 1) ∧
          s.parents.all (fun p => p.1 < 1) ∧ falseCase s.state = false)
      | .error _ => false) = true := by
  decide

/-- Lines outside a block are unaffected by what is inside it: whatever two items (e.g. two
    blocks with different truth values, clauses, parents and contents) stand between the item
    sequences `A` and `C`, the lines of `A` and `C` take effect identically; only the middle
    part differs. -/
theorem C15_outside_unaffected (A C : Items) (b₁ b₂ : Item) :
    parse ((A.append (.cons b₁ C)).render 0) = .ok (A.sem [] ++ b₁.sem [] ++ C.sem []) ∧
    parse ((A.append (.cons b₂ C)).render 0) = .ok (A.sem [] ++ b₂.sem [] ++ C.sem []) := by
  constructor <;>
  · rw [C15_effect_iff_selected, Items.sem_append]
    exact congrArg Except.ok (List.append_assoc ..).symm

/-- An unselected clause contributes nothing, whatever it contains (in particular a selected
    clause of a block nested in it, or property lines). -/
theorem C15_unselected_contributes_nothing (pfx : List String) (e : Nat) (body rest : Items) (ee : Bool) :
    parse ((Items.cons (.block pfx false e body (.fin ee 0 .nil)) rest).render 0) = .ok (rest.sem []) := by
  rw [C15_effect_iff_selected]
  cases ee <;> rfl

/-- What stands inside an unselected clause is irrelevant altogether — other nodes, other
    nested blocks, other truth values of the nested conditions, other indentation: the result
    is the same for any two bodies. -/
theorem C15_unselected_contents_irrelevant (pfx : List String) (e₁ e₂ : Nat) (body₁ body₂ : Items)
    (more : Chain) (rest : Items) :
    parse ((Items.cons (.block pfx false e₁ body₁ more) rest).render 0) =
    parse ((Items.cons (.block pfx false e₂ body₂ more) rest).render 0) := by
  rw [C15_effect_iff_selected, C15_effect_iff_selected]
  rfl

/-- The machine does not look at the condition of a `@case` inside an unselected clause
    (`CaseNode.parse` as of commit 790a797 does not evaluate the expression when an enclosing case
    is unselected): in any state in which some enclosing clause of a `@case` line is unselected,
    the step does not depend on the truth value of its condition. -/
theorem C15_condition_in_unselected_clause_not_evaluated (s : St) (k : Nat) (x : List String)
    (c₁ c₂ : Bool) (h : falseCase (closeGE k s.state) = true) :
    step s ⟨k, x, .case c₁⟩ = step s ⟨k, x, .case c₂⟩ := by
  rw [step_clause s k x _ (.case c₁), step_clause s k x _ (.case c₂)]
  simp only [h, Bool.not_true, Bool.and_false]

example : (match run St.init [⟨0, [], .case false⟩] with
    | .ok (s, _) => falseCase (closeGE 2 s.state)
    | .error _ => false) = true := by decide

/-- Lines written after an explicit `@end` but indented deeper than it are outside the block:
    they take effect whatever the truth values of the block's clauses are, under the name of the
    block's parent (the `@N` of the `@end` line they hang below is cleaned from their names). -/
theorem C15_lines_after_end_outside_block (pfx : List String) (c : Bool) (e te : Nat)
    (body tr rest : Items) :
    parse ((Items.cons (.block pfx c e body (.fin true te tr)) rest).render 0) =
      .ok ((if c then body.sem pfx else []) ++ tr.sem pfx ++ rest.sem []) := by
  rw [C15_effect_iff_selected]
  cases c <;> rfl

/-- Only the first true clause counts: after a true clause nothing else of the block does
    (`more.tail`: what is written after its explicit `@end`, outside the block). -/
theorem C15_first_true_only (pfx : List String) (e : Nat) (body rest : Items) (more : Chain) :
    parse ((Items.cons (.block pfx true e body more) rest).render 0) =
      .ok (body.sem pfx ++ more.tail pfx ++ rest.sem []) := by
  rw [C15_effect_iff_selected]
  rfl

/-- Two neighbouring blocks in compact form with different parents are two blocks, although
    no `@end`, node or group stands between them: a true clause of the first does not shadow
    the second. -/
theorem C15_compact_neighbours_independent (p q : List String) (hpq : p ≠ q) (e₁ e₂ : Nat)
    (b₁ b₂ rest : Items) (m₂ : Chain) :
    parse ((Items.cons (.block p true e₁ b₁ (.fin false 0 .nil))
             (.cons (.block q true e₂ b₂ m₂) rest)).render 0)
      = .ok (b₁.sem p ++ b₂.sem q ++ m₂.tail q ++ rest.sem []) ∧
    (needsEnd (some p) (some q) = false) := by
  refine ⟨?_, beq_eq_false_iff_ne.mpr hpq⟩
  rw [C15_effect_iff_selected]
  show Except.ok ((b₁.sem p ++ []) ++ ((b₂.sem q ++ m₂.tail q) ++ rest.sem [])) = _
  simp only [List.append_nil, List.append_assoc]

/-- A property line written at the indent of a block that was closed only by indentation is
    outside the block: it takes effect whatever the truth value of the block's clause. -/
theorem C15_property_after_block (c : Bool) (e : Nat) (body rest : Items) (pk : PKind) (n : String) (v : Int) :
    parse ((Items.cons (.node n false v [])
             (.cons (.block [] c e body (.fin false 0 .nil)) (.cons (.prop pk) rest))).render 0)
      = .ok (Eff.node [n] false v :: ((if c then body.sem [] else []) ++ Eff.prop pk :: rest.sem [])) := by
  rw [C15_effect_iff_selected]
  cases c
  · rfl
  · exact congrArg (fun o => Except.ok (Eff.node [n] false v :: o)) (List.append_assoc ..)

/-- Import lines and directives inside an unselected clause are inert: an import whose source
    group exists only inside that clause, an import of something that does not exist at all
    and a `$unit` that cannot be defined do not make the parse fail and contribute nothing. -/
theorem C15_unselected_imports_and_directives_inert (pfx : List String) (e e' : Nat) (g u : String)
    (src : List String) (nd : Option String) (gbody rest : Items) (ee : Bool) :
    parse ((Items.cons (.block pfx false e
        (.cons (.group g e' gbody) (.cons (.imp (pfx ++ [g]) none) (.cons (.imp src nd) (.cons (.unit u true) .nil))))
        (.fin ee 0 .nil)) rest).render 0) = .ok (rest.sem []) :=
  C15_unselected_contributes_nothing pfx e _ rest ee

/-- A code parsed on ANY environment whose cases are closed — whatever hierarchy and counters
    earlier parses left in it — takes effect exactly as its own `sem` says, and returns an
    environment whose cases are closed again (`DIP.parse` as of commit 445f434 closes all open cases
    at the end of the code).
    What earlier codes contained (e.g. a block left open at their end) is irrelevant. -/
theorem C15_parse_from_any_environment (p : Items) (s : St) (h : s.state = []) :
    ∃ s', parseFrom s (p.render 0) = .ok (s', p.sem []) ∧ s'.state = [] := by
  obtain ⟨s', hr⟩ := items_ok_top p s h
  refine ⟨s'.finish, ?_, rfl⟩
  unfold parseFrom
  rw [hr]

/-- A whole history of parses: codes parsed one after the other, each on the environment
    returned by the previous one, take effect each as its own `sem`. -/
theorem C15_parse_chain : ∀ (ps : List Items) (s : St), s.state = [] →
    parseChain s (ps.map (fun p => p.render 0)) = .ok (ps.map (fun p => p.sem []))
  | [], _, _ => rfl
  | p :: ps, s, h => by
    obtain ⟨s', hr, hs'⟩ := C15_parse_from_any_environment p s h
    simp only [List.map_cons, parseChain, hr, C15_parse_chain ps s' hs']

example : (St.mk [(0, [.cs 1]), (2, [.nm "a"])] [] 3 2).state = [] := rfl

/-! Non-vacuity: a concrete program with nested blocks, a block closed by a two-level
    de-indentation, a forced `@end`, compact neighbours and property lines — rendered, run
    and compared. -/
def exampleProgram : Items :=
  .cons (.block [] false 0 (.cons (.block [] true 1 (.cons (.node "b" false 2 []) .nil) (.fin false 0 .nil)) .nil)
           (.els 0 (.cons (.node "a" false 1 [(1, .constant)]) .nil) false 0 .nil))
  (.cons (.block [] true 0 (.cons (.node "c" false 3 []) .nil) (.fin false 0 .nil))
  (.cons (.block ["w"] true 0 (.cons (.node "n" false 4 []) .nil) (.fin false 0 .nil))
  (.cons (.block ["v"] false 0 (.cons (.node "n" false 5 []) .nil) (.fin false 0 .nil))
  (.cons (.prop (.tags "t")) .nil))))

example : (match parse (exampleProgram.render 0) with | .ok o => some o | .error _ => none)
      = some [.node ["a"] false 1, .prop .constant, .node ["c"] false 3, .node ["w", "n"] false 4,
              .prop (.tags "t")] ∧ (exampleProgram.render 0).length = 14 := by
  decide

/-- For EVERY sequence of lines (not only rendered trees; any indents, any mixture of nodes,
    groups, property lines and clause lines in plain or compact form): if some `@else` has no
    open `@case` clause at its indent with the same written parent, or some `@end` no open
    `@case`/`@else` clause at its indent with the same written parent, or some `@case`
    continues an `@else` — "open at indent `k`" defined declaratively on the text: the latest
    earlier line indented no deeper than `k` is such a clause line written at exactly `k`
    (`specOpenAt`) — then parsing fails.  Covers `@else`/`@end` at the start, after `@end`,
    after a block closed by a shallower or equally indented line (node, group or property),
    deeper than their `@case`, a second `@else`, a `@case` after `@else`, `x.@else`/`x.@end`
    after a block of another parent, and all of these inside unselected clauses. -/
theorem C15_misplaced_rejected (ls : List Line) (h : misplaced ls = true) : parse ls = .error () :=
  (parse_error_iff ls).mpr h

/-- The same on any environment whose cases are closed: a code that starts with `@else`/`@end`
    (or contains any other misplaced clause line) is refused whatever was parsed before. -/
theorem C15_misplaced_rejected_from (s : St) (h : s.state = []) (ls : List Line)
    (hm : misplaced ls = true) : parseFrom s ls = .error () := by
  unfold parseFrom
  rw [(run_error_iff (inv_closed h)).mpr hm]

example : misplaced [⟨0, [], .case true⟩, ⟨2, ["a"], .node false 1⟩, ⟨0, [], .fin⟩, ⟨0, [], .els⟩] = true ∧
    misplaced [⟨0, ["engine"], .case true⟩, ⟨2, ["a"], .node false 1⟩, ⟨0, ["wheels"], .els⟩] = true ∧
    misplaced [⟨0, ["engine"], .case true⟩, ⟨2, ["a"], .node false 1⟩, ⟨0, ["wheels"], .fin⟩] = true := by
  decide

/-- The declarative notion `misplaced` is not too eager: the rendered lines of a program tree are
    accepted (`C15_effect_iff_selected`), and only texts with a misplaced clause line are refused, so
    none of their clause lines is misplaced. -/
theorem C15_rendered_not_misplaced (p : Items) : misplaced (p.render 0) = false :=
  Bool.eq_false_iff.mpr fun h => by
    have h1 := (parse_error_iff _).mpr h
    rw [C15_effect_iff_selected] at h1
    cases h1

/-- A clause after `@else`, as a statement about any machine state (reachable or not): if,
    after closing what is deeper, the block on top was written at this indent under the same
    parent and its current clause is `@else`, a further `@case` or `@else` there is refused. -/
theorem C15_clause_after_else_rejected (s : St) (k : Nat) (x : List String) (blk : Branch) (B : List Branch)
    (kw : Kw) (hkw : kw = .els ∨ ∃ c, kw = .case c)
    (hB : closeGE (k + 1) s.state = blk :: B) (hi : blk.cur.indent = k)
    (hpath : blk.cur.path = fullName (popGE k s.parents) ++ nms x) (ht : blk.cur.ctype = .els) :
    step s ⟨k, x, kw⟩ = .error () := by
  rw [← path_register s.parents k (s.numCases + 1) x] at hpath
  rcases hkw with rfl | ⟨c, rfl⟩ <;>
    rw [step_clause s k x _ (by constructor), solveCase_found (s := { s with numCases := s.numCases + 1 }) _
      (closeFor_same hB hi hpath), ht] <;> rfl

/-- Non-vacuity of the hypotheses above, and the whole-text version on an instance:
    `@case false` / `a` / `@else` / `a` / `@case true` is refused. -/
example : (match run St.init [⟨0, [], .case false⟩, ⟨1, ["a"], .node false 1⟩, ⟨0, [], .els⟩, ⟨1, ["a"], .node false 2⟩] with
    | .ok (s, _) => (match closeGE 1 s.state with
        | blk :: _ => decide (blk.cur.indent = 0 ∧ blk.cur.path = fullName (popGE 0 s.parents) ++ nms [] ∧ blk.cur.ctype = .els)
        | [] => false)
    | .error _ => false) = true ∧
    (match parse [⟨0, [], .case false⟩, ⟨1, ["a"], .node false 1⟩, ⟨0, [], .els⟩, ⟨1, ["a"], .node false 2⟩,
        ⟨0, [], .case true⟩, ⟨1, ["a"], .node false 3⟩] with | .ok _ => false | .error _ => true) = true := by
  decide

end SciVerif.C15
