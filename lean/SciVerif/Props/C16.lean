import SciVerif.Lemmas.C16Field
import Mathlib.Algebra.Order.Field.Rat
import Mathlib.Tactic.NormNum.Inv
import Mathlib.Tactic.NormNum.Eq
import Mathlib.Tactic.NormNum.Ineq

/-!
# C16 — parse() returns only environments that satisfy every declared constraint

Theorems about the model of the validation loop at the end of `DIP.parse`, for all node lists.
First with unit conversion, tolerant equality, the value of the `!condition` expression (logical
solver, property C18) and `re.match` as parameters (`C16_node` … `C16_option_units`); then with the
two numeric primitives as the formulas of the code over any ordered field (section `Concrete`) and
the `!condition` of the shape `{?} <op> literal [unit]` computed by the model (`C16_cond_*`);
`re.match` and conditions of any other shape stay parameters.
-/
namespace SciVerif.C16

variable {F : Type}

/-- One node: the loop body lets the node pass exactly when the node satisfies its constraints. -/
theorem C16_node (P : Prim F) (n : Node F) (hs : n.Sane P) :
    validateNode P n = true ↔ holds P n := by
  obtain ⟨hsel, hstr, hreg⟩ := hs
  obtain ⟨regs, hregs⟩ : ∃ regs, n.options.mapM (register P n) = some regs :=
    ⟨_, Util.mapM_eq_some.mpr ⟨hreg, rfl⟩⟩
  rw [validateNode_iff P n hregs]
  unfold holds
  refine and_congr Iff.rfl ?_
  cases n.value with
  | none => rw [mapM_eq_some_nil hregs]
  | some v =>
    refine and_congr ?_ (and_congr Iff.rfl ?_)
    · cases hsb : n.selectable
      · exact iff_of_true (fun h => absurd h Bool.false_ne_true) (Or.inl (hsel hsb))
      · exact (forall_prop_of_true rfl).trans (validateOptions_register P n v hregs)
    · cases hib : n.isStr
      · exact iff_of_true (fun h => absurd h Bool.false_ne_true) (Or.inl (hstr hib))
      · exact forall_prop_of_true rfl

/-- **Soundness**: if the validation loop lets an environment pass, every node in it satisfies
    all constraints attached to it. -/
theorem C16_sound (P : Prim F) (env : List (Node F)) (hs : ∀ n ∈ env, n.Sane P)
    (h : validate P env = true) : ∀ n ∈ env, holds P n :=
  fun n hn => (C16_node P n (hs n hn)).mp ((validate_iff P env).mp h n hn)

/-- **Completeness**: an environment all of whose nodes satisfy their constraints is accepted. -/
theorem C16_complete (P : Prim F) (env : List (Node F)) (hs : ∀ n ∈ env, n.Sane P)
    (h : ∀ n ∈ env, holds P n) : validate P env = true :=
  (validate_iff P env).mpr fun n hn => (C16_node P n (hs n hn)).mpr (h n hn)

/-- The dimension test of `cast_value`: a node without declared dimensions takes exactly the
    scalar values; a node with declared dimensions exactly the values that have every declared axis
    with its extent inside the bounds (an open bound is no bound). -/
theorem C16_dims (dims : List (Option Nat × Option Nat)) (shape : List Nat) :
    dimsOK dims shape = true ↔ (dims = [] ∧ shape = []) ∨ (dims ≠ [] ∧ dimsWithin dims shape) := by
  unfold dimsOK
  cases dims with
  | nil => simp
  | cons d ds => simp [castDims_iff]

/-- Options are compared after conversion to the node's unit: an option written in another unit of
    the same dimension is met exactly when the converted value is tolerantly equal. -/
theorem C16_option_units (P : Prim F) (n : Node F) (o x w : F) (u ux : Option String)
    (hc : P.conv u n.unit o = some w) :
    (∃ r, register P n (.num o u) = some r ∧ optEq P r (.num x ux) = true) ↔ P.isclose w x = true := by
  rw [register_num_some P n hc]
  constructor
  · rintro ⟨r, e, h⟩; cases e; exact h
  · intro h; exact ⟨_, rfl, h⟩

/-! Non-vacuity: a sane node with options in another unit, a condition and no format. -/
def exP : Prim Int := ⟨fun s d v => if s = d then some v else if s = some "m" ∧ d = some "cm" then some (100 * v) else none,
  fun a b => a == b⟩
def exN : Node Int := ⟨false, some (.num 200 (some "cm")), some "cm", true, [.num 3 (some "cm"), .num 2 (some "m")],
  some (some true), false, none, [], []⟩
example : exN.Sane exP := by
  refine ⟨by simp [exN], by simp [exN], ?_⟩
  intro o ho
  simp [exN] at ho
  rcases ho with rfl | rfl
  · rw [register_num_some exP exN (w := 3) rfl]; rfl
  · rw [register_num_some exP exN (w := 200) rfl]; rfl
example : validate exP [exN] = true := by decide
example : dimsWithin [(some 1, none), (none, some 3)] [2, 3] := (castDims_iff _ _).mp (by decide)

/-! ## The primitives made concrete: tolerant equality and linear conversion over an ordered field

`fieldPrim tbl atol rtol` instantiates the two numeric primitives with the formulas of the code
(`np.isclose`: `|a − b| ≤ atol + rtol·|b|`; `NumberType.convert`: `v · k_src / k_dst` inside one
dimension), over ANY ordered field.  The theorems below then speak about final values on, near
and off the boundary of an option, for every magnitude and every pair of units. -/

section Concrete
variable {K : Type} [Field K] [LinearOrder K] [IsStrictOrderedRing K]

/-- **The acceptance band of an option.**  A numeric option `o` written in unit `s`, on a node
    whose unit `d` has the same dimension, is met by the final value `x` exactly when the converted
    option `o · k_s / k_d` lies in the closed band `x ± (atol + rtol·|x|)` — nothing else enters. -/
theorem C16_option_band (tbl : String → Option (LinUnitK K)) (atol rtol : K) (n : Node K)
    (s d : String) (xs yd : LinUnitK K) (o x : K) (un : Option String)
    (hn : n.unit = some d) (hsd : s ≠ d) (hx : tbl s = some xs) (hy : tbl d = some yd)
    (hd : xs.dims = yd.dims) :
    optHolds (fieldPrim tbl atol rtol) n (.num x un) (.num o (some s)) ↔
      x - (atol + rtol * |x|) ≤ o * xs.k / yd.k ∧ o * xs.k / yd.k ≤ x + (atol + rtol * |x|) := by
  have hc : convK tbl (some s) n.unit o = some (o * xs.k / yd.k) := by
    rw [hn]; exact convK_lin tbl s d xs yd o hsd hx hy hd
  exact (optHolds_num_of_conv (fieldPrim tbl atol rtol) n un hc).trans (iscloseK_iff atol rtol _ x)

/-- **Accept direction on the boundary**: a final value that denotes the same physical quantity
    as one of the listed options (`x · k_d = o · k_s`, the option written in any unit of the node's
    dimension) passes the validation loop, whatever the other options are — for every magnitude and
    every non-negative tolerance pair. -/
theorem C16_accept_same_quantity (tbl : String → Option (LinUnitK K)) (atol rtol : K)
    (ha : 0 ≤ atol) (hr : 0 ≤ rtol) (n : Node K) (hs : n.Sane (fieldPrim tbl atol rtol))
    (s d : String) (xs yd : LinUnitK K) (o x : K) (un : Option String)
    (hn : n.unit = some d) (hx : tbl s = some xs) (hy : tbl d = some yd) (hd : xs.dims = yd.dims)
    (hk : yd.k ≠ 0) (hq : x * yd.k = o * xs.k)
    (hv : n.value = some (.num x un)) (hmem : Opt.num o (some s) ∈ n.options)
    (hdim : dimsOK n.dims n.shape = true)
    (hcond : n.condition = none ∨ n.condition = some (some true))
    (hfmt : n.format = none ∨ n.format = some true) :
    validateNode (fieldPrim tbl atol rtol) n = true := by
  have hc : convK tbl (some s) n.unit o = some x := by
    rw [hn]; exact convK_same_quantity tbl hx hy hd hk hq
  rw [C16_node _ n hs]
  refine ⟨hdim, ?_⟩
  rw [hv]
  exact ⟨Or.inr ⟨_, hmem, (optHolds_num_of_conv _ n un hc).mpr (iscloseK_refl atol rtol x ha hr)⟩,
    hcond, hfmt⟩

/-- **Reject direction off the boundary**: on a selectable node whose options are all numeric and
    all convertible, a final value that is outside the band of EVERY converted option makes the
    validation loop fail (so `parse` raises), whatever condition and format say. -/
theorem C16_reject_off_band (tbl : String → Option (LinUnitK K)) (atol rtol : K) (n : Node K)
    (hs : n.Sane (fieldPrim tbl atol rtol)) (x : K) (un : Option String)
    (hv : n.value = some (.num x un)) (hne : n.options ≠ [])
    (hoff : ∀ o u, Opt.num o u ∈ n.options → ∀ w, convK tbl u n.unit o = some w →
      atol + rtol * |x| < |w - x|)
    (hnum : ∀ o ∈ n.options, ∃ v u, o = Opt.num v u) :
    validateNode (fieldPrim tbl atol rtol) n = false := by
  refine Bool.eq_false_iff.mpr fun hval => ?_
  obtain ⟨_, hh⟩ := (C16_node _ n hs).mp hval
  rw [hv] at hh
  rcases hh.1 with he | ⟨o, ho, hhold⟩
  · exact hne he
  · obtain ⟨v, u, rfl⟩ := hnum o ho
    obtain ⟨w, hw, hclose⟩ := (optHolds_num ..).mp hhold
    rw [fieldPrim_isclose, iscloseK_far atol rtol w x (hoff v u ho w hw)] at hclose
    cases hclose

/-- An option written in a unit of another dimension cannot be registered: the node is never
    accepted (`set_option` raises while parsing). -/
theorem C16_option_other_dimension (tbl : String → Option (LinUnitK K)) (atol rtol : K) (n : Node K)
    (s d : String) (xs yd : LinUnitK K) (o : K)
    (hn : n.unit = some d) (hx : tbl s = some xs) (hy : tbl d = some yd) (hd : xs.dims ≠ yd.dims)
    (hmem : Opt.num o (some s) ∈ n.options) :
    validateNode (fieldPrim tbl atol rtol) n = false := by
  refine validateNode_of_register_none _ n hmem (register_num_none _ n ?_)
  rw [hn]
  exact convK_other_dim tbl s d xs yd o hx hy hd

/-! Non-vacuity over `Rat`: options `3 cm`, `2 m` on a node in `cm` with final value `200 cm`. -/
def exTbl : String → Option (LinUnitK Rat) := fun s =>
  if s = "cm" then some ⟨1/100, [1]⟩ else if s = "m" then some ⟨1, [1]⟩
  else if s = "s" then some ⟨1, [0, 0, 1]⟩ else none
def exNK : Node Rat := ⟨false, some (.num 200 (some "cm")), some "cm", true,
  [.num 3 (some "cm"), .num 2 (some "m")], some (some true), false, none, [], []⟩
example : validateNode (fieldPrim exTbl (1/100000000) (1/1000000)) exNK = true := by
  refine C16_accept_same_quantity exTbl _ _ (by norm_num) (by norm_num) exNK ?_ "m" "cm"
    ⟨1, [1]⟩ ⟨1/100, [1]⟩ 2 200 (some "cm") rfl rfl rfl rfl
    (by norm_num) (by norm_num) rfl (.tail _ (.head _)) rfl (Or.inr rfl) (Or.inl rfl)
  refine ⟨by simp [exNK], by simp [exNK], ?_⟩
  intro o ho
  simp [exNK] at ho
  rcases ho with rfl | rfl
  · rw [register_num_some _ exNK (convK_same exTbl "cm" 3)]; rfl
  · rw [register_num_some _ exNK (convK_lin exTbl "m" "cm" ⟨1, [1]⟩ ⟨1/100, [1]⟩ 2 (by decide) rfl rfl rfl)]; rfl

end Concrete

/-! ## The `!condition` `{?} <op> literal [unit]` as a function of the final value

`withNumCond P lt n c x ux` is the node `n` with final value `x ux` and with `Node.condition`
COMPUTED by the model (`condNum`: the literal converted to the value's unit by `NumberType.convert`,
then the comparison of `type_number.py`), not supplied from outside.  What stays a
parameter: `re.match`, and conditions of any other shape (several comparisons, references to other
nodes, string/boolean nodes) — for these `Node.condition` is the `Option (Option Bool)` computed by the C18 model. -/

/-- **Validation with a computed condition** (any primitives): a numeric node with the simple
    condition `c` passes the loop exactly when dimensions, options and format hold AND the
    condition function yields `true` on the final value. -/
theorem C16_cond_node (P : Prim F) (lt : F → F → Bool) (n : Node F) (hs : n.Sane P)
    (c : SimpleCond F) (x : F) (ux : Option String) :
    validateNode P (withNumCond P lt n c x ux) = true ↔
      dimsOK n.dims n.shape = true ∧
      (n.options = [] ∨ ∃ o ∈ n.options, optHolds P n (.num x ux) o) ∧
      condNum P lt c x ux = some true ∧ (n.format = none ∨ n.format = some true) := by
  have hs' : (withNumCond P lt n c x ux).Sane P := hs
  rw [C16_node P _ hs']
  simp only [holds, withNumCond, Option.some.injEq, reduceCtorEq, false_or]
  exact Iff.rfl

section ConcreteCond
variable {K : Type} [Field K] [LinearOrder K] [IsStrictOrderedRing K]

/-- **What is compared**: with the literal written in unit `s` and the value in another unit `d`
    of the same dimension, the condition compares `x` with `b · k_s / k_d`. -/
theorem C16_cond_convert (tbl : String → Option (LinUnitK K)) (atol rtol : K) (op : CmpOp)
    (s d : String) (xs yd : LinUnitK K) (b x : K) (hsd : s ≠ d) (hx : tbl s = some xs)
    (hy : tbl d = some yd) (hd : xs.dims = yd.dims) :
    condK tbl atol rtol ⟨op, b, some s⟩ x (some d) = some (cmpK atol rtol op x (b * xs.k / yd.k)) :=
  condK_of_conv tbl atol rtol ⟨op, b, some s⟩ x _ (some d) (convK_lin tbl s d xs yd b hsd hx hy hd)

/-- without a unit on one side, or with the same unit on both, the literal is compared as written -/
theorem C16_cond_no_convert (tbl : String → Option (LinUnitK K)) (atol rtol : K) (op : CmpOp)
    (u ux : Option String) (b x : K) (h : u = none ∨ ux = none ∨ u = ux) :
    condK tbl atol rtol ⟨op, b, u⟩ x ux = some (cmpK atol rtol op x b) :=
  condK_of_conv tbl atol rtol ⟨op, b, u⟩ x b ux (convK_id tbl u ux b h)

/-- **Boundary theorem.**  For non-negative tolerances the condition `{?} <op> b s` holds on the
    final value `x` (unit `d`) exactly when `x` lies in the set written with plain order relations
    around `y = b · k_s / k_d`: `<`/`>` are strict and exact, `<=` is `x ≤ y + (atol + rtol·|y|)`,
    `>=` is `y − (atol + rtol·|y|) ≤ x`, `==` the closed band, `!=` its complement. -/
theorem C16_cond_boundary (tbl : String → Option (LinUnitK K)) (atol rtol : K) (ha : 0 ≤ atol)
    (hr : 0 ≤ rtol) (c : SimpleCond K) (x y : K) (ux : Option String)
    (hc : convK tbl c.unit ux c.lit = some y) :
    condK tbl atol rtol c x ux = some true ↔ condAccepts atol rtol c.op x y := by
  rw [condK_of_conv tbl atol rtol c x y ux hc, Option.some.injEq]
  exact cmpK_accepts atol rtol ha hr c.op x y

/-- `{?} <= b s` on a node in unit `d`: accepted iff `x < y` or `x` is tolerantly equal to `y`,
    `y = b · k_s / k_d` — for ANY tolerances (also negative ones). -/
theorem C16_cond_le (tbl : String → Option (LinUnitK K)) (atol rtol : K)
    (s d : String) (xs yd : LinUnitK K) (b x : K) (hsd : s ≠ d) (hx : tbl s = some xs)
    (hy : tbl d = some yd) (hd : xs.dims = yd.dims) :
    condK tbl atol rtol ⟨.le, b, some s⟩ x (some d) = some true ↔
      x < b * xs.k / yd.k ∨ iscloseK atol rtol x (b * xs.k / yd.k) = true := by
  rw [C16_cond_convert tbl atol rtol .le s d xs yd b x hsd hx hy hd, Option.some.injEq]
  show (ltK x _ || iscloseK atol rtol x _) = true ↔ _
  rw [Bool.or_eq_true, ltK_iff]

/-- the comparison can be read on either side of the conversion: for positive unit factors,
    `x < b · k_s / k_d` (literal brought to the node's unit, what the code does) is the same as
    `x · k_d / k_s < b` (value brought to the literal's unit). -/
theorem C16_cond_lt_either_side (ks kd b x : K) (hs : 0 < ks) (hd : 0 < kd) :
    x < b * ks / kd ↔ x * kd / ks < b := by
  rw [lt_div_iff₀ hd, div_lt_iff₀ hs]

/-- **Strict comparisons reject the boundary exactly**: `{?} < b s`, `{?} > b s` and `{?} != b s`
    fail on the final value that equals the converted literal, for every magnitude, unit pair and
    non-negative tolerance pair, so the validation loop raises whatever the other constraints say. -/
theorem C16_cond_strict_rejects_boundary (tbl : String → Option (LinUnitK K)) (atol rtol : K)
    (ha : 0 ≤ atol) (hr : 0 ≤ rtol) (n : Node K) (c : SimpleCond K) (x : K) (ux : Option String)
    (hop : c.op = .lt ∨ c.op = .gt ∨ c.op = .ne)
    (hc : convK tbl c.unit ux c.lit = some x) :
    condK tbl atol rtol c x ux = some false ∧
    validateNode (fieldPrim tbl atol rtol) (withNumCond (fieldPrim tbl atol rtol) ltK n c x ux) = false := by
  have hval : condK tbl atol rtol c x ux = some false := by
    rw [condK_of_conv tbl atol rtol c x x ux hc, Option.some.injEq, ← Bool.not_eq_true,
      cmpK_accepts atol rtol ha hr, condAccepts_self atol rtol x (tolK_nonneg atol rtol x ha hr)]
    rcases hop with e | e | e <;> rw [e] <;> decide
  refine ⟨hval, validateNode_withNumCond_false _ ltK n c x ux ?_⟩
  rw [show condNum (fieldPrim tbl atol rtol) ltK c x ux = some false from hval]
  decide

/-- **Tolerant comparisons accept the boundary**: `<=`, `>=`, `==` hold on the final value that
    equals the converted literal. -/
theorem C16_cond_tolerant_accepts_boundary (tbl : String → Option (LinUnitK K)) (atol rtol : K)
    (ha : 0 ≤ atol) (hr : 0 ≤ rtol) (c : SimpleCond K) (x : K) (ux : Option String)
    (hop : c.op = .le ∨ c.op = .ge ∨ c.op = .eq)
    (hc : convK tbl c.unit ux c.lit = some x) :
    condK tbl atol rtol c x ux = some true := by
  rw [C16_cond_boundary tbl atol rtol ha hr c x x ux hc,
    condAccepts_self atol rtol x (tolK_nonneg atol rtol x ha hr)]
  exact hop

/-- **Monotonicity**: acceptance by `<` / `<=` is downward closed in the final value, acceptance
    by `>` / `>=` upward closed (any tolerances, any literal unit). -/
theorem C16_cond_monotone (tbl : String → Option (LinUnitK K)) (atol rtol : K)
    (c : SimpleCond K) (x x' : K) (ux : Option String)
    (h : condK tbl atol rtol c x ux = some true) :
    ((c.op = .lt ∨ c.op = .le) → x' ≤ x → condK tbl atol rtol c x' ux = some true) ∧
    ((c.op = .gt ∨ c.op = .ge) → x ≤ x' → condK tbl atol rtol c x' ux = some true) := by
  cases hcv : convK tbl c.unit ux c.lit with
  | none => rw [condK_of_conv_none tbl atol rtol c x ux hcv] at h; cases h
  | some y =>
    rw [condK_of_conv tbl atol rtol c x y ux hcv, Option.some.injEq] at h
    simp only [condK_of_conv tbl atol rtol c x' y ux hcv, Option.some.injEq]
    exact ⟨fun hop hle => cmpK_anti atol rtol hop y hle h, fun hop hle => cmpK_mono atol rtol hop y hle h⟩

/-- a literal in a unit of another dimension: the solver raises, the node is never accepted -/
theorem C16_cond_other_dimension (tbl : String → Option (LinUnitK K)) (atol rtol : K) (n : Node K)
    (op : CmpOp) (s d : String) (xs yd : LinUnitK K) (b x : K)
    (hx : tbl s = some xs) (hy : tbl d = some yd) (hd : xs.dims ≠ yd.dims) :
    validateNode (fieldPrim tbl atol rtol)
      (withNumCond (fieldPrim tbl atol rtol) ltK n ⟨op, b, some s⟩ x (some d)) = false := by
  have hcn : condNum (fieldPrim tbl atol rtol) ltK ⟨op, b, some s⟩ x (some d) = none :=
    condK_of_conv_none tbl atol rtol ⟨op, b, some s⟩ x (some d) (convK_other_dim tbl s d xs yd b hx hy hd)
  refine validateNode_withNumCond_false _ ltK n _ x (some d) ?_
  rw [hcn]
  decide

/-- **Whole node, `{?} <= b s`**: a sane float node in `d` without options and format and with
    fitting dimensions is accepted by the validation loop exactly for the final values
    `x ≤ y + (atol + rtol·|y|)`, `y = b · k_s / k_d`. -/
theorem C16_cond_le_node (tbl : String → Option (LinUnitK K)) (atol rtol : K) (ha : 0 ≤ atol)
    (hr : 0 ≤ rtol) (n : Node K) (hs : n.Sane (fieldPrim tbl atol rtol))
    (s d : String) (xs yd : LinUnitK K) (b x : K) (hsd : s ≠ d) (hx : tbl s = some xs)
    (hy : tbl d = some yd) (hd : xs.dims = yd.dims)
    (hopt : n.options = []) (hfmt : n.format = none) (hdim : dimsOK n.dims n.shape = true) :
    validateNode (fieldPrim tbl atol rtol)
      (withNumCond (fieldPrim tbl atol rtol) ltK n ⟨.le, b, some s⟩ x (some d)) = true ↔
      x ≤ b * xs.k / yd.k + (atol + rtol * |b * xs.k / yd.k|) := by
  rw [C16_cond_node _ ltK n hs]
  have hb := C16_cond_boundary tbl atol rtol ha hr ⟨.le, b, some s⟩ x _ (some d)
    (convK_lin tbl s d xs yd b hsd hx hy hd)
  simp only [condK, condAccepts, tolK] at hb
  simp only [hdim, hopt, hfmt, true_and, true_or, and_true, hb]

/-! Non-vacuity over `Rat` (table `exTbl`): a node in `cm` with `!condition ("{?} <= 2 m")` accepts
    the final value `200 cm` (the boundary), with `{?} < 2 m` it rejects it, and `{?} <= 2 s` raises. -/
def exNC : Node Rat := ⟨false, none, some "cm", true, [], none, false, none, [], []⟩
example : exNC.Sane (fieldPrim exTbl (1/100000000) (1/1000000)) := by
  refine ⟨by simp [exNC], by simp [exNC], ?_⟩
  intro o ho; simp [exNC] at ho
example : condK exTbl (1/100000000) (1/1000000) ⟨.le, 2, some "m"⟩ 200 (some "cm") = some true := by
  refine C16_cond_tolerant_accepts_boundary exTbl _ _ (by norm_num) (by norm_num) _ _ _ (Or.inl rfl) ?_
  show convK exTbl (some "m") (some "cm") 2 = some 200
  rw [convK_lin exTbl "m" "cm" ⟨1, [1]⟩ ⟨1/100, [1]⟩ 2 (by decide) rfl rfl rfl]
  norm_num
example : validateNode (fieldPrim exTbl (1/100000000) (1/1000000))
    (withNumCond (fieldPrim exTbl (1/100000000) (1/1000000)) ltK exNC ⟨.lt, 2, some "m"⟩ 200 (some "cm")) = false := by
  refine (C16_cond_strict_rejects_boundary exTbl _ _ (by norm_num) (by norm_num) exNC _ _ _ (Or.inl rfl) ?_).2
  show convK exTbl (some "m") (some "cm") 2 = some 200
  rw [convK_lin exTbl "m" "cm" ⟨1, [1]⟩ ⟨1/100, [1]⟩ 2 (by decide) rfl rfl rfl]
  norm_num
example : validateNode (fieldPrim exTbl (1/100000000) (1/1000000))
    (withNumCond (fieldPrim exTbl (1/100000000) (1/1000000)) ltK exNC ⟨.le, 2, some "s"⟩ 200 (some "cm")) = false :=
  C16_cond_other_dimension exTbl _ _ exNC .le "s" "cm" ⟨1, [0, 0, 1]⟩ ⟨1/100, [1]⟩ 2 200
    rfl rfl (by decide)

end ConcreteCond

end SciVerif.C16
