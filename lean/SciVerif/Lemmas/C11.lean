import SciVerif.Model.C11
import Mathlib.Tactic.FieldSimp
import Mathlib.Tactic.Ring
import Mathlib.Algebra.Order.Field.Basic

/-! C11/C12: finite sums over a component list in an ordered field; the two
    columns in terms of the amounts `n_i`; invariance of the columns under any re-specification of
    the same components that multiplies all amounts by one factor. -/
-- the `variable` line gives every statement the ordered field; those that need only the field would be flagged
set_option linter.unusedSectionVars false
namespace SciVerif.C11
variable {α : Type} [Field α] [LinearOrder α] [IsStrictOrderedRing α]
variable {β : Type}

theorem sum_map_mul_right (l : List β) (f : β → α) (k : α) :
    (l.map fun i => f i * k).sum = (l.map f).sum * k := by
  induction l with
  | nil => simp
  | cons a t ih => simp only [List.map_cons, List.sum_cons, ih]; rw [add_mul]

theorem sum_map_id_mul_right (l : List α) (k : α) : (l.map (· * k)).sum = l.sum * k := by
  have := sum_map_mul_right l id k
  simpa using this

theorem sum_map_div (l : List β) (f : β → α) (d : α) :
    (l.map fun i => f i / d).sum = (l.map f).sum / d := by
  simp only [div_eq_mul_inv, sum_map_mul_right]

theorem sum_map_mul_left (l : List β) (f : β → α) (k : α) :
    (l.map fun i => k * f i).sum = k * (l.map f).sum := by
  simp only [mul_comm k, sum_map_mul_right]

theorem sum_map_congr (l : List β) (f g : β → α) (h : ∀ i ∈ l, f i = g i) :
    (l.map f).sum = (l.map g).sum := by
  rw [List.map_congr_left h]

theorem sum_map_pos (l : List β) (f : β → α) (hne : l ≠ []) (h : ∀ i ∈ l, 0 < f i) :
    0 < (l.map f).sum := by
  induction l with
  | nil => exact absurd rfl hne
  | cons a t ih =>
    simp only [List.map_cons, List.sum_cons]
    by_cases ht : t = []
    · subst ht; simpa using h a List.mem_cons_self
    · exact add_pos (h a List.mem_cons_self) (ih ht (List.forall_mem_cons.mp h).2)

/-- the domain of the property: every proportion and every mass is positive -/
def Pos (cs : List (Comp α)) : Prop := ∀ c ∈ cs, 0 < c.p ∧ 0 < c.m

theorem Pos.mass_ne {cs : List (Comp α)} (h : Pos cs) : ∀ c ∈ cs, c.m ≠ 0 :=
  fun c hc => (h c hc).2.ne'

theorem amount_pos (mode : Mode) (c : Comp α) (h : 0 < c.p ∧ 0 < c.m) : 0 < amount mode c := by
  cases mode
  · exact h.1
  · exact h.1
  · exact div_pos h.1 h.2

theorem amount_mass (c : Comp α) : amount .massFraction c = c.p / c.m := rfl
theorem amount_numF (c : Comp α) : amount .numberFraction c = c.p := rfl
theorem amount_num (c : Comp α) : amount .number c = c.p := rfl

theorem propNorm_eq (mode : Mode) (cs : List (Comp α)) :
    propNorm mode cs = (cs.map (amount mode)).sum := by
  cases mode <;> rfl

theorem compositeMass_eq (mode : Mode) (cs : List (Comp α)) (hm : ∀ c ∈ cs, c.m ≠ 0) :
    compositeMass mode cs = (cs.map fun i => amount mode i * i.m).sum := by
  cases mode
  · rfl
  · rfl
  · exact sum_map_congr cs _ _ fun i hi => (div_mul_cancel₀ i.p (hm i hi)).symm

theorem propNorm_pos (mode : Mode) (cs : List (Comp α)) (hne : cs ≠ []) (h : Pos cs) :
    0 < propNorm mode cs := by
  rw [propNorm_eq]
  exact sum_map_pos cs _ hne (fun i hi => amount_pos mode i (h i hi))

theorem compositeMass_pos (mode : Mode) (cs : List (Comp α)) (hne : cs ≠ []) (h : Pos cs) :
    0 < compositeMass mode cs := by
  rw [compositeMass_eq mode cs h.mass_ne]
  exact sum_map_pos cs _ hne (fun i hi => mul_pos (amount_pos mode i (h i hi)) (h i hi).2)

theorem xRaw_eq (mode : Mode) (cs : List (Comp α)) (c : Comp α) :
    xRaw mode cs c = amount mode c / propNorm mode cs := by
  cases mode <;> rfl

theorem XRaw_eq (mode : Mode) (cs : List (Comp α)) (c : Comp α) (hc : c.m ≠ 0) :
    XRaw mode cs c = amount mode c * c.m / compositeMass mode cs := by
  cases mode
  · rfl
  · rfl
  · simp only [XRaw, amount]
    rw [div_mul_cancel₀ c.p hc]

theorem x_eq (mode : Mode) (cs : List (Comp α)) (c : Comp α) :
    x mode cs c = amount mode c / propNorm mode cs * 100 := by
  simp only [x, pct, xRaw_eq]

theorem X_eq (mode : Mode) (cs : List (Comp α)) (c : Comp α) (hc : c.m ≠ 0) :
    X mode cs c = amount mode c * c.m / compositeMass mode cs * 100 := by
  simp only [X, pct, XRaw_eq mode cs c hc]

theorem sum_xs (mode : Mode) (cs : List (Comp α)) (hne : cs ≠ []) (h : Pos cs) :
    (xs mode cs).sum = 100 := by
  have hS := (propNorm_pos mode cs hne h).ne'
  simp only [xs]
  rw [sum_map_congr cs _ _ (fun c _ => x_eq mode cs c), sum_map_mul_right, sum_map_div,
    ← propNorm_eq, div_self hS, one_mul]

theorem sum_Xs (mode : Mode) (cs : List (Comp α)) (hne : cs ≠ []) (h : Pos cs) :
    (Xs mode cs).sum = 100 := by
  have hM := (compositeMass_pos mode cs hne h).ne'
  simp only [Xs]
  rw [sum_map_congr cs _ _ (fun c hc => X_eq mode cs c (h.mass_ne c hc)), sum_map_mul_right,
    sum_map_div, ← compositeMass_eq mode cs h.mass_ne, div_self hM, one_mul]

/-- `g` re-specifies every component (possibly for another mode) so that its mass is kept and its
    amount is `l` times its amount in `cs`.  Scaling the proportions (`l = k`), specifying by the
    reported mass fractions (`l = 100 / compositeMass`) and by the reported number fractions (`l = 100 / propNorm`)
    are instances. -/
def Proportional (mode mode' : Mode) (cs : List (Comp α)) (g : Comp α → Comp α) (l : α) : Prop :=
  ∀ c ∈ cs, (g c).m = c.m ∧ amount mode' (g c) = l * amount mode c

theorem propNorm_proportional {mode mode' : Mode} {cs : List (Comp α)} {g : Comp α → Comp α} {l : α}
    (hg : Proportional mode mode' cs g l) :
    propNorm mode' (cs.map g) = l * propNorm mode cs := by
  rw [propNorm_eq, propNorm_eq, List.map_map, ← sum_map_mul_left]
  exact sum_map_congr cs _ _ fun c hc => (hg c hc).2

theorem compositeMass_proportional {mode mode' : Mode} {cs : List (Comp α)} {g : Comp α → Comp α}
    {l : α} (hg : Proportional mode mode' cs g l) (hm : ∀ c ∈ cs, c.m ≠ 0) :
    compositeMass mode' (cs.map g) = l * compositeMass mode cs := by
  have hm' : ∀ c ∈ cs.map g, c.m ≠ 0 := List.forall_mem_map.mpr fun c hc => (hg c hc).1 ▸ hm c hc
  rw [compositeMass_eq mode' _ hm', compositeMass_eq mode cs hm, List.map_map, ← sum_map_mul_left]
  apply sum_map_congr
  intro c hc
  simp only [Function.comp]
  rw [(hg c hc).1, (hg c hc).2, mul_assoc]

theorem fractions_proportional {mode mode' : Mode} {cs : List (Comp α)} {g : Comp α → Comp α} {l : α}
    (hg : Proportional mode mode' cs g l) (hl : l ≠ 0) (hm : ∀ c ∈ cs, c.m ≠ 0) :
    xs mode' (cs.map g) = xs mode cs ∧ Xs mode' (cs.map g) = Xs mode cs := by
  constructor
  · simp only [xs]
    rw [List.map_map]
    apply List.map_congr_left
    intro c hc
    simp only [Function.comp]
    rw [x_eq, x_eq, propNorm_proportional hg, (hg c hc).2, mul_div_mul_left _ _ hl]
  · simp only [Xs]
    rw [List.map_map]
    apply List.map_congr_left
    intro c hc
    have hc' : (g c).m ≠ 0 := by rw [(hg c hc).1]; exact hm c hc
    simp only [Function.comp]
    rw [X_eq mode' _ _ hc', X_eq mode cs c (hm c hc), compositeMass_proportional hg hm, (hg c hc).1,
      (hg c hc).2, mul_assoc, mul_div_mul_left _ _ hl]

theorem pos_scale (k : α) (hk : 0 < k) (cs : List (Comp α)) (h : Pos cs) : Pos (scale k cs) :=
  List.forall_mem_map.mpr fun d hd => ⟨mul_pos hk (h d hd).1, (h d hd).2⟩

theorem amount_scale (mode : Mode) (k : α) (c : Comp α) :
    amount mode ⟨k * c.p, c.m⟩ = k * amount mode c := by
  cases mode
  · rfl
  · rfl
  · exact mul_div_assoc k c.p c.m

theorem proportional_scale (mode : Mode) (k : α) (cs : List (Comp α)) :
    Proportional mode mode cs (fun c => ⟨k * c.p, c.m⟩) k :=
  fun c _ => ⟨rfl, amount_scale mode k c⟩

theorem propNorm_scale (mode : Mode) (k : α) (cs : List (Comp α)) :
    propNorm mode (scale k cs) = k * propNorm mode cs :=
  propNorm_proportional (proportional_scale mode k cs)

theorem compositeMass_scale (mode : Mode) (k : α) (cs : List (Comp α)) (hm : ∀ c ∈ cs, c.m ≠ 0) :
    compositeMass mode (scale k cs) = k * compositeMass mode cs :=
  compositeMass_proportional (proportional_scale mode k cs) hm

theorem pct_pos {a b : α} (ha : 0 < a) (hb : 0 < b) : 0 < a / b * 100 :=
  mul_pos (div_pos ha hb) (by norm_num)

theorem X_pos (mode : Mode) (cs : List (Comp α)) (hne : cs ≠ []) (h : Pos cs) (c : Comp α)
    (hc : c ∈ cs) : 0 < X mode cs c := by
  rw [X_eq mode cs c (h.mass_ne c hc)]
  exact pct_pos (mul_pos (amount_pos mode c (h c hc)) (h c hc).2) (compositeMass_pos mode cs hne h)

theorem x_pos (mode : Mode) (cs : List (Comp α)) (hne : cs ≠ []) (h : Pos cs) (c : Comp α)
    (hc : c ∈ cs) : 0 < x mode cs c := by
  rw [x_eq mode cs c]
  exact pct_pos (amount_pos mode c (h c hc)) (propNorm_pos mode cs hne h)

theorem pos_byMassFractions (mode : Mode) (cs : List (Comp α)) (hne : cs ≠ []) (h : Pos cs) :
    Pos (byMassFractions mode cs) :=
  List.forall_mem_map.mpr fun d hd => ⟨X_pos mode cs hne h d hd, (h d hd).2⟩

theorem pos_byNumberFractions (mode : Mode) (cs : List (Comp α)) (hne : cs ≠ []) (h : Pos cs) :
    Pos (byNumberFractions mode cs) :=
  List.forall_mem_map.mpr fun d hd => ⟨x_pos mode cs hne h d hd, (h d hd).2⟩

theorem proportional_byMass (mode : Mode) (cs : List (Comp α)) (hm : ∀ c ∈ cs, c.m ≠ 0) :
    Proportional mode .massFraction cs (fun c => ⟨X mode cs c, c.m⟩) (100 / compositeMass mode cs) := by
  intro c hc
  refine ⟨rfl, ?_⟩
  show X mode cs c / c.m = _
  rw [X_eq mode cs c (hm c hc)]
  have := hm c hc
  field_simp

theorem proportional_byNumber (mode : Mode) (cs : List (Comp α)) :
    Proportional mode .numberFraction cs (fun c => ⟨x mode cs c, c.m⟩) (100 / propNorm mode cs) := by
  intro c _
  refine ⟨rfl, ?_⟩
  show x mode cs c = _
  rw [x_eq mode cs c]
  ring

theorem propNorm_byMass (mode : Mode) (cs : List (Comp α)) (hm : ∀ c ∈ cs, c.m ≠ 0) :
    propNorm .massFraction (byMassFractions mode cs) =
      100 / compositeMass mode cs * propNorm mode cs :=
  propNorm_proportional (proportional_byMass mode cs hm)

theorem compositeMass_byMass (mode : Mode) (cs : List (Comp α)) (hne : cs ≠ []) (h : Pos cs) :
    compositeMass .massFraction (byMassFractions mode cs) = 100 := by
  rw [← sum_Xs mode cs hne h]
  simp only [compositeMass, byMassFractions, List.map_map, Xs]
  rfl

theorem propNorm_byNumber (mode : Mode) (cs : List (Comp α)) (hne : cs ≠ []) (h : Pos cs) :
    propNorm .numberFraction (byNumberFractions mode cs) = 100 := by
  rw [← sum_xs mode cs hne h]
  simp only [propNorm, byNumberFractions, List.map_map, xs]
  rfl

theorem compositeMass_byNumber (mode : Mode) (cs : List (Comp α)) (hm : ∀ c ∈ cs, c.m ≠ 0) :
    compositeMass .numberFraction (byNumberFractions mode cs) =
      100 / propNorm mode cs * compositeMass mode cs :=
  compositeMass_proportional (proportional_byNumber mode cs) hm

theorem select_all {β : Type} (l : List β) : select (List.replicate l.length true) l = l := by
  induction l with
  | nil => rfl
  | cons a t ih => simp [List.replicate_succ, select, ih]

theorem select_all_map {β γ : Type} (l : List β) (f : β → γ) :
    select (List.replicate l.length true) (l.map f) = l.map f := by
  have := select_all (l.map f)
  rwa [List.length_map] at this

theorem avgWeighted_eq (col ws : List α) (hl : col.length = ws.length) (hw : ∀ w ∈ ws, w ≠ 0) :
    avgWeighted col ws = col.sum / ws.sum := by
  unfold avgWeighted
  congr 1
  induction col generalizing ws with
  | nil => cases ws <;> simp_all
  | cons c t ih =>
    cases ws with
    | nil => simp at hl
    | cons w ws =>
      simp only [List.zipWith_cons_cons, List.sum_cons]
      rw [ih ws (by simpa using hl) (List.forall_mem_cons.mp hw).2,
        div_mul_cancel₀ c (hw w List.mem_cons_self)]

end SciVerif.C11
