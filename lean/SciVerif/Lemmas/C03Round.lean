import SciVerif.Lemmas.C03Factor
import SciVerif.Lemmas.Util.Digits

/-! # C03: text of Python ints and of `Fraction`; rendering parsed units (`expression`) and parsing
the text again: the render / parse round trip of a whole exponent map -/
namespace SciVerif.C03

/-- the model's digit rendering is `Nat.toDigits 10`; what is known of that is in core -/
theorem renderNatAux_eq : ∀ (f n : Nat), n < f → renderNatAux f n = Nat.toDigits 10 n
  | 0, n, h => by omega
  | f + 1, n, h => by
    rw [renderNatAux, Util.toDigits_eq]
    split
    · rfl
    · rw [renderNatAux_eq f (n / 10) (by omega)]; rfl

theorem renderNat_spec (n : Nat) :
    renderNat n ≠ [] ∧ (renderNat n).all Char.isDigit = true ∧ parseNat (renderNat n) = some n := by
  have e : renderNat n = Nat.toDigits 10 n := renderNatAux_eq (n + 1) n (Nat.lt_succ_self n)
  have h1 : renderNat n ≠ [] := e ▸ Nat.toDigits_ne_nil
  have h2 : (renderNat n).all Char.isDigit = true :=
    List.all_eq_true.mpr fun c hc => Util.isDigit_of_mem_toDigits (e ▸ hc)
  refine ⟨h1, h2, ?_⟩
  have h3 : digitsVal (renderNat n) = n := e ▸ Nat.ofDigitChars_ten_toDigits
  rw [parseNat, if_pos ⟨h1, h2⟩, h3]

theorem isDigit_ne_sign (c : Char) (h : c.isDigit = true) : c ≠ '+' ∧ c ≠ '-' ∧ c ≠ ':' := by
  refine ⟨?_, ?_, ?_⟩ <;> (intro hc; subst hc; revert h; decide)

theorem parseInt_of_digit {c : Char} (hc : c.isDigit = true) (t : Str) :
    parseInt (c :: t) = (parseNat (c :: t)).map Int.ofNat := by
  obtain ⟨n1, n2, _⟩ := isDigit_ne_sign c hc
  unfold parseInt
  split
  · rename_i heq; cases heq; exact absurd rfl n1
  · rename_i heq; cases heq; exact absurd rfl n2
  · rfl

theorem parseInt_renderInt (i : Int) : parseInt (renderInt i) = some i := by
  obtain ⟨h1, h2, h3⟩ := renderNat_spec i.natAbs
  unfold renderInt
  split
  · rename_i hneg
    simp only [parseInt, h3, Option.map_some, Int.ofNat_eq_natCast]
    congr 1
    omega
  · rename_i hpos
    cases hr : renderNat i.natAbs with
    | nil => exact absurd hr h1
    | cons c t =>
      rw [hr] at h2 h3
      rw [parseInt_of_digit (List.all_eq_true.mp h2 c List.mem_cons_self), h3]
      simp only [Option.map_some, Int.ofNat_eq_natCast]
      congr 1
      omega

theorem renderInt_chars (i : Int) :
    renderInt i ≠ [] ∧ (renderInt i).all isExpChar = true ∧ ∀ c ∈ renderInt i, c ≠ ':' := by
  obtain ⟨h1, h2, _⟩ := renderNat_spec i.natAbs
  have hd : ∀ c ∈ renderNat i.natAbs, c.isDigit = true := by
    rw [List.all_eq_true] at h2; exact h2
  unfold renderInt
  split
  · refine ⟨by simp, ?_, ?_⟩
    · simp only [List.all_cons, Bool.and_eq_true]
      exact ⟨by decide, all_imp digit_isExp _ h2⟩
    · intro c hc
      rcases List.mem_cons.mp hc with rfl | hc
      · decide
      · exact (isDigit_ne_sign c (hd c hc)).2.2
  · exact ⟨h1, all_imp digit_isExp _ h2, fun c hc => (isDigit_ne_sign c (hd c hc)).2.2⟩

theorem fromString_str (e : Frac) : Frac.fromString e.str = some e.rebase ∧ e.str ≠ [] ∧
    e.str.all isExpChar = true := by
  unfold Frac.str
  simp only
  obtain ⟨n1, n2, n3⟩ := renderInt_chars e.rebase.num
  obtain ⟨d1, d2, d3⟩ := renderInt_chars e.rebase.den
  split
  · rename_i hc
    refine ⟨?_, n1, n2⟩
    unfold Frac.fromString
    have hdw : (renderInt e.rebase.num).dropWhile (· != ':') = [] :=
      Util.dropWhile_of_all fun c hc => by simpa using n3 c hc
    rw [hdw]
    simp only [parseInt_renderInt, Option.map_some, Option.some.injEq]
    rcases hc with h0 | h1
    · rcases rebase_cases e with ⟨_, hr⟩ | ⟨_, hn, _⟩
      · rw [hr]
      · exact absurd h0 hn
    · cases hr : e.rebase with
      | mk n d => rw [hr] at h1; simp at h1; subst h1; rfl
  · refine ⟨?_, by simp, ?_⟩
    · unfold Frac.fromString
      have hall : ∀ c ∈ renderInt e.rebase.num, (c != ':') = true := fun c hc => by simpa using n3 c hc
      rw [Util.dropWhile_append_headNot hall (.cons (by decide) _),
        Util.takeWhile_append_headNot hall (.cons (by decide) _)]
      simp only [parseInt_renderInt]
    · rw [List.all_append, n2]
      simp only [List.all_cons, d2, Bool.and_true, Bool.true_and]; decide

theorem etxt_reads (e : Frac) : expTextOf (etxt e) e.rebase := by
  unfold etxt
  split
  · rename_i h
    left
    refine ⟨rfl, ?_⟩
    cases hr : e.rebase with
    | mk n d => rw [hr] at h; simp at h; obtain ⟨rfl, rfl⟩ := h; rfl
  · obtain ⟨h1, h2, h3⟩ := fromString_str e
    exact Or.inr ⟨h2, h3, h1⟩

theorem etxt_rebase (e : Frac) : etxt e.rebase = etxt e := by
  unfold etxt Frac.str
  simp only [rebase_idem e]

theorem entryText_rebase (u : UnitId) (e : Frac) : entryText u e.rebase = entryText u e := by
  cases u <;> simp [entryText, etxt_rebase e]

/-- a key the tables allow: a system-unit key, or a prefix–symbol pair that is `admissible`
    (`admissible_iff_row`); every such key is a `knownKey` (`goodKey_known`), not conversely: `get_unit_base`
    also looks up a prefix the unit does not admit -/
def goodKey (T : Tables) : UnitId → Prop
  | .sys n => (T.findSys n).isSome = true
  | .std p b => ∃ row ∈ T.units, row.sym = b ∧ p ∈ [] :: admPrefixes T row

/-- the AST leaf whose rendering is the text `get_unit_base` writes for a dict entry -/
def leafOfEntry : UnitId → Frac → U
  | .sys n, e => .sys n (etxt e)
  | .std p b, e => .atom p b (etxt e)

theorem leafOfEntry_render (u : UnitId) (e : Frac) : (leafOfEntry u e).render = entryText u e := by
  cases u <;> simp [leafOfEntry, U.render, entryText]

theorem leafOfEntry_shape (u : UnitId) (e : Frac) : (leafOfEntry u e).isOp = false ∧
    (leafOfEntry u e).leftAssoc = true := by
  cases u <;> simp [leafOfEntry, U.isOp, U.leftAssoc]

/-- the text written for an entry is read back as that key with the rebased exponent (atom parser completeness + the digit round trip) -/
theorem entry_roundtrip (T : Tables) (ok : TableOK T) (u : UnitId) (e : Frac) (hg : goodKey T u) :
    atomParse T (entryText u e) = .ok ⟨1, [(u, e.rebase)]⟩ ∧
    (leafOfEntry u e).plainLeaves ∧ evalU T (leafOfEntry u e) = some ⟨1, [(u, e.rebase)]⟩ := by
  cases u with
  | sys n =>
    obtain ⟨hparse, hne, hplain⟩ := sys_leaf T ok.f7 n _ _ hg (etxt_reads e)
    exact ⟨hparse, ⟨_, rfl, hne, hplain⟩, leafVal_eq_some.mpr hparse⟩
  | std p b =>
    obtain ⟨row, hrow, rfl, hp⟩ := hg
    obtain ⟨hparse, hne, hplain⟩ := atom_leaf T ok row hrow p hp _ _ (etxt_reads e)
    exact ⟨hparse, ⟨_, rfl, hne, hplain⟩, leafVal_eq_some.mpr hparse⟩

theorem joinMul_cons (t0 : Str) (ts : List Str) :
    joinMul (t0 :: ts) = some (t0 ++ ts.flatMap (fun t => '*' :: t)) := by
  induction ts generalizing t0 with
  | nil => simp [joinMul]
  | cons t1 rest ih =>
    simp only [joinMul, ih t1]
    simp

theorem set_of_not_mem (m : ExpMap) (u : UnitId) (e : Frac) (h : u ∉ m.map (·.1)) :
    m.get u = none ∧ m.set u e = m ++ [(u, e)] := by
  fun_induction ExpMap.set m u e
  -- cases of `set`: 1 empty dict, 2 the key stands first, 3 the key is further on
  case case1 => exact ⟨rfl, rfl⟩
  case case2 => exact (h (List.mem_map.mpr ⟨_, List.mem_cons_self, rfl⟩)).elim
  case case3 k w t hk ih =>
    obtain ⟨i1, i2⟩ := ih fun hm => h (List.mem_cons_of_mem _ hm)
    exact ⟨by rw [ExpMap.get, if_neg hk, i1], by rw [i2]; rfl⟩

/-- The product text `t0*t1*…` written for entries with distinct keys the tables allow is the
    rendering of an AST — the left-leaning product of the entries' leaves behind `a0` — whose value
    is the dict of the rebased entries behind that of `a0`. -/
theorem chain_ast (T : Tables) (ok : TableOK T) (a0 : U) (m0 es : ExpMap)
    (h0 : a0.leftAssoc = true ∧ a0.plainLeaves ∧ evalU T a0 = some ⟨1, m0⟩)
    (hg : ∀ ue ∈ es, goodKey T ue.1) (hnd : keysNodup (m0 ++ es)) :
    ∃ a : U, a.render = a0.render ++ es.flatMap (fun ue => '*' :: entryText ue.1 ue.2) ∧
      a.leftAssoc = true ∧ a.plainLeaves ∧
      evalU T a = some ⟨1, m0 ++ es.map (fun ue => (ue.1, ue.2.rebase))⟩ := by
  induction es generalizing a0 m0 with
  | nil => exact ⟨a0, by simp, h0.1, h0.2.1, by simpa using h0.2.2⟩
  | cons x t ih =>
    obtain ⟨u, e⟩ := x
    obtain ⟨_, hpl, hev⟩ := entry_roundtrip T ok u e (hg (u, e) List.mem_cons_self)
    have hu : u ∉ m0.map (·.1) := by
      unfold keysNodup at hnd
      simp only [List.map_append, List.map_cons] at hnd
      rw [List.nodup_append] at hnd
      intro hmem
      exact hnd.2.2 u hmem u (by simp) rfl
    -- the new key is not in the dict so far: `Atom.__mul__` appends the entry
    have hstep : evalU T (U.mul a0 (leafOfEntry u e)) = some ⟨1, m0 ++ [(u, e.rebase)]⟩ := by
      rw [evalU_mul_some]
      refine ⟨_, _, h0.2.2, hev, ?_⟩
      simp only [Atom.mul, ExpMap.mergeAdd, List.foldl_cons, List.foldl_nil,
        ExpMap.addEntry, (set_of_not_mem m0 u e.rebase hu).1, (set_of_not_mem m0 u e.rebase hu).2, mul_one]
    obtain ⟨a, hr, hla, hp, hv⟩ := ih (U.mul a0 (leafOfEntry u e)) (m0 ++ [(u, e.rebase)])
      ⟨by simp [U.leftAssoc, h0.1, leafOfEntry_shape u e], ⟨h0.2.1, hpl⟩, hstep⟩
      (fun ue hue => hg ue (List.mem_cons_of_mem _ hue))
      (by unfold keysNodup at hnd ⊢; simpa [List.map_append] using hnd)
    exact ⟨a, by rw [hr]; simp [U.render, leafOfEntry_render], hla, hp, by rw [hv]; simp⟩

theorem goodKey_known (T : Tables) (u : UnitId) (h : goodKey T u) : knownKey T u := by
  cases u with
  | sys n =>
    unfold knownKey unitMag
    simpa [goodKey] using h
  | std p b =>
    exact knownKey_of_admissible (admissible_iff_row.mpr h)

theorem baseUnits_again (T : Tables) (m : ExpMap) (b : BaseUnits) (h : Lookable T m)
    (hb : baseUnitsOfMap T m = some b) :
    ∃ b2, baseUnitsOfMap T b.entries = some b2 ∧ b2.entries = b.entries ∧
      b2.expression = b.expression ∧ magR b2.factors = magR b.factors := by
  obtain ⟨hent, hexpr⟩ := baseUnitsOfMap_shape T m b hb
  have hEknown := entries_lookable T m b h hb
  obtain ⟨b2, hb2⟩ := baseUnitsLoop_some T b.entries BaseUnits.empty hEknown
  obtain ⟨s1, s2⟩ := baseUnitsOfMap_shape T b.entries b2 hb2
  have hfilter : b.entries.filter (fun ue => ue.2.num != 0) = b.entries := by
    rw [List.filter_eq_self]
    intro ue hue
    obtain ⟨x, _, hxn, rfl⟩ := entries_of_map T m b hb ue hue
    simpa using mt (rebase_num_iff x.2).mp hxn
  rw [hfilter] at s1 s2
  refine ⟨b2, hb2, ?_, ?_, ?_⟩
  · rw [s1]
    conv_rhs => rw [hent]
    rw [hent, List.map_map]
    apply List.map_congr_left
    intro x hx
    simp [rebase_idem x.2]
  · rw [s2, hexpr, hent, List.map_map]
    apply List.map_congr_left
    intro x hx
    simp [entryText_rebase x.1 x.2]
  · rw [baseUnitsOfMap_mag T m b hb, baseUnitsOfMap_mag T b.entries b2 hb2, baseUnitsOfMap_entries T m b (fun ue hue => (h ue hue).2) hb]

/-- The product text `get_unit_base` and `BaseUnits` write for entries with distinct keys the tables allow is solved
    to the dict of the rebased entries: it is the rendering of `chain_ast`'s AST (`unitSolver_renders`). -/
theorem product_text_solves (T : Tables) (ok : TableOK T) (F : ExpMap) (hg : ∀ ue ∈ F, goodKey T ue.1)
    (hnd : keysNodup F) (txt : Str) (ht : joinMul (F.map fun ue => entryText ue.1 ue.2) = some txt) :
    unitSolver T txt = .ok ⟨1, F.map fun ue => (ue.1, ue.2.rebase)⟩ := by
  cases F with
  | nil => cases ht
  | cons f0 fs =>
    obtain ⟨_, hpl0, hev0⟩ := entry_roundtrip T ok f0.1 f0.2 (hg f0 List.mem_cons_self)
    obtain ⟨a, hren, hla, hp, heval⟩ := chain_ast T ok (leafOfEntry f0.1 f0.2) [(f0.1, f0.2.rebase)] fs
      ⟨(leafOfEntry_shape f0.1 f0.2).2, hpl0, hev0⟩ (fun ue hue => hg ue (List.mem_cons_of_mem _ hue)) hnd
    have := unitSolver_renders T a a.render (renders_render a) hp hla _ heval
    rw [List.map_cons, joinMul_cons, List.flatMap_map] at ht
    rwa [hren, leafOfEntry_render, Option.some.inj ht] at this

/-- `BaseUnits(text)` over the expression text gives the same entries, texts and magnitude again: the text is
    solved to the dict of the entries (`product_text_solves`), and `BaseUnits` over that dict repeats itself
    (`baseUnits_again`). -/
theorem render_roundtrip (T : Tables) (ok : TableOK T)
    (m : ExpMap) (b : BaseUnits) (txt : Str) (hm : densOk m) (hk : keysNodup m)
    (hg : ∀ ue ∈ m, goodKey T ue.1) (hb : baseUnitsOfMap T m = some b) (ht : b.expr = some txt) :
    ∃ b2, baseUnitsOfText T txt = .ok b2 ∧ b2.entries = b.entries ∧ b2.expression = b.expression ∧
      magR b2.factors = magR b.factors := by
  obtain ⟨hent, hexpr⟩ := baseUnitsOfMap_shape T m b hb
  have hsolve := product_text_solves T ok (m.filter fun ue => ue.2.num != 0)
    (fun ue hue => hg ue (List.mem_filter.mp hue).1) (List.Nodup.sublist ((List.filter_sublist).map _) hk) txt
    (by rw [← hexpr]; exact ht)
  rw [← hent] at hsolve
  obtain ⟨b2, hb2, h1, h2, h3⟩ :=
    baseUnits_again T m b (fun ue hue => ⟨goodKey_known T ue.1 (hg ue hue), hm ue hue⟩) hb
  exact ⟨b2, by simp [baseUnitsOfText, hsolve, hb2], h1, h2, h3⟩

end SciVerif.C03
