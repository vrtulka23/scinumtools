import SciVerif.Lemmas.C19Text
/-!
# C19 — the bracket machine reads back what the nested-list printers write

`Good` (bracket pairs), `SafeTok` / `SafeTree` (what may stand in a text), `Lands` (the invariant between items),
`Writes` (a text adds these items; closed under separators and bracket groups); `parseInit_printTok` and
`parseInit_printTokC` for the two printers.
-/
namespace SciVerif.C19

/-- the brackets differ from each other and from quote, comma and blank, so that exactly one branch of `mstep` applies
    to each of these characters -/
structure Good (o c : Char) : Prop where
  oq : o ≠ '"'
  oc : o ≠ ','
  os : o ≠ ' '
  cq : c ≠ '"'
  cc : c ≠ ','
  cs : c ≠ ' '
  ne : o ≠ c

theorem good_brace : Good '{' '}' := by constructor <;> decide

theorem good_bracket : Good '[' ']' := by constructor <;> decide

/-- a character the machine takes as part of a bare token: no quote, bracket, comma or blank -/
def plainChar (o c ch : Char) : Prop := ch ≠ '"' ∧ ch ≠ o ∧ ch ≠ c ∧ ch ≠ ',' ∧ ch ≠ ' '

instance (o c ch : Char) : Decidable (plainChar o c ch) := by unfold plainChar; infer_instance

/-- tokens the machine reads back verbatim: bare words and EVERY string literal the exporters write -/
inductive SafeTok (q : Quoting) (o c : Char) : Str → Prop
  | bare (t : Str) (hne : t ≠ []) (h : ∀ ch ∈ t, plainChar o c ch) : SafeTok q o c t
  | quoted (v : Str) : SafeTok q o c (quoteStr q v)

mutual
/-- the text of a nested list of tokens: brackets `o` … `c`, items joined by `, ` (how `_parse_array` joins) -/
def printTok (o c : Char) : TokTree → Str
  | .leaf t => t
  | .arr ts => [o] ++ printToks o c ts ++ [c]
def printToks (o c : Char) : List TokTree → Str
  | [] => []
  | [t] => printTok o c t
  | t :: u :: r => printTok o c t ++ [',', ' '] ++ printToks o c (u :: r)
end

mutual
def SafeTree (q : Quoting) (o c : Char) : TokTree → Prop
  | .leaf t => SafeTok q o c t
  | .arr ts => SafeTrees q o c ts
def SafeTrees (q : Quoting) (o c : Char) : List TokTree → Prop
  | [] => True
  | t :: ts => SafeTree q o c t ∧ SafeTrees q o c ts
end

/-- `s1` is not failed, not inside a string, and closing its token gives `tgt` -/
def Lands (s1 tgt : MSt) : Prop := s1.bad = false ∧ (s1.mode = .bare ∨ s1.mode = .strDone) ∧ s1.flush = tgt

theorem mrun_append (q : Quoting) (o c : Char) (s : MSt) (a b : Str) :
    mrun q o c s (a ++ b) = mrun q o c (mrun q o c s a) b := by
  simp [mrun, List.foldl_append]

theorem mrun_cons (q : Quoting) (o c : Char) (s : MSt) (a : Char) (b : Str) :
    mrun q o c s (a :: b) = mrun q o c (mstep q o c s a) b := rfl

theorem mrun_nil (q : Quoting) (o c : Char) (s : MSt) : mrun q o c s [] = s := rfl

theorem run_plain (q : Quoting) (o c : Char) : ∀ (l : Str) (st : List (List TokTree)) (tok : Str),
    (∀ ch ∈ l, plainChar o c ch) →
    mrun q o c ⟨st, tok, .bare, false⟩ l = ⟨st, l.reverse ++ tok, .bare, false⟩
  | [], st, tok, _ => rfl
  | ch :: l, st, tok, h => by
    have hc : plainChar o c ch := h ch (by simp)
    obtain ⟨h1, h2, h3, h4, h5⟩ := hc
    rw [mrun_cons]
    have : mstep q o c ⟨st, tok, .bare, false⟩ ch = ⟨st, ch :: tok, .bare, false⟩ := by
      simp [mstep, h1, h2, h3, h4, h5]
    rw [this, run_plain q o c l st (ch :: tok) (fun x hx => h x (by simp [hx]))]
    simp

/-- what one character of the value becomes inside the literal -/
def escChar (q : Quoting) (ch : Char) : Str :=
  match q with
  | .backslash => if ch = '\\' then ['\\', '\\'] else if ch = '"' then ['\\', '"'] else [ch]
  | .doubled => if ch = '"' then ['"', '"'] else [ch]

theorem escStr_eq (q : Quoting) (v : Str) : escStr q v = v.flatMap (escChar q) := by
  cases q
  · exact replaceChar_replaceChar '\\' '"' _ _ v
  · rfl

theorem escStr_cons (q : Quoting) (ch : Char) (v : Str) : escStr q (ch :: v) = escChar q ch ++ escStr q v := by
  rw [escStr_eq, escStr_eq, List.flatMap_cons]

theorem escStr_nil (q : Quoting) : escStr q [] = [] := by cases q <;> rfl

/-- inside a literal every chunk `escChar q ch` leaves the machine inside the literal: the backslash of `\\` or `\"` sends
    it to `.esc` and the next character back, the first quote of `""` to `.strDone` and the second back -/
theorem run_instr (q : Quoting) (o c : Char) : ∀ (v : Str) (st : List (List TokTree)) (tok : Str),
    mrun q o c ⟨st, tok, .inStr, false⟩ (escStr q v) = ⟨st, (escStr q v).reverse ++ tok, .inStr, false⟩
  | [], st, tok => by simp [escStr_nil, mrun_nil]
  | ch :: v, st, tok => by
    rw [escStr_cons, mrun_append]
    have key : mrun q o c ⟨st, tok, .inStr, false⟩ (escChar q ch) =
        ⟨st, (escChar q ch).reverse ++ tok, .inStr, false⟩ := by
      fun_cases escChar q ch <;> simp [mrun, mstep, *]
    rw [key, run_instr q o c v st _]
    simp

/-- read from a state between items, the text `x` adds the items `ts` to the innermost frame (the last one may still be
    pending: `Lands`); texts are put together with `Writes.sep` and `Writes.group` -/
def Writes (q : Quoting) (o c : Char) (x : Str) (ts : List TokTree) : Prop :=
  ∀ (f : List TokTree) (rest : List (List TokTree)),
    Lands (mrun q o c ⟨f :: rest, [], .bare, false⟩ x) ⟨(ts.reverse ++ f) :: rest, [], .bare, false⟩

theorem Writes.tok {q : Quoting} {o c : Char} {t : Str} (ht : SafeTok q o c t) : Writes q o c t [.leaf t] := by
  intro f rest
  cases ht with
  | bare _ hne h =>
    rw [run_plain q o c t _ _ h]
    refine ⟨rfl, by simp, ?_⟩
    cases hr : t.reverse with
    | nil => simp at hr; exact absurd hr hne
    | cons x xs =>
      have : t = (x :: xs).reverse := by rw [← hr]; simp
      simp [MSt.flush, this]
  | quoted v =>
    unfold quoteStr
    rw [List.cons_append, mrun_cons]
    have h1 : mstep q o c ⟨f :: rest, [], .bare, false⟩ '"' = ⟨f :: rest, ['"'], .inStr, false⟩ := by
      simp [mstep]
    rw [h1, mrun_append, run_instr q o c v _ _, mrun_cons, mrun_nil]
    have h2 : mstep q o c ⟨f :: rest, (escStr q v).reverse ++ ['"'], .inStr, false⟩ '"' =
        ⟨f :: rest, '"' :: ((escStr q v).reverse ++ ['"']), .strDone, false⟩ := by
      simp [mstep]
    rw [h2]
    refine ⟨rfl, by simp, ?_⟩
    simp [MSt.flush]

theorem step_sep (q : Quoting) (o c : Char) (g : Good o c) (s1 tgt : MSt) (h : Lands s1 tgt) (ch : Char)
    (hch : ch = ',' ∨ ch = ' ') : mstep q o c s1 ch = tgt := by
  obtain ⟨hb, hm, hf⟩ := h
  have hq : ch ≠ '"' := by rcases hch with e | e <;> (subst e; decide)
  have ho : ch ≠ o := by rcases hch with e | e <;> (subst e; intro e2; first | exact g.oc e2.symm | exact g.os e2.symm)
  have hc : ch ≠ c := by rcases hch with e | e <;> (subst e; intro e2; first | exact g.cc e2.symm | exact g.cs e2.symm)
  unfold mstep
  simp only [hb]
  rcases hm with hmode | hmode <;> simp [hmode, hq, ho, hc, hch, hf]

theorem step_close (q : Quoting) (o c : Char) (g : Good o c) (s1 : MSt) (f' g' : List TokTree)
    (rest : List (List TokTree)) (h : Lands s1 ⟨f' :: g' :: rest, [], .bare, false⟩) :
    mstep q o c s1 c = ⟨(Tree.arr f'.reverse :: g') :: rest, [], .bare, false⟩ := by
  obtain ⟨hb, hm, hf⟩ := h
  have hq := g.cq
  have ho : c ≠ o := fun e => g.ne e.symm
  unfold mstep
  simp only [hb]
  rcases hm with hmode | hmode <;> simp [hmode, hq, ho, hf]

theorem lands_clean (st : List (List TokTree)) : Lands ⟨st, [], .bare, false⟩ ⟨st, [], .bare, false⟩ :=
  ⟨rfl, by simp, by simp [MSt.flush]⟩

theorem step_open_lands (q : Quoting) (o c : Char) (g : Good o c) (s1 : MSt) (st : List (List TokTree))
    (h : Lands s1 ⟨st, [], .bare, false⟩) : mstep q o c s1 o = ⟨[] :: st, [], .bare, false⟩ := by
  obtain ⟨hb, hm, hf⟩ := h
  have hq := g.oq
  unfold mstep
  simp only [hb]
  rcases hm with hmode | hmode <;> simp [hmode, hq, hf]

theorem lands_of_eq (s t : MSt) (h : s = t) (ht : t.tok = [] ∧ t.mode = .bare ∧ t.bad = false) : Lands s t := by
  subst h
  obtain ⟨h1, h2, h3⟩ := ht
  exact ⟨h3, Or.inl h2, by simp [MSt.flush, h1]⟩

section
variable {q : Quoting} {o c : Char}

theorem Writes.nil : Writes q o c [] [] := fun f rest => lands_clean (f :: rest)

/-- one comma or blank between two texts; `", "` is two steps with nothing between them -/
theorem Writes.sep (g : Good o c) (ch : Char) (hch : ch = ',' ∨ ch = ' ') {a b : Str} {as bs : List TokTree}
    (ha : Writes q o c a as) (hb : Writes q o c b bs) : Writes q o c (a ++ ch :: b) (as ++ bs) := by
  intro f rest
  rw [mrun_append, mrun_cons, step_sep q o c g _ _ (ha f rest) ch hch, List.reverse_append, List.append_assoc]
  exact hb _ rest

/-- a bracketed group is one item; it may follow the text before it directly (`order=[…]`) -/
theorem Writes.group (g : Good o c) {a x : Str} {as ts : List TokTree} (ha : Writes q o c a as)
    (hx : Writes q o c x ts) : Writes q o c (a ++ o :: (x ++ [c])) (as ++ [.arr ts]) := by
  intro f rest
  have hin := hx [] ((as.reverse ++ f) :: rest)
  rw [List.append_nil] at hin
  rw [mrun_append, mrun_cons, step_open_lands q o c g _ _ (ha f rest), mrun_append, mrun_cons, mrun_nil,
    step_close q o c g _ ts.reverse _ rest hin, List.reverse_reverse, List.reverse_append]
  exact lands_clean _

theorem Writes.arr (g : Good o c) {x : Str} {ts : List TokTree} (hx : Writes q o c x ts) :
    Writes q o c ([o] ++ x ++ [c]) [.arr ts] := Writes.group g .nil hx

theorem parseItems_of_writes {x : Str} {ts : List TokTree} (h : Writes q o c x ts) : parseItems q o c x = some ts := by
  obtain ⟨_, _, hf⟩ := h [] []
  simp [parseItems, MSt.init, hf]

theorem parseInit_of_writes {x : Str} {t : TokTree} (h : Writes q o c x [t]) : parseInit q o c x = some t := by
  rw [parseInit, parseItems_of_writes h]

mutual
theorem writes_tree (g : Good o c) : (t : TokTree) → SafeTree q o c t → Writes q o c (printTok o c t) [t]
  | .leaf _, h => .tok h
  | .arr ts, h => .arr g (writes_trees g ts h)
theorem writes_trees (g : Good o c) : (ts : List TokTree) → SafeTrees q o c ts → Writes q o c (printToks o c ts) ts
  | [], _ => .nil
  | [t], h => writes_tree g t h.1
  | t :: u :: r, h => by
    rw [printToks, List.append_assoc]
    exact (writes_tree g t h.1).sep g ',' (.inl rfl) (Writes.nil.sep g ' ' (.inr rfl) (writes_trees g (u :: r) h.2))
end

end

theorem parseInit_printTok (q : Quoting) (o c : Char) (g : Good o c) (t : TokTree) (h : SafeTree q o c t) :
    parseInit q o c (printTok o c t) = some t :=
  parseInit_of_writes (writes_tree g t h)

mutual
/-- the same text with items joined by a bare comma (how `_parse_dip_array` joins) -/
def printTokC (o c : Char) : TokTree → Str
  | .leaf t => t
  | .arr ts => [o] ++ printToksC o c ts ++ [c]
def printToksC (o c : Char) : List TokTree → Str
  | [] => []
  | [t] => printTokC o c t
  | t :: u :: r => printTokC o c t ++ [','] ++ printToksC o c (u :: r)
end

section
variable {q : Quoting} {o c : Char}

mutual
theorem writes_treeC (g : Good o c) : (t : TokTree) → SafeTree q o c t → Writes q o c (printTokC o c t) [t]
  | .leaf _, h => .tok h
  | .arr ts, h => .arr g (writes_treesC g ts h)
theorem writes_treesC (g : Good o c) : (ts : List TokTree) → SafeTrees q o c ts → Writes q o c (printToksC o c ts) ts
  | [], _ => .nil
  | [t], h => writes_treeC g t h.1
  | t :: u :: r, h => by
    rw [printToksC, List.append_assoc]
    exact (writes_treeC g t h.1).sep g ',' (.inl rfl) (writes_treesC g (u :: r) h.2)
end

end

/-- `writes_treesC` with `Writes` written out -/
theorem lands_treesC (q : Quoting) (o c : Char) (g : Good o c) : (ts : List TokTree) → SafeTrees q o c ts →
    ∀ (f : List TokTree) (rest : List (List TokTree)),
    Lands (mrun q o c ⟨f :: rest, [], .bare, false⟩ (printToksC o c ts)) ⟨(ts.reverse ++ f) :: rest, [], .bare, false⟩ :=
  writes_treesC g

theorem parseInit_printTokC (q : Quoting) (o c : Char) (g : Good o c) (t : TokTree) (h : SafeTree q o c t) :
    parseInit q o c (printTokC o c t) = some t :=
  parseInit_of_writes (writes_treeC g t h)

theorem printToks_append (o c : Char) : ∀ (a b : List TokTree), a ≠ [] → b ≠ [] →
    printToks o c (a ++ b) = printToks o c a ++ ([',', ' '] ++ printToks o c b)
  | [], _, h, _ => absurd rfl h
  | [t], u :: b, _, _ => by simp [printToks]
  | [_], [], _, h => absurd rfl h
  | t :: u :: a, b, _, hb => by
    have ih := printToks_append o c (u :: a) b (by simp) hb
    simp only [List.cons_append] at ih ⊢
    simp only [printToks, ih, List.append_assoc]

end SciVerif.C19
