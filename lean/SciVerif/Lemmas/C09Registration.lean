import SciVerif.Model.C09
import SciVerif.Lemmas.C20Table

/-!
Helper lemmas for C09: what the registration loop adds is exactly what `close` removes.

`Added g0 g e` is read (`added_iff`) through two notions: `Globals.plus g rs ts`, the tables `g`
with rows `rs` appended and classes `ts` pushed, and `Fresh old new`, `new` repeats nothing and
holds nothing of `old`. One loop iteration yields such a `plus`; additions made one after the
other compose (`Added.compose`); `close` of a segment of what was added, wherever it sits, yields
`plus` of the rest (`close_plus`).
-/
namespace SciVerif.C09
open SciVerif.C20 (Tbl dget dset ddel)

theorem tblAppend_eq_step (t : Tbl Sym Row) (k : Sym) (v : Row) :
    tblAppend t k v = (t.step (.append k v)).1 := rfl

theorem tblDel_eq_step (t : Tbl Sym Row) (k : Sym) :
    tblDel t k = (if (t.step (.del k)).2 = .unit then some (t.step (.del k)).1 else none) := by
  unfold tblDel Tbl.step
  by_cases h : k ∈ t.keys <;> simp [h]

theorem tblAppend_fresh (t : Tbl Sym Row) (hw : t.keys = t.data.map Prod.fst) (k : Sym) (r : Row)
    (hk : k ∉ t.keys) : tblAppend t k r = ⟨t.keys ++ [k], t.data ++ [(k, r)]⟩ := by
  rw [tblAppend, if_neg hk, C20.dset_of_not_mem r (hw ▸ hk)]

def Fresh {α : Type} (old new : List α) : Prop := new.Nodup ∧ ∀ a ∈ new, a ∉ old

theorem Fresh.nil {α : Type} (old : List α) : Fresh old [] :=
  ⟨List.nodup_nil, fun _ h => nomatch h⟩

theorem Fresh.single {α : Type} {old : List α} {a : α} (h : a ∉ old) : Fresh old [a] :=
  ⟨List.nodup_cons.mpr ⟨List.not_mem_nil, List.nodup_nil⟩, fun _ hb => List.mem_singleton.mp hb ▸ h⟩

/-- Additions made one after the other: `b` was fresh for a list that held `old` and `a`. -/
theorem Fresh.append {α : Type} {old mid a b : List α} (h1 : Fresh old a) (h2 : Fresh mid b)
    (ho : old ⊆ mid) (ha : a ⊆ mid) : Fresh old (a ++ b) :=
  ⟨List.nodup_append.mpr ⟨h1.1, h2.1, fun _ hx y hy e => h2.2 y hy (e ▸ ha hx)⟩,
   fun x hx => (List.mem_append.mp hx).elim (h1.2 x) (fun hb hxo => h2.2 x hb (ho hxo))⟩

theorem Fresh.sublist {α : Type} {old new new' : List α} (h : Fresh old new)
    (hs : new'.Sublist new) : Fresh old new' :=
  ⟨h.1.sublist hs, fun a ha => h.2 a (hs.subset ha)⟩

/-- `g` with the rows `rs` appended (in order) behind the rows of `UNIT_STANDARD` and the classes
    `ts` inserted one after the other at the front of `UNIT_TYPES`. -/
def Globals.plus (g : Globals) (rs : List (Sym × Row)) (ts : List Ty) : Globals :=
  ⟨⟨g.std.keys ++ rs.map Prod.fst, g.std.data ++ rs⟩, ts.reverse ++ g.types, g.prefixes⟩

theorem Globals.plus_nil (g : Globals) : g.plus [] [] = g := by
  simp only [plus, List.map_nil, List.append_nil, List.reverse_nil, List.nil_append]

theorem Globals.plus_nil_rows (g : Globals) (ts : List Ty) :
    g.plus [] ts = { g with types := ts.reverse ++ g.types } := by
  simp only [plus, List.map_nil, List.append_nil]

/-- The ParameterTable invariant the whole library maintains (C20): `_keys` is the dict's key order. -/
def WF (g : Globals) : Prop := g.std.keys = g.std.data.map Prod.fst

/-- `Added g0 g e`: relative to the globals `g0` at the start of `__init__`, the globals `g` hold
exactly the rows listed in `e.new_units` appended (in order) behind the old ones, and exactly the
classes in `e.new_types` pushed (in order) in front of `UNIT_TYPES`. -/
structure Added (g0 g : Globals) (e : Env) : Prop where
  rows : ∃ rs : List (Sym × Row), rs.map Prod.fst = e.new_units ∧
    g.std.data = g0.std.data ++ rs
  keys : g.std.keys = g0.std.keys ++ e.new_units
  types : g.types = e.new_types.reverse ++ g0.types
  prefixes : g.prefixes = g0.prefixes
  fresh_units : ∀ k ∈ e.new_units, k ∉ g0.std.keys
  nodup_units : e.new_units.Nodup
  fresh_types : ∀ t ∈ e.new_types, t ∉ g0.types
  nodup_types : e.new_types.Nodup

/-- The working form of `Added`: `g` is `g0.plus rs e.new_types` for rows `rs` keyed by `e.new_units`, with
    units and classes fresh; the eight fields are what the statements of Props/C09 show. -/
theorem added_iff {g0 g : Globals} {e : Env} : Added g0 g e ↔
    ∃ rs : List (Sym × Row), rs.map Prod.fst = e.new_units ∧ g = g0.plus rs e.new_types ∧
      Fresh g0.std.keys e.new_units ∧ Fresh g0.types e.new_types := by
  constructor
  · intro h
    obtain ⟨rs, hrs, hd⟩ := h.rows
    refine ⟨rs, hrs, ?_, ⟨h.nodup_units, h.fresh_units⟩, ⟨h.nodup_types, h.fresh_types⟩⟩
    rw [Globals.plus, hrs, ← h.keys, ← hd, ← h.types, ← h.prefixes]
  · rintro ⟨rs, hrs, rfl, hu, ht⟩
    exact ⟨⟨rs, hrs, rfl⟩, hrs ▸ rfl, rfl, rfl, hu.2, hu.1, ht.2, ht.1⟩

theorem Added.plus {g : Globals} {rs : List (Sym × Row)} {ts : List Ty}
    (hu : Fresh g.std.keys (rs.map Prod.fst)) (ht : Fresh g.types ts) :
    Added g (g.plus rs ts) ⟨rs.map Prod.fst, ts⟩ :=
  added_iff.mpr ⟨rs, rfl, rfl, hu, ht⟩

theorem Added.refl (g : Globals) : Added g g ⟨[], []⟩ :=
  added_iff.mpr ⟨[], rfl, g.plus_nil.symm, Fresh.nil _, Fresh.nil _⟩

theorem Added.wf {g0 g : Globals} {e : Env} (h : Added g0 g e) (w : WF g0) : WF g := by
  obtain ⟨rs, _, rfl, _⟩ := added_iff.mp h
  show g0.std.keys ++ rs.map Prod.fst = (g0.std.data ++ rs).map Prod.fst
  rw [List.map_append, ← (w : g0.std.keys = _)]

theorem Added.eq_of_nil {g0 g : Globals} (h : Added g0 g ⟨[], []⟩) : g = g0 := by
  obtain ⟨rs, hrs, rfl, _⟩ := added_iff.mp h
  rw [List.map_eq_nil_iff.mp hrs, Globals.plus_nil]

theorem Added.compose {g0 g g' : Globals} {m e : Env} (h1 : Added g0 g m) (h2 : Added g g' e) :
    Added g0 g' ⟨m.new_units ++ e.new_units, m.new_types ++ e.new_types⟩ := by
  obtain ⟨rs1, hrs1, rfl, hu1, ht1⟩ := added_iff.mp h1
  obtain ⟨rs2, hrs2, rfl, hu2, ht2⟩ := added_iff.mp h2
  refine added_iff.mpr ⟨rs1 ++ rs2, by rw [List.map_append, hrs1, hrs2], ?_, ?_, ?_⟩
  · simp only [Globals.plus, List.map_append, List.append_assoc, List.reverse_append]
  · exact hu1.append hu2 (List.subset_append_left ..) (hrs1 ▸ List.subset_append_right ..)
  · exact ht1.append ht2 (List.subset_append_right ..)
      (fun _ hx => List.mem_append_left _ (List.mem_reverse.mpr hx))

/-- every key of `g` is a key of `g'` and every row of `g` reads the same in `g'` -/
def Ext (g g' : Globals) : Prop :=
  (∀ k, k ∈ g.std.keys → k ∈ g'.std.keys) ∧ (∀ k v, dget g.std.data k = some v → dget g'.std.data k = some v)

theorem Added.ext {g0 g : Globals} {e : Env} (h : Added g0 g e) : Ext g0 g := by
  obtain ⟨rs, _, rfl, _⟩ := added_iff.mp h
  exact ⟨fun _ hk => List.mem_append_left _ hk, fun _ _ hv => C20.dget_append_left _ hv⟩

/-- The row `__init__` stores for a definition (the defaults as written in the code). -/
def rowOf (symbol : Sym) (u : UnitDef) : Option Row :=
  if conversionRaises u then none else
  match fieldsOf u with
  | some (some m, some d, df, n, p) => some ⟨m, d, df.getD Defn.none, n.getD symbol, p.getD Pref.no⟩
  | _ => none

theorem regAppend_shape (g : Globals) (e : Env) (symbol : Sym) (m d : Option String) (defn : Defn)
    (name : String) (pref : Pref) :
    (regAppend g e symbol m d defn name pref = (g, e, false) ∧ (m = none ∨ d = none)) ∨
    (∃ mag dims, m = some mag ∧ d = some dims ∧
      regAppend g e symbol m d defn name pref =
        ({ g with std := tblAppend g.std symbol ⟨mag, dims, defn, name, pref⟩ },
         { e with new_units := e.new_units ++ [symbol] }, true)) := by
  rcases m with _ | mv <;> rcases d with _ | dv
  · left; exact ⟨rfl, Or.inl rfl⟩
  · left; exact ⟨rfl, Or.inl rfl⟩
  · left; exact ⟨rfl, Or.inr rfl⟩
  · right; exact ⟨mv, dv, rfl, rfl, rfl⟩

theorem regTypes_eq (g : Globals) (e : Env) (df : Defn) : ∃ ts, Fresh g.types ts ∧
    regTypes g e df = (g.plus [] ts, ⟨e.new_units, e.new_types ++ ts⟩) := by
  have h0 : (g, e) = (g.plus [] [], (⟨e.new_units, e.new_types ++ []⟩ : Env)) := by
    rw [g.plus_nil, List.append_nil]
  fun_cases regTypes g e df with
  | case1 t ht => exact ⟨[], Fresh.nil _, h0⟩
  | case2 t ht => exact ⟨[t], Fresh.single ht, by rw [g.plus_nil_rows]; rfl⟩
  | case3 => exact ⟨[], Fresh.nil _, h0⟩

theorem regOne_cases (g : Globals) (e : Env) (w : WF g) (s : Sym) (u : UnitDef) :
    ∃ ts, Fresh g.types ts ∧
      (regOne g e s u = (g.plus [] ts, ⟨e.new_units, e.new_types ++ ts⟩, false) ∨
       (s ∉ g.std.keys ∧ ∃ r, rowOf s u = some r ∧
         regOne g e s u = (g.plus [(s, r)] ts, ⟨e.new_units ++ [s], e.new_types ++ ts⟩, true))) := by
  have h0 : (g, e, false) = (g.plus [] [], (⟨e.new_units, e.new_types ++ []⟩ : Env), false) := by
    rw [g.plus_nil, List.append_nil]
  -- branches of `regOne`: the conversion raises, the symbol exists, not a mapping, a mapping
  fun_cases regOne g e s u with
  | case1 hc => exact ⟨[], Fresh.nil _, Or.inl h0⟩
  | case2 hc hs => exact ⟨[], Fresh.nil _, Or.inl h0⟩
  | case3 hc hs hf => exact ⟨[], Fresh.nil _, Or.inl h0⟩
  | case4 hc hs m d df n p hf name defn ge pref =>
    obtain ⟨ts, hts, ht⟩ := regTypes_eq g e (df.getD Defn.none)
    refine ⟨ts, hts, ?_⟩
    simp +zetaDelta only [ht]
    rcases regAppend_shape (g.plus [] ts) ⟨e.new_units, e.new_types ++ ts⟩ s m d (df.getD Defn.none)
      (n.getD s) (p.getD Pref.no) with ⟨he, _⟩ | ⟨mag, dims, rfl, rfl, he⟩
    · exact Or.inl he
    · refine Or.inr ⟨hs, _, by rw [rowOf, if_neg hc, hf], ?_⟩
      -- the append happens on the table `regTypes` left alone
      rw [he, g.plus_nil_rows]
      simp only [tblAppend_fresh g.std w s _ hs]
      rfl

/-- The loop invariant: `d` is what this run of the loop registered (the tables grew by exactly `d`, the
    environment by `d`), and if the loop completed every unit it was given is a key and reads its `rowOf` row. -/
theorem regLoop_spec (units : List (Sym × UnitDef)) : ∀ (g : Globals) (e : Env), WF g →
    ∃ d, Added g (regLoop g e units).1 d ∧
      (regLoop g e units).2.1 = ⟨e.new_units ++ d.new_units, e.new_types ++ d.new_types⟩ ∧
      ((regLoop g e units).2.2 = true → ∀ su ∈ units, ∃ r, rowOf su.1 su.2 = some r ∧
        su.1 ∈ (regLoop g e units).1.std.keys ∧ dget (regLoop g e units).1.std.data su.1 = some r) := by
  induction units with
  | nil =>
    intro g e _
    exact ⟨⟨[], []⟩, Added.refl g, by simp [regLoop], fun _ _ h => nomatch h⟩
  | cons su rest ih =>
    intro g e w
    obtain ⟨s, u⟩ := su
    obtain ⟨ts1, ht1, h | ⟨hs, r, hr, h⟩⟩ := regOne_cases g e w s u
    · refine ⟨⟨[], ts1⟩, ?_⟩
      simp only [regLoop, h, List.append_nil, true_and]
      exact ⟨Added.plus (Fresh.nil _) ht1, fun hf => nomatch hf⟩
    · have h1 : Added g (g.plus [(s, r)] ts1) ⟨[s], ts1⟩ := Added.plus (Fresh.single hs) ht1
      obtain ⟨d, h2, e2, e3⟩ :=
        ih (g.plus [(s, r)] ts1) ⟨e.new_units ++ [s], e.new_types ++ ts1⟩ (h1.wf w)
      refine ⟨⟨[s] ++ d.new_units, ts1 ++ d.new_types⟩, ?_⟩
      simp only [regLoop, h, e2, List.append_assoc, true_and]
      refine ⟨h1.compose h2, fun hok su hsu => ?_⟩
      rcases List.mem_cons.mp hsu with rfl | hsu
      · -- the row just appended is read back, and the rest of the loop keeps it
        refine ⟨r, hr, h2.ext.1 _ (List.mem_append_right _ (List.mem_singleton_self s)), h2.ext.2 _ _ ?_⟩
        show dget (g.std.data ++ [(s, r)]) s = some r
        rw [C20.dget_append_right _ ((w : g.std.keys = _) ▸ hs), C20.dget_cons_self]
      · exact e3 hok su hsu

/-- `del UNIT_STANDARD[k]` finds the first occurrence: rows `rb` whose keys do not occur before them (keys `ka`,
    rows `da`) are deleted one after the other, whatever follows them (`kc`, `dc`); `ty`, `pf` are the untouched
    other tables. -/
theorem closeUnits_segment (ka kc : List Sym) (da dc : List (Sym × Row)) (ty pf : List String)
    (hka : ka = da.map Prod.fst) :
    ∀ rb : List (Sym × Row), (∀ k ∈ rb.map Prod.fst, k ∉ ka) →
      closeUnits ⟨⟨ka ++ (rb.map Prod.fst ++ kc), da ++ (rb ++ dc)⟩, ty, pf⟩ (rb.map Prod.fst) =
        (⟨⟨ka ++ kc, da ++ dc⟩, ty, pf⟩, true)
  | [], _ => rfl
  | (k, r) :: t, h => by
    have hk : k ∉ ka := h k (List.mem_cons_self ..)
    have hmem : k ∈ ka ++ (k :: (t.map Prod.fst ++ kc)) :=
      List.mem_append_right _ (List.mem_cons_self ..)
    simp only [List.map_cons, List.cons_append, closeUnits, tblDel, if_pos hmem,
      List.erase_append_right _ hk, List.erase_cons_head, C20.ddel_append_of_not_mem r _ (hka ▸ hk)]
    exact closeUnits_segment ka kc da dc ty pf hka t (fun k' hk' => h k' (List.mem_cons_of_mem _ hk'))

/-- `UNIT_TYPES.remove` finds the first occurrence: distinct classes `ts`, pushed one after the
    other onto `y` and followed by further distinct classes `x`, are removed oldest first. -/
theorem closeTypes_segment (std : Tbl Sym Row) (pf : List String) (x y : List Ty) :
    ∀ ts : List Ty, (ts ++ x).Nodup →
      closeTypes ⟨std, (ts ++ x).reverse ++ y, pf⟩ ts = (⟨std, x.reverse ++ y, pf⟩, true)
  | [], _ => rfl
  | t :: rest, h => by
    have hn := List.nodup_cons.mp h
    have hr : t ∉ (rest ++ x).reverse := fun hh => hn.1 (List.mem_reverse.mp hh)
    have hmem : t ∈ (rest ++ x).reverse ++ t :: y :=
      List.mem_append_right _ (List.mem_cons_self ..)
    simp only [List.cons_append, List.nil_append, List.reverse_cons, List.append_assoc, closeTypes, if_pos hmem,
      List.erase_append_right _ hr, List.erase_cons_head]
    exact closeTypes_segment std pf x y rest hn.2

/-- Closing an environment whose rows `rb` and classes `tb` stand anywhere among what was added to `g0`
    (`ra`, `ta` added before it, `rc`, `tc` after it) removes exactly its own part and does not raise. -/
theorem close_plus (g0 : Globals) (w : WF g0) (ra rb rc : List (Sym × Row)) (ta tb tc : List Ty)
    (hu : Fresh g0.std.keys ((ra ++ (rb ++ rc)).map Prod.fst)) (ht : Fresh g0.types (ta ++ (tb ++ tc))) :
    close (g0.plus (ra ++ (rb ++ rc)) (ta ++ (tb ++ tc))) ⟨rb.map Prod.fst, tb⟩ =
      (g0.plus (ra ++ rc) (ta ++ tc), true) := by
  rw [List.map_append, List.map_append] at hu
  -- `h1`: the rows, with the old table and `ra` before the segment; `h2`: the classes, pushed in front, so `tc` is before `tb`
  have h1 := closeUnits_segment (g0.std.keys ++ ra.map Prod.fst) (rc.map Prod.fst) (g0.std.data ++ ra) rc
    ((ta ++ (tb ++ tc)).reverse ++ g0.types) g0.prefixes (by rw [List.map_append, ← (w : g0.std.keys = _)])
    rb (fun k hk hh => (List.mem_append.mp hh).elim
      (hu.2 k (List.mem_append_right _ (List.mem_append_left _ hk)))
      (fun ha => (List.nodup_append.mp hu.1).2.2 k ha k (List.mem_append_left _ hk) rfl))
  have h2 := closeTypes_segment ⟨g0.std.keys ++ (ra ++ rc).map Prod.fst, g0.std.data ++ (ra ++ rc)⟩
    g0.prefixes tc (ta.reverse ++ g0.types) tb (List.nodup_append.mp ht.1).2.1
  simp only [List.map_append, List.reverse_append, List.append_assoc] at h1 h2
  simp only [close, Globals.plus, List.map_append, List.reverse_append, List.append_assoc, h1, h2]

theorem close_added (g0 g : Globals) (e : Env) (w : WF g0) (h : Added g0 g e) :
    close g e = (g0, true) := by
  obtain ⟨rs, hrs, rfl, hu, ht⟩ := added_iff.mp h
  have := close_plus g0 w [] rs [] [] e.new_types []
    (by simpa only [List.nil_append, List.append_nil, hrs] using hu)
    (by simpa only [List.nil_append, List.append_nil] using ht)
  simpa only [List.nil_append, List.append_nil, hrs, Globals.plus_nil] using this

/-- What `__init__` leaves: when it raised, the tables as they were before the call; when it completed, exactly
    what the environment lists, with every unit it was given readable. -/
theorem init_spec {g g1 : Globals} (w : WF g) {units : List (Sym × UnitDef)} {o : Option Env}
    (h : init g units = (g1, o)) :
    match o with
    | none => g1 = g
    | some e => Added g g1 e ∧ ∀ su ∈ units, ∃ r, rowOf su.1 su.2 = some r ∧ su.1 ∈ g1.std.keys ∧
        dget g1.std.data su.1 = some r := by
  obtain ⟨d, ha, e2, e3⟩ := regLoop_spec units g ⟨[], []⟩ w
  have hc := close_added g _ _ w ha
  unfold init at h
  rcases hr : regLoop g ⟨[], []⟩ units with ⟨g2, e', ok⟩
  rw [hr] at ha e2 e3 hc h
  obtain rfl : e' = d := e2
  cases ok with
  | false => cases h; exact congrArg Prod.fst hc
  | true =>
    by_cases hq : checkUnique g2 = true
    · simp only [hq, if_true] at h; cases h; exact ⟨ha, e3 rfl⟩
    · simp only [hq] at h; cases h; exact congrArg Prod.fst hc

end SciVerif.C09
