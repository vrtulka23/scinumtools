import SciVerif.Lemmas.C17Runs

/-! Refinement (C17): the side conditions as executable checks.  Every conjunct of `InFrag` is
    decidable (the quantified ones range over the single result of `sEval` / `sLookup` / `select`),
    so membership of a program in the proved fragment is a computation: `fragRunB` along the
    specification's run for flat programs (sound and complete), `runNB` along the model's own run
    for nested programs (sound). -/
namespace SciVerif.C17

instance (p : List Str) : Decidable (WFPath p) := by unfold WFPath; infer_instance
instance (q : Str) : Decidable (ExactText q) := by unfold ExactText; infer_instance
instance (d : List Str) : Decidable (WFDest d) := by unfold WFDest; infer_instance

def wfSourceB : Option Str → Bool
  | none => true
  | some s => decide (s ≠ [] ∧ '?' ∉ s)

theorem wfSourceB_iff (source : Option Str) : wfSourceB source = true ↔ WFSource source := by
  cases source <;> simp [wfSourceB, WFSource]

def wfqB : SQuery → Bool
  | .all => true
  | .children p => decide (WFPath p ∧ '?' ∉ joinDot p)
  | .exact p => decide (WFPath p ∧ ExactText (joinDot p))

theorem wfqB_iff (q : SQuery) : wfqB q = true ↔ WFQ q := by
  cases q <;> simp [wfqB, WFQ]

def intUnitB (senv : SEnv) (sv : SVal) (kw : Kw) (unit : Option Str) : Bool :=
  match sEval senv sv with
  | .ok (_, u) => decide (kw = .int → unit = none ∧ u = none)
  | .error _ => true

def sameKwB (senv : SEnv) (source : Option Str) (p : List Str) (kw : Kw) : Bool :=
  match sLookup senv source with
  | none => true
  | some ss => match select (.exact p) ss with
    | [s] => decide (s.kw = kw)
    | _ => true

def selNonemptyB (senv : SEnv) (source : Option Str) (q : SQuery) : Bool :=
  match sLookup senv source with
  | none => true
  | some ss => !(select q ss).isEmpty

def inFragB (senv : SEnv) : SStmt → Bool
  | .defn path kw _ sv unit =>
    decide (WFPath path) && isTyped kw && intUnitB senv sv kw unit &&
    (match sv with
     | .lit _ => true
     | .inj source (.exact p) _ => wfSourceB source && decide (WFPath p) && decide (ExactText (joinDot p)) &&
         sameKwB senv source p kw
     | _ => false)
  | .modl path sv _ =>
    decide (WFPath path) &&
    (match sv with
     | .lit _ => true
     | .inj source (.exact p) _ => wfSourceB source && decide (WFPath p) && decide (ExactText (joinDot p))
     | _ => false)
  | .imp dest source q =>
    wfSourceB source && decide (WFDest dest) && decide ('{' ∉ joinDot dest) &&
    decide ('{' ∉ source.getD [] ++ '?' :: renderQ q) && wfqB q && selNonemptyB senv source q
  | _ => false

theorem intUnitB_iff (senv : SEnv) (sv : SVal) (kw : Kw) (unit : Option Str) :
    intUnitB senv sv kw unit = true ↔
      ∀ v u, sEval senv sv = .ok (v, u) → kw = .int → unit = none ∧ u = none := by
  unfold intUnitB
  cases sEval senv sv with
  | error e => simp
  | ok r =>
    obtain ⟨v0, u0⟩ := r
    simp only [decide_eq_true_eq, Except.ok.injEq, Prod.mk.injEq]
    exact ⟨fun h v u e => by rw [← e.2]; exact h, fun h => h v0 u0 ⟨rfl, rfl⟩⟩

theorem sameKwB_iff (senv : SEnv) (source : Option Str) (p : List Str) (kw : Kw) :
    sameKwB senv source p kw = true ↔
      ∀ ss s, sLookup senv source = some ss → select (.exact p) ss = [s] → s.kw = kw := by
  unfold sameKwB
  cases sLookup senv source with
  | none => simp
  | some ss =>
    have : (∀ ss' s, some ss = some ss' → select (.exact p) ss' = [s] → s.kw = kw) ↔
        ∀ s, select (.exact p) ss = [s] → s.kw = kw :=
      ⟨fun h s => h ss s rfl, fun h ss' s e => by cases e; exact h s⟩
    rw [this]
    dsimp only
    cases select (.exact p) ss with
    | nil => simp
    | cons a t => cases t <;> simp

theorem selNonemptyB_iff (senv : SEnv) (source : Option Str) (q : SQuery) :
    selNonemptyB senv source q = true ↔ ∀ ss, sLookup senv source = some ss → select q ss ≠ [] := by
  unfold selNonemptyB
  cases sLookup senv source <;> simp

theorem inFragB_iff (senv : SEnv) (s : SStmt) : inFragB senv s = true ↔ InFrag senv s := by
  unfold inFragB InFrag
  split
  · split <;> simp only [Bool.and_eq_true, decide_eq_true_eq, intUnitB_iff, wfSourceB_iff, sameKwB_iff, and_assoc,
      Bool.false_eq_true, and_false, and_true]
  · split <;> simp only [Bool.and_eq_true, decide_eq_true_eq, wfSourceB_iff, and_assoc, Bool.false_eq_true,
      and_false, and_true]
  · simp only [Bool.and_eq_true, decide_eq_true_eq, wfSourceB_iff, wfqB_iff, selNonemptyB_iff, and_assoc]
  · simp

/-- `FragRun` as a computation; `true` where the specification's run fails (nothing is left to check) -/
def fragRunB (tbl : UnitTable) : SEnv → List SStmt → Bool
  | _, [] => true
  | senv, s :: rest =>
    inFragB senv s &&
    (match sStep tbl senv s with
     | .ok senv' => fragRunB tbl senv' rest
     | .error _ => true)

theorem fragRunB_iff (tbl : UnitTable) (senv : SEnv) (stmts : List SStmt) :
    fragRunB tbl senv stmts = true ↔ FragRun tbl senv stmts := by
  induction stmts generalizing senv with
  | nil => simp [fragRunB, FragRun]
  | cons s rest ih =>
    simp only [fragRunB, FragRun, Bool.and_eq_true, inFragB_iff]
    refine and_congr_right (fun _ => ?_)
    cases sStep tbl senv s with
    | error e => simp
    | ok senv' => simp [ih]

def pathOKB (ps : List (Nat × Str)) (i : Nat) (nm : Str) : SStmt → Bool
  | .defn path _ _ _ _ => decide (regNameOf ps i nm = joinDot path)
  | .modl path _ _ => decide (regNameOf ps i nm = joinDot path)
  | _ => true

theorem pathOKB_iff (ps : List (Nat × Str)) (i : Nat) (nm : Str) (s : SStmt) :
    pathOKB ps i nm s = true ↔ PathOK ps i nm s := by
  cases s <;> simp [pathOKB, PathOK]

def propOKB (env : Env) (path : List Str) (p : PropLine) : Bool :=
  match env.nodes.getLast? with
  | none => false
  | some t =>
    decide (splitDot t.name = path) && env.nodes.dropLast.all (fun x => decide (x.name ≠ t.name)) &&
    (match p with
     | .format _ => decide (t.kw = .str)
     | .option _ _ => decide (t.kw = .int ∨ t.kw = .float ∨ t.kw = .str)
     | _ => true)

theorem propOKB_sound (env : Env) (path : List Str) (p : PropLine) (h : propOKB env path p = true) :
    PropOK env path p := by
  unfold propOKB at h
  cases hl : env.nodes.getLast? with
  | none => simp [hl] at h
  | some t =>
    simp only [hl, Bool.and_eq_true, decide_eq_true_eq, List.all_eq_true] at h
    obtain ⟨⟨h1, h2⟩, h3⟩ := h
    obtain ⟨ys, hys⟩ := List.getLast?_eq_some_iff.mp hl
    have hd : env.nodes.dropLast = ys := by rw [hys]; simp
    rw [hd] at h2
    refine ⟨ys, t, hys, h1, h2, ?_⟩
    cases p <;> first | trivial | exact of_decide_eq_true h3

def lineHB (env : Env) : HLine → Bool
  | .group _ _ => true
  | .stmt i nm s => inFragB (absEnv env) s && pathOKB env.parents i nm s
  | .prop path p => propOKB env path p

theorem lineHB_sound (tbl : UnitTable) (env : Env) (l : HLine) (h : lineHB env l = true) :
    RunH tbl env [l] := by
  cases l with
  | group i nm => trivial
  | stmt i nm s =>
    simp only [lineHB, Bool.and_eq_true] at h
    exact ⟨(inFragB_iff _ s).mp h.1, (pathOKB_iff _ i nm s).mp h.2, fun _ _ _ _ => trivial⟩
  | prop path p => exact ⟨propOKB_sound env path p h, fun _ _ => trivial⟩

/-- `RunN` as a computation along the model's own run (`true` where the run fails: nothing is left to check);
    of an import line at indent `i` it demands the destination `impDest` computes, which makes it sound only -/
def runNB (tbl : UnitTable) : Env → List NLine → Bool
  | _, [] => true
  | env, .base l :: rest =>
    lineHB env l &&
    (match l.item with
     | none => true
     | some it => match step tbl env it with
       | .ok env' => runNB tbl env' rest
       | .error _ => true)
  | env, .imp i pre dest source q :: rest =>
    inFragB (absEnv env) (.imp dest source q) && decide ('{' ∉ joinDot pre) &&
    decide (dest = impDest env.parents i pre) &&
    (match step tbl env (.node (impAt i pre source q)) with
     | .ok env' => runNB tbl env' rest
     | .error _ => true)

theorem runNB_sound (tbl : UnitTable) (env : Env) (lines : List NLine) (h : runNB tbl env lines = true) :
    RunN tbl env lines := by
  induction lines generalizing env with
  | nil => trivial
  | cons l rest ih =>
    cases l with
    | base l0 =>
      simp only [runNB, Bool.and_eq_true] at h
      refine ⟨lineHB_sound tbl env l0 h.1, ?_⟩
      intro it env' hit hst
      have h2 := h.2
      simp only [hit, hst] at h2
      exact ih env' h2
    | imp i pre dest source q =>
      simp only [runNB, Bool.and_eq_true, decide_eq_true_eq] at h
      obtain ⟨⟨⟨h1, h2⟩, h3⟩, h4⟩ := h
      refine ⟨(inFragB_iff _ _).mp h1, h2, by rw [h3]; exact (impDest_ok env.parents i pre).1, ?_⟩
      intro env' hst
      simp only [hst] at h4
      exact ih env' h4

end SciVerif.C17
