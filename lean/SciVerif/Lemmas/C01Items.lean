import SciVerif.Lemmas.C01Tokeniser

/-!
# C01 helper lemmas (character level): the items of an expression (the tokens of one nesting
  level, a call with its arguments being one item) and their lexemes; the text of an expression
  is balanced.
-/
namespace SciVerif.C01
open SciVerif.C01.Gen

variable {A : Type} (alg : AtomAlg A) (lit : List Char → A)

/-- an operator symbol of the language as the tokeniser sees it: a binary operator, a prefix sign
    (`true` = `-`), or `!` -/
inductive OprK
  | bin (o : B2)
  | sign (neg : Bool)
  | not

def OprK.name : OprK → String
  | .bin o => o.name
  | .sign s => if s then "sub" else "add"
  | .not => "not"

def OprK.sym : OprK → List Char
  | .bin o => o.sym
  | .sign s => if s then ['-'] else ['+']
  | .not => ['!']

/-- an item of ONE nesting level, i.e. what becomes one token: a literal, an operator symbol, or a
    whole call with its argument expressions -/
inductive LItem
  | lit (t : List Char)
  | opr (k : OprK)
  | call1 (f : F1) (a : E)
  | call2 (g : F2) (a b : E)

/-- the items of an expression in text order (`toks` is their token list, `lexemes` their lexemes) -/
def items : E → List LItem
  | .num t => [.lit t]
  | .fn1 f a => [.call1 f a]
  | .fn2 g a b => [.call2 g a b]
  | .sign s e => .opr (.sign s) :: items e
  | .bin o l r => items l ++ [.opr (.bin o)] ++ items r
  | .not e => .opr .not :: items e

/-- the lexemes of one item (for a call: symbol, lexemes of the arguments, separators, `)`) -/
def itemLex : LItem → List (List Char)
  | .lit t => [t]
  | .opr k => [k.sym]
  | .call1 f a => [f.sym] ++ lexemes a ++ [[')']]
  | .call2 g a b => [g.sym] ++ lexemes a ++ [[',']] ++ lexemes b ++ [[')']]

/-- the token the tokeniser makes of an item (a call carries the values of its arguments) -/
def tokOf : LItem → Tok A
  | .lit t => .atom (lit t)
  | .opr k => .op (idxOf dflt k.name) []
  | .call1 f a => .op (idxOf dflt f.name) [some (eval alg lit a)]
  | .call2 g a b => .op (idxOf dflt g.name) [some (eval alg lit a), some (eval alg lit b)]

theorem toks_items (e : E) : toks dflt alg lit e = (items e).map (tokOf alg lit) := by
  induction e with
  | num t => rfl
  | fn1 f a _ => rfl
  | fn2 g a b _ _ => rfl
  | sign s e ih => simp [toks, items, tokOf, OprK.name, ih]
  | bin o l r ihl ihr => simp [toks, items, tokOf, OprK.name, ihl, ihr]
  | not e ih => simp [toks, items, tokOf, OprK.name, ih]

theorem lexemes_items (e : E) : lexemes e = (items e).flatMap itemLex := by
  induction e with
  | num t => rfl
  | fn1 f a _ => simp [lexemes, items, itemLex]
  | fn2 g a b _ _ => simp [lexemes, items, itemLex]
  | sign s e ih => simp [lexemes, items, itemLex, OprK.sym, ih]
  | bin o l r ihl ihr => simp [lexemes, items, itemLex, OprK.sym, ihl, ihr]
  | not e ih => simp [lexemes, items, itemLex, OprK.sym, ih]

theorem framed_lex (pre post : List LItem) (e : E) :
    (pre ++ items e ++ post).flatMap itemLex = pre.flatMap itemLex ++ lexemes e ++ post.flatMap itemLex := by
  rw [List.flatMap_append, List.flatMap_append, lexemes_items]

theorem sym_facts (k : OprK) : rowFact dflt k.name k.sym none = true := by
  cases k with
  | bin o => exact fact_binary o
  | sign s => exact fact_sign s
  | not => exact fact_not

theorem oprSym_props (k : OprK) : GoodLex k.sym ∧ (∀ c ∈ k.sym, Neutral c) := by
  cases k with
  | bin o => cases o <;> decide +kernel
  | sign s => cases s <;> decide +kernel
  | not => decide +kernel

/-- a call form of the language: one-argument (`F1`, plain parentheses included) or two-argument
    (`F2`); `sym` is its symbol with the opening parenthesis, `narg` its arity -/
inductive Call
  | f1 (f : F1)
  | f2 (g : F2)

def Call.sym : Call → List Char
  | .f1 f => f.sym
  | .f2 g => g.sym

def Call.name : Call → String
  | .f1 f => f.name
  | .f2 g => g.name

def Call.narg : Call → Nat
  | .f1 _ => 1
  | .f2 _ => 2

theorem callSym_props (c : Call) :
    GoodLex c.sym ∧ SafeHead c.sym ∧ ∀ k, nest c.sym k = some (k + 1) := by
  have h : GoodLex c.sym ∧ SafeHead c.sym ∧ c.sym = c.sym.dropLast ++ ['('] ∧
      ∀ x ∈ c.sym.dropLast, Neutral x := by
    rcases c with f | g
    · cases f <;> decide +kernel
    · cases g <;> decide +kernel
  exact ⟨h.1, h.2.1, fun k => by rw [h.2.2.1, nest_append, nest_neutral _ h.2.2.2]; rfl⟩

theorem lexemes_good (e : E) (h : LitOK alg lit e) : ∀ x ∈ lexemes e, GoodLex x := by
  induction e with
  | num t => exact List.forall_mem_singleton.mpr (litSafe_good t h.1).1
  | fn1 f a ih =>
    simp only [lexemes, List.forall_mem_append, List.forall_mem_singleton]
    exact ⟨⟨(callSym_props (.f1 f)).1, ih h⟩, by decide⟩
  | fn2 g a b iha ihb =>
    simp only [lexemes, List.forall_mem_append, List.forall_mem_singleton]
    exact ⟨⟨⟨⟨(callSym_props (.f2 g)).1, iha h.1⟩, by decide⟩, ihb h.2⟩, by decide⟩
  | sign s e ih => exact List.forall_mem_cons.mpr ⟨(oprSym_props (.sign s)).1, ih h⟩
  | bin o l r ihl ihr =>
    simp only [lexemes, List.forall_mem_append, List.forall_mem_singleton]
    exact ⟨⟨ihl h.1, (oprSym_props (.bin o)).1⟩, ihr h.2⟩
  | not e ih => exact List.forall_mem_cons.mpr ⟨(oprSym_props .not).1, ih h⟩

theorem lexemes_ne_nil (e : E) : lexemes e ≠ [] := by
  cases e <;> simp [lexemes]

/-- `nest` over a list of lexemes (blanks between them do not matter, `nest_pre`) -/
def nestLex : List (List Char) → Nat → Option Nat
  | [], k => some k
  | x :: xs, k => (nest x k).bind (nestLex xs)

theorem nestLex_append (xs ys : List (List Char)) (k : Nat) :
    nestLex (xs ++ ys) k = (nestLex xs k).bind (nestLex ys) := by
  induction xs generalizing k with
  | nil => rfl
  | cons x xs ih =>
    rw [List.cons_append, nestLex, nestLex, Option.bind_assoc]
    exact congrArg _ (funext ih)

theorem nest_pre {xs : List (List Char)} {u : List Char} (h : Pre xs u) (k : Nat) :
    nest u k = nestLex xs k := by
  induction h generalizing k with
  | nil => rfl
  | cons j x _ ih =>
    rw [nest_append, nest_append, nest_blanks, nestLex]
    exact congrArg _ (funext ih)

theorem nestLex_lexemes (e : E) (h : LitOK alg lit e) : ∀ k, nestLex (lexemes e) k = some k := by
  induction e with
  | num t => intro k; simp [lexemes, nestLex, nest_neutral _ (litSafe_good t h.1).2.1]
  | fn1 f a ih =>
    intro k
    have hf : ∀ k, nest f.sym k = some (k + 1) := (callSym_props (.f1 f)).2.2
    simp [lexemes, nestLex_append, nestLex, hf, ih h, nest_close]
  | fn2 g a b iha ihb =>
    intro k
    have hg : ∀ k, nest g.sym k = some (k + 1) := (callSym_props (.f2 g)).2.2
    simp [lexemes, nestLex_append, nestLex, hg, iha h.1, ihb h.2, nest_sep, nest_close, nest_nil]
  | sign s e ih =>
    intro k
    have hs : ∀ k, nest (if s then ['-'] else ['+']) k = some k :=
      nest_neutral _ (oprSym_props (.sign s)).2
    simp [lexemes, nestLex, hs, ih h]
  | bin o l r ihl ihr =>
    intro k
    have ho : ∀ k, nest o.sym k = some k := nest_neutral _ (oprSym_props (.bin o)).2
    simp [lexemes, nestLex_append, nestLex, ho, ihl h.1, ihr h.2]
  | not e ih =>
    intro k
    have hn : ∀ k, nest ['!'] k = some k := nest_neutral _ (oprSym_props .not).2
    simp [lexemes, nestLex, hn, ih h]

theorem nest_text (e : E) (h : LitOK alg lit e) :
    ∀ (u : List Char), Pre (lexemes e) u → ∀ k, nest u k = some k :=
  fun u hu k => by rw [nest_pre hu]; exact nestLex_lexemes alg lit e h k

end SciVerif.C01
