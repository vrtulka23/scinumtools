import SciVerif.Model.C04
import Mathlib.Algebra.Ring.Int.Defs

/-! Conversion as rule selection: `pick` (the first unit-type class that does not decline decides) with its three
    lemmas, `value` / `to` / `to(Quantity)` as functions of what `pick` answers, composition and round trip of two
    `to`, and the four answers of `StandardUnitType`. All for any list of classes; nothing here reads a regenerated table. -/


namespace SciVerif.C04

variable {K : Type}

theorem mkBUAux_of_zero_exps {A : Type} [Mul A] [PowFrac A] (items : List (Item A)) (acc : BU A)
    (h : ∀ i ∈ items, i.exp.num = 0) : mkBUAux items acc = acc := by
  fun_induction mkBUAux items acc
  case case1 => rfl
  case case2 ih => exact ih fun j hj => h j (List.mem_cons_of_mem _ hj)
  case case3 i _ _ hne _ => exact absurd (beq_iff_eq.mpr (h i List.mem_cons_self)) hne

theorem Mag.map_map (f g : K → K) (m : Mag K) : (m.map f).map g = m.map (fun x => g (f x)) := by
  cases m with
  | scalar x => rfl
  | arr xs => exact congrArg Mag.arr (List.map_map ..)

/-- `m.All P`: `P` holds of every value the magnitude stores (the scalar, or each array element). -/
def Mag.All (P : K → Prop) : Mag K → Prop
  | .scalar x => P x
  | .arr xs => ∀ x ∈ xs, P x

theorem Mag.all_true (m : Mag K) : m.All (fun _ => True) := by
  cases m with
  | scalar x => trivial
  | arr xs => exact fun _ _ => trivial

theorem Mag.map_id_of_all {f : K → K} {m : Mag K} {P : K → Prop} (hm : m.All P)
    (h : ∀ x, P x → f x = x) : m.map f = m := by
  cases m with
  | scalar x => exact congrArg Mag.scalar (h x hm)
  | arr xs =>
    exact congrArg Mag.arr ((List.map_congr_left fun x hx => h x (hm x hx)).trans (List.map_id xs))

theorem Frac.eq_symm (a b : Frac) : a.eq b = b.eq a :=
  Bool.eq_iff_iff.mpr (by simp only [Frac.eq, beq_iff_eq]; exact eq_comm)

theorem Frac.neg_eq_symm (a b : Frac) : (a.mulInt (-1)).eq b = (b.mulInt (-1)).eq a :=
  Bool.eq_iff_iff.mpr (by
    simp only [Frac.eq, Frac.mulInt, beq_iff_eq, mul_neg, mul_one, neg_mul]
    exact neg_eq_iff_eq_neg.trans eq_comm)

theorem Dims.eq_map_symm (f : Frac → Frac) (hf : ∀ x y, (f x).eq y = (f y).eq x) (a b : Dims) :
    Dims.eq (a.map f) b = Dims.eq (b.map f) a := by
  induction a generalizing b with
  | nil => cases b <;> rfl
  | cons x xs ih =>
    cases b with
    | nil => rfl
    | cons y ys => simp only [List.map_cons, Dims.eq, hf x y, ih ys]

theorem Dims.eq_symm (a b : Dims) : Dims.eq a b = Dims.eq b a := by
  simpa only [List.map_id'] using Dims.eq_map_symm (fun x => x) Frac.eq_symm a b

theorem Dims.neg_eq_symm (a b : Dims) : Dims.eq (Dims.neg a) b = Dims.eq (Dims.neg b) a :=
  Dims.eq_map_symm _ Frac.neg_eq_symm a b

section
variable [Mul K] [Div K]

theorem pick_nil (b1 b2 : BU K) : pick ([] : List (Rule K)) b1 b2 = .error .unsupported := rfl

theorem pick_of_declines (pre rs : List (Rule K)) (b1 b2 : BU K)
    (h : ∀ r ∈ pre, r b1 b2 = .decline) : pick (pre ++ rs) b1 b2 = pick rs b1 b2 := by
  induction pre with
  | nil => rfl
  | cons r pre ih =>
    simp only [List.cons_append, pick, h r List.mem_cons_self]
    exact ih fun r' hr' => h r' (List.mem_cons_of_mem r hr')

theorem pick_accept {pre post : List (Rule K)} {r : Rule K} {b1 b2 : BU K} {f : K → K}
    (hpre : ∀ r' ∈ pre, r' b1 b2 = .decline) (hr : r b1 b2 = .accept f) :
    pick (pre ++ r :: post) b1 b2 = .ok (fun x => f (x * b1.magnitude) / b2.magnitude) := by
  rw [pick_of_declines pre _ b1 b2 hpre]
  simp only [pick, hr]

theorem pick_refuse {pre : List (Rule K)} {r : Rule K} {b1 b2 : BU K}
    (hpre : ∀ r' ∈ pre, r' b1 b2 = .decline) (hr : r b1 b2 = .decline) :
    pick (pre ++ [r]) b1 b2 = .error .unsupported := by
  rw [pick_of_declines pre _ b1 b2 hpre]
  simp only [pick, hr]

variable {types : List (Rule K)} {val : Mag K} {b1 b2 : BU K} {g : K → K} {e : Err}

theorem Q.valueIn_ok (h : pick types b1 b2 = .ok g) : Q.valueIn types ⟨val, b1⟩ b2 = .ok (val.map g) := by
  simp only [Q.valueIn, h]

theorem Q.valueIn_error (h : pick types b1 b2 = .error e) : Q.valueIn types ⟨val, b1⟩ b2 = .error e := by
  simp only [Q.valueIn, h]

theorem Q.to_ok (h : pick types b1 b2 = .ok g) : Q.to types ⟨val, b1⟩ b2 = (⟨val.map g, b2⟩, true) := by
  simp only [Q.to, h]

theorem Q.to_error (h : pick types b1 b2 = .error e) : Q.to types ⟨val, b1⟩ b2 = (⟨val, b1⟩, false) := by
  simp only [Q.to, h]

theorem Q.toQuantity_ok {tm : K} (h : pick types b1 b2 = .ok g) :
    Q.toQuantity types ⟨val, b1⟩ tm b2 = (⟨val.map (fun x => g x / tm), b2⟩, true) := by
  simp only [Q.toQuantity, h]

theorem Q.toQuantity_error {tm : K} (h : pick types b1 b2 = .error e) :
    Q.toQuantity types ⟨val, b1⟩ tm b2 = (⟨val, b1⟩, false) := by
  simp only [Q.toQuantity, h]

theorem Q.to_to {bw bv : BU K} {g1 g2 : K → K} (h1 : pick types b1 bw = .ok g1)
    (h2 : pick types bw bv = .ok g2) :
    Q.to types (Q.to types ⟨val, b1⟩ bw).1 bv = (⟨val.map (fun x => g2 (g1 x)), bv⟩, true) := by
  rw [Q.to_ok h1, Q.to_ok h2, Mag.map_map]

theorem Q.to_roundtrip {g' : K → K} {P : K → Prop} (h : pick types b1 b2 = .ok g)
    (h' : pick types b2 b1 = .ok g') (hval : val.All P) (hinv : ∀ x, P x → g' (g x) = x) :
    Q.to types (Q.to types ⟨val, b1⟩ b2).1 b1 = (⟨val, b1⟩, true) := by
  rw [Q.to_to h h', Mag.map_id_of_all hval hinv]

end

section
variable [Div K] [One K]

theorem standard_same {b1 b2 : BU K} (h : b1.dims.eq b2.dims = true) :
    (standard : Rule K) b1 b2 = .accept (fun v => v) := by
  simp only [standard, h, if_true]

theorem standard_neg {b1 b2 : BU K} (h : b1.dims.eq b2.dims = false)
    (hn : b1.dims.neg.eq b2.dims = true) :
    (standard : Rule K) b1 b2 = .accept (fun v => 1 / v) := by
  simp only [standard, h, hn, if_true, Bool.false_eq_true, if_false]

theorem standard_rad {b1 b2 : BU K} (h : b1.dims.eq b2.dims = false)
    (hn : b1.dims.neg.eq b2.dims = false)
    (hr : (b1.nobase && b2.units == ["rad"] && radOne b2.dims) = true) :
    (standard : Rule K) b1 b2 = .accept (fun v => v) := by
  simp only [standard, h, hn, hr, if_true, Bool.false_eq_true, if_false]

theorem standard_decline {b1 b2 : BU K} (h : b1.dims.eq b2.dims = false)
    (hn : b1.dims.neg.eq b2.dims = false)
    (hr : (b1.nobase && b2.units == ["rad"] && radOne b2.dims) = false) :
    (standard : Rule K) b1 b2 = .decline := by
  simp only [standard, h, hn, hr, Bool.false_eq_true, if_false]

end

end SciVerif.C04
