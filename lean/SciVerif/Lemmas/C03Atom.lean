import SciVerif.Model.C03Spec
import SciVerif.Lemmas.C03Table
import SciVerif.Lemmas.Util.Scan

/-! # C03: the atom parser — trailing runs, the table facts as propositions, soundness and
completeness of `unitParse`, number literals, `atomParse` -/
namespace SciVerif.C03

theorem dropTrail_append_trailRun (p : Char → Bool) (s : Str) :
    dropTrail p s ++ trailRun p s = s := by
  unfold dropTrail trailRun
  rw [← List.reverse_append, List.takeWhile_append_dropWhile, List.reverse_reverse]

theorem trailRun_all (p : Char → Bool) (s : Str) : (trailRun p s).all p = true := by
  unfold trailRun
  rw [List.all_reverse]
  exact List.all_takeWhile

theorem dropTrail_cons (p : Char → Bool) (c : Char) (s : Str) (hc : p c = false) :
    dropTrail p (c :: s) = c :: dropTrail p s := by
  unfold dropTrail
  rw [List.reverse_cons, Util.dropWhile_append_stop _ [] hc]
  simp

theorem trailRun_cons (p : Char → Bool) (c : Char) (s : Str) (hc : p c = false) :
    trailRun p (c :: s) = trailRun p s := by
  unfold trailRun
  rw [List.reverse_cons, Util.takeWhile_append_stop _ [] hc]

theorem dropTrail_length_le (p : Char → Bool) (s : Str) : (dropTrail p s).length ≤ s.length := by
  unfold dropTrail
  rw [List.length_reverse]
  exact Nat.le_trans (List.dropWhile_sublist p).length_le (by simp)

theorem strip_length_le (s : Str) : (strip s).length ≤ s.length := by
  unfold strip
  exact Nat.le_trans (dropTrail_length_le _ _) (List.dropWhile_sublist _).length_le

/-- part of fact F4 (`factF4_noBlank`) -/
def noBlankHead (T : Tables) : Prop := ∀ u ∈ T.units, u.sym.head? ≠ some ' '

/-- what an accepted exponent text is: nothing written (exponent 1) or a non-empty run of
    exponent characters that `Fraction.from_string` reads -/
def expTextOf (x : Str) (e : Frac) : Prop :=
  (x = [] ∧ e = Frac.one) ∨ (x ≠ [] ∧ x.all isExpChar = true ∧ Frac.fromString x = some e)

theorem expTextOf_chars (x : Str) (f : Frac) (h : expTextOf x f) : x.all isExpChar = true := by
  rcases h with ⟨rfl, _⟩ | ⟨_, h, _⟩
  · rfl
  · exact h

theorem expTextOf_iff_read {x : Str} {e : Frac} (hall : x.all isExpChar = true) :
    (if x = [] then some Frac.one else Frac.fromString x) = some e ↔ expTextOf x e := by
  by_cases hx : x = []
  · simp [expTextOf, hx, eq_comm]
  · simp [expTextOf, hx, hall]

/-- `string[1:-len(base)]` of `AtomParser`: what stands between the blank in front and the symbol at the end -/
theorem cut_prefix (t sym : Str) :
    (List.take ((' ' :: (t ++ sym)).length - sym.length) (' ' :: (t ++ sym))).drop 1 = t := by
  have : (' ' :: (t ++ sym)).length - sym.length = (' ' :: t).length := by simp; omega
  rw [this]
  have : ' ' :: (t ++ sym) = (' ' :: t) ++ sym := by simp
  rw [this, List.take_left' rfl]
  rfl

/-- the symbol found at the end of `' ' :: body` ends `body`, since no symbol begins with a blank -/
theorem findBase_cut {T : Tables} (hT : noBlankHead T) {body : Str} {base : UnitRow}
    (h : findBase T (' ' :: body) = some base) :
    base ∈ T.units ∧ ∃ t, body = t ++ base.sym ∧
      (List.take ((' ' :: body).length - base.sym.length) (' ' :: body)).drop 1 = t := by
  obtain ⟨hmem, hsuf⟩ := findBase_sound T _ _ h
  obtain ⟨t, ht⟩ : base.sym <:+ body := by
    rcases List.suffix_cons_iff.mp hsuf with h1 | h1
    · exfalso
      have := hT base hmem
      rw [h1] at this
      simp at this
    · exact h1
  exact ⟨hmem, t, ht.symm, by rw [← ht]; exact cut_prefix t base.sym⟩

/-- soundness of `unitParse`, for EVERY string: an accepted text is a key of the system-unit table
    or an admissible prefix ++ symbol, followed by an exponent text -/
theorem unitParse_sound (T : Tables) (hT : noBlankHead T) (s : Str) (k : UnitId) (e : Frac)
    (h : unitParse T s = .ok (k, e)) :
    ∃ x, expTextOf x e ∧
      ((∃ n, k = .sys n ∧ (T.findSys n).isSome = true ∧ s = n ++ x) ∨
       (∃ p b, k = .std p b ∧ s = p ++ b ++ x ∧ admissible T p b)) := by
  have hsp : isExpChar ' ' = false := by decide
  have hs := dropTrail_append_trailRun isExpChar s
  have hall := trailRun_all isExpChar s
  have hb := dropTrail_cons isExpChar ' ' s hsp
  have hx := trailRun_cons isExpChar ' ' s hsp
  revert h
  fun_cases unitParse T s <;> intro h <;> cases h
  -- the accepting cases of `unitParse`: 2 a system-unit key, 5 an admitted prefix, 8 no prefix; the others are errors
  case case2 string expTxt body _ hfound hexp =>
    rw [show expTxt = trailRun isExpChar s from hx] at hexp
    rw [show body = ' ' :: dropTrail isExpChar s from hb] at hfound ⊢
    exact ⟨_, (expTextOf_iff_read hall).mp hexp, Or.inl ⟨_, rfl, hfound, by simpa using hs.symm⟩⟩
  case case5 string expTxt body _ base hbase pre hkey hadm hexp =>
    rw [show expTxt = trailRun isExpChar s from hx] at hexp
    obtain ⟨hmem, t, ht, hpre⟩ := findBase_cut hT (show findBase T (' ' :: dropTrail isExpChar s) = some base from hb ▸ hbase)
    have hst : s = t ++ base.sym ++ trailRun isExpChar s := by rw [← ht, hs]
    rw [show pre = t by rw [← hpre, ← hb]] at hkey hadm ⊢
    exact ⟨_, (expTextOf_iff_read hall).mp hexp, Or.inr ⟨_, _, rfl, hst, base, hmem, rfl,
      Or.inr ⟨by simpa [List.contains_iff_mem] using hkey, hadm⟩⟩⟩
  case case8 string expTxt body _ base hbase pre _ hne hexp =>
    rw [show expTxt = trailRun isExpChar s from hx] at hexp
    obtain ⟨hmem, t, ht, hpre⟩ := findBase_cut hT (show findBase T (' ' :: dropTrail isExpChar s) = some base from hb ▸ hbase)
    have hst : s = t ++ base.sym ++ trailRun isExpChar s := by rw [← ht, hs]
    rw [show pre = t by rw [← hpre, ← hb]] at hne
    have : t = [] := by simpa using hne
    subst this
    exact ⟨_, (expTextOf_iff_read hall).mp hexp, Or.inr ⟨_, _, rfl, hst, base, hmem, rfl, Or.inl rfl⟩⟩

theorem trail_of_append (p : Char → Bool) (a x : Str) (c : Char)
    (hx : x.all p = true) (ha : a.getLast? = some c) (hc : p c = false) :
    dropTrail p (a ++ x) = a ∧ trailRun p (a ++ x) = x := by
  obtain ⟨a', rfl⟩ := List.getLast?_eq_some_iff.mp ha
  unfold dropTrail trailRun
  have hr : (a' ++ [c] ++ x).reverse = x.reverse ++ c :: a'.reverse := by simp
  have hx' : ∀ y ∈ x.reverse, p y = true := fun y hy => List.all_eq_true.mp hx y (List.mem_reverse.mp hy)
  rw [hr, Util.dropWhile_append_headNot hx' (.cons hc _), Util.takeWhile_append_headNot hx' (.cons hc _)]
  simp

theorem factF1_prop {T : Tables} (h : factF1 T = true) (u : UnitRow) (hu : u ∈ T.units)
    (p : Str) (hp : p ∈ [] :: admPrefixes T u) : findBase T (' ' :: (p ++ u.sym)) = some u := by
  unfold factF1 at h
  rw [List.all_eq_true] at h
  have := h u hu
  rw [List.all_eq_true] at this
  simpa using this p hp

theorem factF2_prop {T : Tables} (h : factF2 T = true) (u : UnitRow) (hu : u ∈ T.units) :
    ∃ c, u.sym.getLast? = some c ∧ isExpChar c = false := by
  unfold factF2 at h
  rw [List.all_eq_true] at h
  have := h u hu
  split at this
  · rename_i c hc; exact ⟨c, hc, by simpa using this⟩
  · cases this

theorem factF3_prop {T : Tables} (h : factF3 T = true) : ([] : Str) ∉ T.prefixKeys := by
  unfold factF3 at h
  simp only [Bool.and_eq_true, List.all_eq_true] at h
  intro hm
  have := h.2 [] hm
  simp at this

theorem factF4_units {T : Tables} (h : factF4 T = true) (u : UnitRow) (hu : u ∈ T.units) :
    (∃ c ∈ u.sym, isNumAlpha c = false) ∧ u.sym.head? ≠ some '#' ∧ u.sym.head? ≠ some ' ' := by
  unfold factF4 at h
  simp only [Bool.and_eq_true, List.all_eq_true] at h
  have := h.1 u hu
  simp only [List.any_eq_true, bne_iff_ne, ne_eq, Bool.not_eq_true'] at this
  obtain ⟨⟨⟨⟨c, hc, hn⟩, h2⟩, h3⟩, _⟩ := this
  exact ⟨⟨c, hc, hn⟩, h2, h3⟩

theorem factF4_prefixes {T : Tables} (h : factF4 T = true) (p : Str) (hp : p ∈ T.prefixKeys) :
    p.head? ≠ some '#' := by
  unfold factF4 at h
  simp only [Bool.and_eq_true, List.all_eq_true] at h
  have := h.2 p hp
  simp only [bne_iff_ne, ne_eq] at this
  exact this.1

theorem factF4_noBlank {T : Tables} (h : factF4 T = true) : noBlankHead T :=
  fun u hu => (factF4_units h u hu).2.2

theorem factF7_prefixes {T : Tables} (h : factF7 T = true) (p : Str) (hp : p ∈ T.prefixKeys) :
    p.all isPlainChar = true := by
  unfold factF7 at h
  simp only [Bool.and_eq_true, List.all_eq_true] at h ⊢
  exact h.1.1 p hp

theorem factF7_units {T : Tables} (h : factF7 T = true) (u : UnitRow) (hu : u ∈ T.units) :
    u.sym.all isPlainChar = true := by
  unfold factF7 at h
  simp only [Bool.and_eq_true, List.all_eq_true] at h ⊢
  exact h.1.2 u hu

theorem findSys_sym (T : Tables) (n : Str) (row : SysRow) (h : T.findSys n = some row) :
    row ∈ T.sys ∧ row.sym = n := by
  unfold Tables.findSys at h
  exact ⟨List.mem_of_find?_eq_some h, by simpa using List.find?_some h⟩

theorem factF7_sys {T : Tables} (h : factF7 T = true) {n : Str} (hn : (T.findSys n).isSome = true) :
    n.all isPlainChar = true ∧ n.head? = some '#' ∧ ∃ c, n.getLast? = some c ∧ isExpChar c = false := by
  obtain ⟨u, hu⟩ := Option.isSome_iff_exists.mp hn
  obtain ⟨hmem, rfl⟩ := findSys_sym T n u hu
  unfold factF7 at h
  simp only [Bool.and_eq_true, List.all_eq_true] at h
  obtain ⟨⟨h1, h2⟩, h3⟩ := h.2 u hmem
  refine ⟨by rw [List.all_eq_true]; exact h1, by simpa using h2, ?_⟩
  split at h3
  · rename_i c hc; exact ⟨c, hc, by simpa using h3⟩
  · cases h3

/-- the table conditions the parser theorems rest on: facts F1, F2, F3, F4 and F7 -/
structure TableOK (T : Tables) : Prop where
  f1 : factF1 T = true
  f2 : factF2 T = true
  f3 : factF3 T = true
  f4 : factF4 T = true
  f7 : factF7 T = true

theorem mem_admPrefixes {T : Tables} {u : UnitRow} {p : Str} :
    p ∈ admPrefixes T u ↔ p ∈ T.prefixKeys ∧ admits T u p = true := List.mem_filter

/-- "A prefix–symbol pair the tables allow" is said in three ways: `admissibleB` (what `denote` tests),
    `admissible` (what the parser theorems conclude) and a row with `p ∈ [] :: admPrefixes T row` (what the
    completeness theorems take, and `goodKey` of `C03Round`); these two equivalences connect them. -/
theorem admissible_iff_row {T : Tables} {p b : Str} :
    admissible T p b ↔ ∃ row ∈ T.units, row.sym = b ∧ p ∈ [] :: admPrefixes T row := by
  unfold admissible
  refine exists_congr fun row => and_congr_right fun _ => and_congr_right fun _ => ?_
  rw [List.mem_cons, mem_admPrefixes]

theorem admissibleB_iff {T : Tables} {p b : Str} : admissibleB T p b = true ↔ admissible T p b := by
  unfold admissibleB admissible
  simp only [List.any_eq_true, Bool.and_eq_true, Bool.or_eq_true, beq_iff_eq, List.contains_iff_mem]

/-- the first stage of `AtomParser`: the text is split in front of its exponent text and the exponent read -/
theorem exp_split {body x : Str} {e : Frac} {c : Char} (hlast : body.getLast? = some c)
    (hc : isExpChar c = false) (hx : expTextOf x e) :
    dropTrail isExpChar (' ' :: (body ++ x)) = ' ' :: body ∧ trailRun isExpChar (' ' :: (body ++ x)) = x ∧
      (if x = [] then some Frac.one else Frac.fromString x) = some e := by
  have hsp : isExpChar ' ' = false := by decide
  obtain ⟨hd, ht⟩ := trail_of_append isExpChar body x c (expTextOf_chars x e hx) hlast hc
  exact ⟨by rw [dropTrail_cons _ _ _ hsp, hd], by rw [trailRun_cons _ _ _ hsp, ht],
    (expTextOf_iff_read (expTextOf_chars x e hx)).mpr hx⟩

/-- the test for the system-unit mark behind the blank `AtomParser` puts in front -/
theorem sysMark_iff (s : Str) : [' ', '#'].isPrefixOf (' ' :: s) = true ↔ s.head? = some '#' := by
  cases s with
  | nil => simp [List.isPrefixOf]
  | cons a t =>
    simp only [List.isPrefixOf, beq_self_eq_true, Bool.true_and, Bool.and_true, beq_iff_eq, List.head?_cons,
      Option.some.injEq]
    exact eq_comm

theorem head_not_mark {T : Tables} (h4 : factF4 T = true) {u : UnitRow} (hu : u ∈ T.units) {p : Str}
    (hp : p ∈ [] :: admPrefixes T u) : (p ++ u.sym).head? ≠ some '#' := by
  cases p with
  | nil => simpa using (factF4_units h4 u hu).2.1
  | cons a t =>
    simpa using factF4_prefixes h4 _ (mem_admPrefixes.mp ((List.mem_cons.mp hp).resolve_left (List.cons_ne_nil a t))).1

theorem unitParse_complete (T : Tables) (h1 : factF1 T = true) (h2 : factF2 T = true)
    (h3 : factF3 T = true) (h4 : factF4 T = true) (u : UnitRow) (hu : u ∈ T.units)
    (p : Str) (hp : p ∈ [] :: admPrefixes T u) (x : Str) (e : Frac) (hx : expTextOf x e) :
    unitParse T (p ++ u.sym ++ x) = .ok (.std p u.sym, e) := by
  obtain ⟨c, hlast, hc⟩ := factF2_prop h2 u hu
  obtain ⟨hd, ht, hexp⟩ := exp_split (body := p ++ u.sym) (by rw [List.getLast?_append, hlast]; rfl) hc hx
  have hsys : [' ', '#'].isPrefixOf (' ' :: (p ++ u.sym)) = false :=
    Bool.eq_false_iff.mpr fun h => head_not_mark h4 hu hp ((sysMark_iff _).mp h)
  unfold unitParse
  simp only [hd, ht, hexp, hsys, factF1_prop h1 u hu p hp, cut_prefix p u.sym]
  rcases List.mem_cons.mp hp with rfl | hp'
  · have hn := factF3_prop h3
    simp [hn]
  · obtain ⟨hk, ha⟩ := mem_admPrefixes.mp hp'
    simp [hk, ha]

/-- F1 makes the reading of a text as prefix ++ symbol unique: `check_unique_symbols`' condition -/
theorem reading_unique (T : Tables) (h1 : factF1 T = true) (u1 u2 : UnitRow) (hu1 : u1 ∈ T.units)
    (hu2 : u2 ∈ T.units) (p1 p2 : Str) (hp1 : p1 ∈ [] :: admPrefixes T u1)
    (hp2 : p2 ∈ [] :: admPrefixes T u2) (h : p1 ++ u1.sym = p2 ++ u2.sym) : u1 = u2 ∧ p1 = p2 := by
  have a := factF1_prop h1 u1 hu1 p1 hp1
  have b := factF1_prop h1 u2 hu2 p2 hp2
  have e : (' ' :: (p1 ++ u1.sym)) = (' ' :: (p2 ++ u2.sym)) := by simp [h]
  rw [e, b] at a
  have hu : u2 = u1 := by simpa using a
  subst hu
  exact ⟨rfl, List.append_cancel_right h⟩

theorem mant_alpha (c : Char) (h : isMantChar c = true) : isNumAlpha c = true := by
  unfold isMantChar at h; unfold isNumAlpha
  simp only [Bool.or_eq_true] at h ⊢
  rcases h with h | h
  · exact Or.inl (Or.inl (Or.inl (Or.inl h)))
  · exact Or.inl (Or.inl (Or.inr h))

theorem expo_alpha (c : Char) (h : isExpoChar c = true) : isNumAlpha c = true := by
  unfold isExpoChar at h; unfold isNumAlpha
  simp only [Bool.or_eq_true] at h ⊢
  rcases h with (h | h) | h
  · exact Or.inl (Or.inl (Or.inl (Or.inl h)))
  · exact Or.inr h
  · exact Or.inl (Or.inl (Or.inl (Or.inr h)))

theorem all_imp {p q : Char → Bool} (hpq : ∀ c, p c = true → q c = true) (l : Str)
    (h : l.all p = true) : l.all q = true := by
  rw [List.all_eq_true] at h ⊢
  exact fun c hc => hpq c (h c hc)

theorem numberParts_alpha (s : Str) (r : Bool × Str × Option Str) (h : numberParts s = some r) :
    s.all isNumAlpha = true := by
  unfold numberParts at h
  simp only at h
  generalize hr : (if (s.head? == some '-') = true then List.drop 1 s else s) = rr at h
  have hrr : rr.all isNumAlpha = true := by
    split at h
    · cases h
    · have hsplit := @List.takeWhile_append_dropWhile _ isMantChar rr
      have h1 : (rr.takeWhile isMantChar).all isNumAlpha = true :=
        all_imp mant_alpha _ List.all_takeWhile
      split at h
      · rename_i hd; rw [hd] at hsplit; rw [← hsplit]; simpa using h1
      · rename_i x hd
        split at h
        · rename_i hx
          rw [← hsplit, hd, List.all_append, h1]
          have : isNumAlpha 'e' = true := by decide
          simp only [List.all_cons, this, Bool.true_and]
          exact all_imp expo_alpha _ hx.2
        · cases h
      · cases h
  by_cases hneg : (s.head? == some '-') = true
  · simp only [hneg, if_true] at hr
    cases s with
    | nil => rfl
    | cons a t =>
      have : a = '-' := by simpa using hneg
      subst this
      simp at hr; subst hr
      simp only [List.all_cons, hrr, Bool.and_true]; decide
  · simp only [hneg] at hr
    simp at hr; subst hr; exact hrr

theorem numberParts_none_of_mem {s : Str} {c : Char} (hc : c ∈ s) (hn : isNumAlpha c = false) :
    numberParts s = none := by
  cases h : numberParts s with
  | none => rfl
  | some r => rw [List.all_eq_true.mp (numberParts_alpha s r h) c hc] at hn; cases hn

theorem numberParts_none_of_symbol (T : Tables) (h4 : factF4 T = true) (u : UnitRow) (hu : u ∈ T.units)
    (p x : Str) : numberParts (p ++ u.sym ++ x) = none := by
  obtain ⟨⟨c, hc, hn⟩, _⟩ := factF4_units h4 u hu
  exact numberParts_none_of_mem (by simp [hc]) hn

theorem unitParse_sys_complete (T : Tables) (h7 : factF7 T = true) (n x : Str) (f : Frac)
    (hn : (T.findSys n).isSome = true) (hx : expTextOf x f) :
    unitParse T (n ++ x) = .ok (.sys n, f) ∧ numberParts (n ++ x) = none := by
  obtain ⟨_, hhead, c, hlast, hc⟩ := factF7_sys h7 hn
  obtain ⟨n', rfl⟩ : ∃ n', n = '#' :: n' := by
    cases n with
    | nil => simp at hhead
    | cons a t => simp at hhead; exact ⟨t, by rw [hhead]⟩
  constructor
  · obtain ⟨hd, ht, hexp⟩ := exp_split hlast hc hx
    unfold unitParse
    simp only [hd, ht, hexp, (sysMark_iff ('#' :: n')).mpr rfl, if_true]
    simp [hn]
  · exact numberParts_none_of_mem (c := '#') (by simp) (by decide)

theorem atomParse_cases (T : Tables) (s : Str) (a : Atom) (h : atomParse T s = .ok a) :
    (∃ parts q, numberParts s = some parts ∧ floatOfParts parts = some q ∧ a = ⟨q, []⟩) ∨
    (∃ u e, numberParts s = none ∧ unitParse T s = .ok (u, e) ∧ a = ⟨1, [(u, e)]⟩) := by
  revert h; fun_cases atomParse T s <;> intro h <;> cases h
  · exact Or.inl ⟨_, _, ‹_›, ‹_›, rfl⟩
  · exact Or.inr ⟨_, _, ‹_›, ‹_›, rfl⟩

end SciVerif.C03
