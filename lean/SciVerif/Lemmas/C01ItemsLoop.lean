import SciVerif.Lemmas.C01Items

/-!
# C01, character level: the tokeniser loop over the text of an item list.  `Adj`/`ItemOK` say which lists
  are tokenised item by item, `Pending` is the loop's invariant, `at_item` the loop over one item and
  `tok_items_cont` the whole list with a postcondition at what follows (`AtTail`).
-/
namespace SciVerif.C01
open SciVerif.C01.Gen

variable {A : Type} (alg : AtomAlg A) (lit : List Char → A)
variable (sa : Bufs A → List Char → Bufs A × Except String (Tok A))

def LItem.isLit : LItem → Bool
  | .lit _ => true
  | _ => false

def LItem.isOpr : LItem → Bool
  | .opr _ => true
  | _ => false

def LItem.firstLex : LItem → List Char
  | .lit t => t
  | .opr k => k.sym
  | .call1 f _ => f.sym
  | .call2 g _ _ => g.sym

/-- two literals are never adjacent (their texts would merge); what follows an operator symbol
    does not start with `*` or `=` (it would extend the symbol to an earlier-listed one) -/
def okNext (a b : LItem) : Prop :=
  (a.isLit = true → b.isLit = false) ∧ (a.isOpr = true → SafeHead b.firstLex)

/-- every two neighbours of the item list satisfy `okNext`: the text of the list is tokenised item
    by item (holds for the items of every expression, `adj_items` in `Lemmas/C01Solve.lean`) -/
def Adj : List LItem → Prop
  | [] => True
  | [_] => True
  | a :: b :: r => okNext a b ∧ Adj (b :: r)

theorem Adj.append {xs : List LItem} {y : LItem} {ys : List LItem} (hx : Adj xs) (hy : Adj (y :: ys))
    (hl : ∀ a, xs.getLast? = some a → okNext a y) : Adj (xs ++ y :: ys) := by
  induction xs with
  | nil => simpa using hy
  | cons a xs ih =>
    cases xs with
    | nil => exact ⟨hl a rfl, hy⟩
    | cons b r =>
      refine ⟨hx.1, ?_⟩
      exact ih hx.2 (fun c hc => hl c (by simpa [List.getLast?_cons_cons] using hc))

theorem okNext_opr (k : OprK) (b : LItem) (hb : SafeHead b.firstLex) : okNext (.opr k) b :=
  ⟨fun h => by simp [LItem.isLit] at h, fun _ => hb⟩

/-- an operator symbol may stand in front of a list whose first lexeme does not continue it -/
theorem Adj.cons_opr (k : OprK) {its : List LItem} (h : ∃ it r, its = it :: r ∧ SafeHead it.firstLex)
    (ha : Adj its) : Adj (.opr k :: its) := by
  obtain ⟨it, r, rfl, h1⟩ := h
  exact ⟨okNext_opr k it h1, ha⟩

/-- an operator symbol may follow a list that does not end in one -/
theorem Adj.append_opr {xs ys : List LItem} (hx : Adj xs)
    (hl : ∃ pre it, xs = pre ++ [it] ∧ it.isOpr = false) (k : OprK) (hy : Adj (.opr k :: ys)) :
    Adj (xs ++ .opr k :: ys) := by
  obtain ⟨pre, lst, rfl, h2⟩ := hl
  exact Adj.append hx hy (fun a ha => by
    simp at ha; subst ha
    exact ⟨fun _ => rfl, fun hh => by rw [h2] at hh; cases hh⟩)

/-- the nested solver evaluates every text of the argument -/
def ArgOK (a : E) : Prop :=
  LitOK alg lit a ∧
  ∀ (v : List Char) (j : Nat) (st : Bufs A), Pre (lexemes a) v →
    (sa st (strip (v ++ blanks j))).2 = .ok (.atom (eval alg lit a))

/-- what the loop needs of an item: a literal is a text the tokeniser leaves whole and the atom class reads,
    the arguments of a call are evaluated by the nested solver -/
def ItemOK : LItem → Prop
  | .lit t => litSafe t = true ∧ alg.parse t = some (lit t)
  | .opr _ => True
  | .call1 _ a => ArgOK alg lit sa a
  | .call2 _ a b => ArgOK alg lit sa a ∧ ArgOK alg lit sa b

theorem itemLex_cons (it : LItem) : ∃ tl, itemLex it = it.firstLex :: tl := by
  cases it <;> simp [itemLex, LItem.firstLex]

theorem firstLex_ne_nil (it : LItem) (h : ItemOK alg lit sa it) : it.firstLex ≠ [] := by
  cases it with
  | lit t => exact (litSafe_good t h.1).1.1
  | opr k => exact (oprSym_props k).1.1
  | call1 f a => exact (callSym_props (.f1 f)).1.1
  | call2 g a b => exact (callSym_props (.f2 g)).1.1

theorem SafeHead.append {x : List Char} (h : SafeHead x) (hne : x ≠ []) (s : List Char) :
    SafeHead (x ++ s) := by
  cases x with
  | nil => exact absurd rfl hne
  | cons c cs => simpa [SafeHead] using h

theorem safeHead_blanks (j : Nat) (s : List Char) (hs : SafeHead s) : SafeHead (blanks j ++ s) := by
  cases j with
  | zero => exact hs
  | succ j => rw [blanks_succ]; exact ⟨by simp, by simp⟩

theorem safeHead_rest (a : LItem) (rest : List LItem) (u2 tail : List Char)
    (hopr : a.isOpr = true) (hadj : Adj (a :: rest)) (hok : ∀ it ∈ rest, ItemOK alg lit sa it)
    (hu : Pre (rest.flatMap itemLex) u2) (ht : SafeHead tail) : SafeHead (u2 ++ tail) := by
  cases rest with
  | nil =>
    have hu0 : u2 = [] := Pre.nil_inv (by simpa using hu)
    subst hu0
    simpa using ht
  | cons b r =>
    obtain ⟨tl, htl⟩ := itemLex_cons b
    simp only [List.flatMap_cons, htl, List.cons_append] at hu
    obtain ⟨j, s, rfl, _⟩ := Pre.cons_inv hu
    have hb := (hadj.1).2 hopr
    have hne := firstLex_ne_nil alg lit sa b (hok b (by simp))
    simp only [List.append_assoc]
    exact safeHead_blanks j _ (hb.append hne _)

theorem items_head (e : E) (h : LitOK alg lit e) :
    ∃ it r, items e = it :: r ∧ SafeHead it.firstLex := by
  induction e with
  | num t => exact ⟨.lit t, [], rfl, (litSafe_good t h.1).2.2.2⟩
  | fn1 f a _ => exact ⟨.call1 f a, [], rfl, (callSym_props (.f1 f)).2.1⟩
  | fn2 g a b _ _ => exact ⟨.call2 g a b, [], rfl, (callSym_props (.f2 g)).2.1⟩
  | sign s e _ =>
    refine ⟨.opr (.sign s), items e, rfl, ?_⟩
    cases s <;> exact ⟨by decide, by decide⟩
  | bin o l r ihl _ =>
    obtain ⟨it, r', e1, h1⟩ := ihl h.1
    exact ⟨it, r' ++ [.opr (.bin o)] ++ items r, by simp [items, e1], h1⟩
  | not e _ => exact ⟨.opr .not, items e, rfl, ⟨by decide, by decide⟩⟩

/-- the first lexeme of an expression is that of its first item -/
theorem lexemes_head (e : E) (h : LitOK alg lit e) :
    ∃ x xs, lexemes e = x :: xs ∧ x ≠ [] ∧ SafeHead x := by
  obtain ⟨it, r, e1, h1⟩ := items_head alg lit e h
  obtain ⟨tl, htl⟩ := itemLex_cons it
  refine ⟨it.firstLex, tl ++ r.flatMap itemLex, by rw [lexemes_items, e1, List.flatMap_cons, htl]; rfl,
    ?_, h1⟩
  exact (lexemes_good alg lit e h _ (by rw [lexemes_items, e1, List.flatMap_cons, htl]; simp)).1

theorem safeHead_text (e : E) (h : LitOK alg lit e) (u s : List Char) (hu : Pre (lexemes e) u) :
    SafeHead (u ++ s) := by
  obtain ⟨x, xs, e1, h1, h2⟩ := lexemes_head alg lit e h
  rw [e1] at hu
  obtain ⟨j, s', rfl, _⟩ := Pre.cons_inv hu
  rw [List.append_assoc, List.append_assoc]
  exact safeHead_blanks j _ (h2.append h1 _)

/-- `Expression.left` during the tokeniser loop: blanks, or one literal between blanks, not yet
    turned into an atom -/
def Pending (lw p : List Char) : Prop :=
  (∃ k k', lw = blanks k ++ p ++ blanks k') ∧
  (p = [] ∨ (litSafe p = true ∧ alg.parse p = some (lit p)))

/-- the atom a pending literal becomes when the loop next pushes (nothing for no literal) -/
def pendTok (p : List Char) : List (Tok A) :=
  match p with
  | [] => []
  | _ => [.atom (lit p)]

theorem blanks_append (a b : Nat) : blanks a ++ blanks b = blanks (a + b) := by
  simp [blanks]

theorem strip_good (k k' : Nat) (c : List Char) (h : GoodLex c) : strip (blanks k ++ c ++ blanks k') = c := by
  simpa using strip_pad k k' (c ++ []) (Pre.tight Pre.nil (fun y hy => by rw [List.mem_singleton.mp hy]; exact h))

theorem Pending.blanks {lw p : List Char} (h : Pending alg lit lw p) (j : Nat) :
    Pending alg lit (lw ++ blanks j) p := by
  obtain ⟨⟨k, k', rfl⟩, hp⟩ := h
  exact ⟨⟨k, k' + j, by simp [List.append_assoc, blanks_append]⟩, hp⟩

theorem pending_nil : Pending alg lit [] [] := ⟨⟨0, 0, rfl⟩, Or.inl rfl⟩

theorem pushAtom_pending {lw p : List Char} (h : Pending alg lit lw p) (b : Bufs A) :
    pushAtom alg (strip lw) b = .ok ⟨b.left, b.right ++ pendTok lit p⟩ := by
  obtain ⟨⟨k, k', rfl⟩, hp⟩ := h
  rcases hp with rfl | ⟨hs, hparse⟩
  · simp [blanks_append, strip_blanks, pushAtom, pendTok]
  · have hg := (litSafe_good p hs).1
    rw [strip_good k k' p hg]
    cases p with
    | nil => exact absurd rfl hg.1
    | cons c cs => simp [pushAtom, hparse, pendTok, append]

theorem solveArgs_map {α : Type} (txt : α → List Char) (val : α → A) (l : List α)
    (h : ∀ x ∈ l, ∀ st, (sa st (txt x)).2 = .ok (.atom (val x))) (st0 : Bufs A) :
    solveArgs sa st0 (l.map txt) = .ok (l.map fun x => some (val x)) := by
  induction l generalizing st0 with
  | nil => rfl
  | cons x l ih =>
    have h0 := h x (by simp) st0
    cases hh : sa st0 (txt x) with
    | mk st' r =>
      rw [hh] at h0
      simp only at h0
      subst h0
      rw [List.map_cons, solveArgs, hh]
      simp only [ih (fun y hy => h y (by simp [hy])) st', tokAtom, List.map_cons]

theorem scan_last (narg : Nat) (w r' l0 : List Char) (args : List (List Char)) (hw : nest w 0 = some 0) :
    parScan (stdPar narg) ((w ++ ')' :: r').length + 1) 1 ⟨l0, w ++ ')' :: r'⟩ args
      = some (⟨[], r'⟩, args ++ [strip (l0 ++ w)]) := by
  have e : (w ++ ')' :: r').length + 1 = (r'.length + 1 + 1) + w.length := by simp; omega
  have := parScan_nest narg w 0 0 (r'.length + 1 + 1) l0 (')' :: r') args hw
  rw [e, this, parScan_cons]
  rfl

theorem scan_sep (narg m : Nat) (w r' l0 : List Char) (args : List (List Char)) (hw : nest w 0 = some 0) :
    parScan (stdPar narg) (m + 1 + w.length) 1 ⟨l0, w ++ ',' :: r'⟩ args
      = parScan (stdPar narg) m 1 ⟨[], r'⟩ (args ++ [strip (l0 ++ w)]) := by
  have := parScan_nest narg w 0 0 (m + 1) l0 (',' :: r') args hw
  rw [this, parScan_cons]
  rfl

/-- the argument texts of a call joined by `,` (without the parentheses) -/
def joinArgs : List (List Char) → List Char
  | [] => []
  | [t] => t
  | t :: t' :: ts => t ++ ',' :: joinArgs (t' :: ts)

theorem scan_args (narg : Nat) (Ts : List (List Char)) (hne : Ts ≠ [])
    (hb : ∀ T ∈ Ts, nest T 0 = some 0) :
    ∀ (r' : List Char) (args : List (List Char)),
      parScan (stdPar narg) ((joinArgs Ts ++ ')' :: r').length + 1) 1 ⟨[], joinArgs Ts ++ ')' :: r'⟩ args
        = some (⟨[], r'⟩, args ++ Ts.map strip) := by
  induction Ts with
  | nil => exact absurd rfl hne
  | cons T Ts ih =>
    intro r' args
    cases Ts with
    | nil =>
      have := scan_last narg T r' [] args (hb T (by simp))
      simpa [joinArgs] using this
    | cons T' Ts' =>
      have hT := hb T (by simp)
      have e : (joinArgs (T :: T' :: Ts') ++ ')' :: r').length + 1
          = ((joinArgs (T' :: Ts') ++ ')' :: r').length + 1) + 1 + T.length := by
        simp [joinArgs]; omega
      have hs := scan_sep narg ((joinArgs (T' :: Ts') ++ ')' :: r').length + 1) T
        (joinArgs (T' :: Ts') ++ ')' :: r') [] args hT
      rw [e, show joinArgs (T :: T' :: Ts') ++ ')' :: r' = T ++ ',' :: (joinArgs (T' :: Ts') ++ ')' :: r') by
        simp [joinArgs], hs, ih (by simp) (fun X hX => hb X (by simp [hX])) r' _]
      simp

theorem joinArgs_cons (T : List Char) (Ts : List (List Char)) : ∃ s, joinArgs (T :: Ts) = T ++ s := by
  cases Ts with
  | nil => exact ⟨[], by simp [joinArgs]⟩
  | cons T' Ts' => exact ⟨_, rfl⟩

/-- The loop at a call whose arguments are given as triples (expression, a text of it, number of blanks
    after that text): with every argument evaluated by the nested solver, the call becomes one operator
    token carrying the values. -/
theorem at_call {P : M A (Bufs A) → Prop} {name : String} {sym : List Char} {narg : Nat}
    (hf : rowFact dflt name sym (some (stdPar narg)) = true) (hne : sym ≠ [])
    (args : List (E × List Char × Nat)) (hlen : args.length = narg) (hargs : args ≠ [])
    (hok : ∀ x ∈ args, ArgOK alg lit sa x.1 ∧ Pre (lexemes x.1) x.2.1)
    {lw p r : List Char} {b : Bufs A} (hpend : Pending alg lit lw p)
    (h : ∀ m, r.length + 1 ≤ m → P (tokLoop dflt alg sa m ⟨[], r⟩
      ⟨b.left, b.right ++ pendTok lit p ++
        [.op (idxOf dflt name) (args.map fun x => some (eval alg lit x.1))]⟩)) :
    ∀ n, (sym ++ (joinArgs (args.map fun x => x.2.1 ++ blanks x.2.2) ++ ')' :: r)).length + 1 ≤ n →
      P (tokLoop dflt alg sa n
        ⟨lw, sym ++ (joinArgs (args.map fun x => x.2.1 ++ blanks x.2.2) ++ ')' :: r)⟩ b) := by
  intro n hn
  have hb : ∀ T ∈ args.map (fun x => x.2.1 ++ blanks x.2.2), nest T 0 = some 0 := by
    intro T hT
    obtain ⟨x, hx, rfl⟩ := List.mem_map.mp hT
    rw [nest_append, nest_text alg lit x.1 (hok x hx).1.1 _ (hok x hx).2 0]
    exact nest_blanks _ 0
  have hsafe : SafeHead (joinArgs (args.map fun x => x.2.1 ++ blanks x.2.2) ++ ')' :: r) := by
    cases args with
    | nil => exact absurd rfl hargs
    | cons x xs =>
      obtain ⟨s, hs⟩ := joinArgs_cons (x.2.1 ++ blanks x.2.2) (xs.map fun x => x.2.1 ++ blanks x.2.2)
      rw [List.map_cons, hs, List.append_assoc, List.append_assoc]
      exact safeHead_text alg lit x.1 (hok x (by simp)).1.1 _ _ (hok x (by simp)).2
  have hscan := scan_args narg _ (by simpa using hargs) hb r []
  have hsolve := solveArgs_map sa (fun x : E × List Char × Nat => strip (x.2.1 ++ blanks x.2.2))
    (fun x => eval alg lit x.1) args (fun x hx st => (hok x hx).1.2 _ _ st (hok x hx).2) ⟨[], []⟩
  cases n with
  | zero => cases hn
  | succ m =>
    rw [(tokLoop_call alg sa hf hne m _ _ b _ _ _ (Or.inl hsafe) (pushAtom_pending alg lit hpend b)
      (by simpa using hscan)).2.2 (by simpa using hlen) _
      (by simpa [List.map_map, Function.comp_def] using hsolve)]
    have := h m (by simp only [List.length_append, List.length_cons] at hn; omega)
    simpa [append, List.append_assoc] using this

/-- The loop over a text of ONE item, as a rule like `at_blanks`: it arrives at what follows with the item's
    token appended and nothing pending, or, for a literal, with the literal pending.  After a literal the token
    is not in the buffer yet, so the continuation is told what buffer and pending literal TOGETHER amount to:
    `r' ++ pendTok lit p'`. -/
theorem at_item {P : M A (Bufs A) → Prop} (it : LItem) (hok : ItemOK alg lit sa it)
    {lw p u1 R : List Char} {b : Bufs A} (hpend : Pending alg lit lw p) (hp : p ≠ [] → it.isLit = false)
    (hu1 : Pre (itemLex it) u1) (hR : it.isOpr = true → SafeHead R)
    (h : ∀ (m : Nat) (lw' p' : List Char) (r' : List (Tok A)), Pending alg lit lw' p' →
      (p' ≠ [] → it.isLit = true) → r' ++ pendTok lit p' = b.right ++ pendTok lit p ++ [tokOf alg lit it] →
      R.length + 1 ≤ m → P (tokLoop dflt alg sa m ⟨lw', R⟩ ⟨b.left, r'⟩)) :
    ∀ n, (u1 ++ R).length + 1 ≤ n → P (tokLoop dflt alg sa n ⟨lw, u1 ++ R⟩ b) := by
  -- after an operator or a call nothing is pending
  have hclean : ∀ (r1 : List (Tok A)), r1 = b.right ++ pendTok lit p ++ [tokOf alg lit it] →
      ∀ m, R.length + 1 ≤ m → P (tokLoop dflt alg sa m ⟨[], R⟩ ⟨b.left, r1⟩) :=
    fun r1 hr m hm => h m [] [] r1 (pending_nil alg lit) (fun h => absurd rfl h) (by simpa [pendTok] using hr) hm
  intro n hn
  cases it with
  | lit t =>
    obtain ⟨j, rfl⟩ := Pre.single_inv (by simpa [itemLex] using hu1)
    have hp0 : p = [] := by
      by_cases h : p = []
      · exact h
      · exact absurd (hp h) Bool.noConfusion
    subst hp0
    have hgood := litSafe_good t hok.1
    have hpend' : Pending alg lit (lw ++ blanks j ++ t) t := by
      obtain ⟨⟨a, a', e⟩, _⟩ := hpend
      refine ⟨⟨a + a' + j, 0, ?_⟩, Or.inr hok⟩
      rw [e]; simp [blanks_append, blanks_zero]
    rw [List.append_assoc] at hn ⊢
    refine at_blanks alg sa j (at_lit alg sa t hgood.2.2.1 fun m hm => ?_) n hn
    refine h m _ t b.right hpend' (fun _ => rfl) ?_ hm
    cases t with
    | nil => exact absurd rfl hgood.1.1
    | cons c cs => simp [pendTok, tokOf]
  | opr kk =>
    obtain ⟨j, rfl⟩ := Pre.single_inv (by simpa [itemLex] using hu1)
    rw [List.append_assoc] at hn ⊢
    exact at_blanks alg sa j (at_op alg sa (sym_facts kk) (oprSym_props kk).1.1 (hR rfl)
      (pushAtom_pending alg lit (hpend.blanks alg lit j) b)
      (hclean _ (by simp [tokOf]))) n hn
  | call1 f a =>
    simp only [itemLex] at hu1
    obtain ⟨u12, u3, rfl, h12, h3⟩ := Pre.append_inv hu1
    obtain ⟨u1', ua, rfl, h1, ha⟩ := Pre.append_inv h12
    obtain ⟨j, rfl⟩ := Pre.single_inv h1
    obtain ⟨jc, rfl⟩ := Pre.single_inv h3
    rw [show blanks j ++ f.sym ++ ua ++ (blanks jc ++ [')']) ++ R
          = blanks j ++ (f.sym ++ (joinArgs ([(a, ua, jc)].map fun x => x.2.1 ++ blanks x.2.2) ++
              ')' :: R)) by simp [joinArgs]] at hn ⊢
    exact at_blanks alg sa j (at_call alg lit sa (fact_fn1 f) (callSym_props (.f1 f)).1.1 [(a, ua, jc)] rfl
      (by simp) (by simpa using ⟨hok, ha⟩) (hpend.blanks alg lit j)
      (hclean _ (by simp [tokOf]))) n hn
  | call2 g a c =>
    simp only [itemLex] at hu1
    obtain ⟨u1234, u5, rfl, h1234, h5⟩ := Pre.append_inv hu1
    obtain ⟨u123, uc, rfl, h123, hc⟩ := Pre.append_inv h1234
    obtain ⟨u12, u3, rfl, h12, h3⟩ := Pre.append_inv h123
    obtain ⟨u1', ua, rfl, h1, ha⟩ := Pre.append_inv h12
    obtain ⟨j, rfl⟩ := Pre.single_inv h1
    obtain ⟨js, rfl⟩ := Pre.single_inv h3
    obtain ⟨jc, rfl⟩ := Pre.single_inv h5
    rw [show blanks j ++ g.sym ++ ua ++ (blanks js ++ [',']) ++ uc ++ (blanks jc ++ [')']) ++ R
          = blanks j ++ (g.sym ++ (joinArgs ([(a, ua, js), (c, uc, jc)].map fun x => x.2.1 ++ blanks x.2.2)
              ++ ')' :: R)) by simp [joinArgs]] at hn ⊢
    exact at_blanks alg sa j (at_call alg lit sa (fact_fn2 g) (callSym_props (.f2 g)).1.1
      [(a, ua, js), (c, uc, jc)] rfl (by simp) (by simpa using ⟨⟨hok.1, ha⟩, hok.2, hc⟩)
      (hpend.blanks alg lit j) (hclean _ (by simp [tokOf]))) n hn

/-- Arriving at `tail` with anything admissible pending, the loop ends in a result that stands in
    relation `Q` to the buffers as they are once the pending literal is appended. -/
def AtTail (tail : List Char) (Q : Bufs A → M A (Bufs A) → Prop) : Prop :=
  ∀ (m : Nat) (lw p : List Char) (b : Bufs A), Pending alg lit lw p → tail.length + 1 ≤ m →
    Q ⟨b.left, b.right ++ pendTok lit p⟩ (tokLoop dflt alg sa m ⟨lw, tail⟩ b)

/-- The central character-level lemma: from any admissible pending state the loop works through a text
    `u` of an admissible item list, item by item (`at_item`), and arrives at `tail` having appended the
    items' tokens, so whatever holds at `tail` (`AtTail`) holds of the whole run. -/
theorem tok_items_cont (tail : List Char) (hsafe : SafeHead tail) (Q : Bufs A → M A (Bufs A) → Prop)
    (hQ : AtTail alg lit sa tail Q) (its : List LItem) :
    Adj its → (∀ it ∈ its, ItemOK alg lit sa it) →
    ∀ (lw p u : List Char) (b : Bufs A) (n : Nat),
      Pending alg lit lw p → (p ≠ [] → ∀ it, its.head? = some it → it.isLit = false) →
      Pre (its.flatMap itemLex) u → (u ++ tail).length + 1 ≤ n →
      Q ⟨b.left, b.right ++ pendTok lit p ++ its.map (tokOf alg lit)⟩
        (tokLoop dflt alg sa n ⟨lw, u ++ tail⟩ b) := by
  induction its with
  | nil =>
    intro _ _ lw p u b n hpend _ hu hn
    cases Pre.nil_inv (by simpa using hu)
    simpa using hQ n lw p b hpend hn
  | cons it rest ih =>
    intro hadj hok lw p u b n hpend hhead hu hn
    have hadj' : Adj rest := by
      cases rest with
      | nil => trivial
      | cons b r => exact hadj.2
    have hok' : ∀ x ∈ rest, ItemOK alg lit sa x := fun x hx => hok x (by simp [hx])
    simp only [List.flatMap_cons] at hu
    obtain ⟨u1, u2, rfl, hu1, hu2⟩ := Pre.append_inv hu
    rw [List.append_assoc u1 u2 tail] at hn ⊢
    refine at_item alg lit sa (P := Q ⟨b.left, b.right ++ pendTok lit p ++ (it :: rest).map (tokOf alg lit)⟩)
      it (hok it (by simp)) hpend
      (fun hne => hhead hne it rfl)
      hu1 (fun ho => safeHead_rest alg lit sa it rest u2 tail ho hadj hok' hu2 hsafe)
      (fun m lw' p' r' hpend' hp' hr hm => ?_) n hn
    have := ih hadj' hok' lw' p' u2 ⟨b.left, r'⟩ m hpend' (fun hne x hx => by
      cases rest with
      | nil => cases hx
      | cons y r => cases hx; exact hadj.1.1 (hp' hne)) hu2 hm
    rw [hr] at this
    simpa using this

/-- at the end of the string the pending literal becomes the last atom -/
theorem tok_items (its : List LItem) :
    Adj its → (∀ it ∈ its, ItemOK alg lit sa it) →
    ∀ (lw p u : List Char) (b : Bufs A) (k n : Nat),
      Pending alg lit lw p → (p ≠ [] → ∀ it, its.head? = some it → it.isLit = false) →
      Pre (its.flatMap itemLex) u → u.length + k + 1 ≤ n →
      tokLoop dflt alg sa n ⟨lw, u ++ blanks k⟩ b
        = .ok ⟨b.left, b.right ++ pendTok lit p ++ its.map (tokOf alg lit)⟩ := by
  intro hadj hok lw p u b k n hpend hhead hu hn
  refine tok_items_cont alg lit sa (blanks k) (by simpa using safeHead_blanks k [] (by decide))
    (fun B r => r = .ok B) (fun m lw' p' b' hp' hm => ?_) its hadj hok lw p u b n hpend hhead hu
    (by simpa [blanks_length] using hn)
  have := at_blanks alg sa (P := fun r => r = .ok ⟨b'.left, b'.right ++ pendTok lit p'⟩) (lw := lw')
    (r := []) (b := b') k (fun m' hm' => by
      cases m' with
      | zero => cases hm'
      | succ q => rw [tokLoop_end, pushAtom_pending alg lit (hp'.blanks alg lit k)]) m (by simpa using hm)
  simpa using this

end SciVerif.C01
