import Mathlib.Analysis.SpecialFunctions.Pow.Real
import SciVerif.Model.C08

/-!
The magnitude model at the real numbers: the numpy primitives as real functions, value and
error of each operation, `Mag.scaleBy` with the invariance of the relative error under it, and the real
inequalities behind the first-order bounds; at the end the vocabulary of `C08_nonneg` (`MExpr`).
-/
namespace SciVerif.C08

noncomputable instance : ValOps ℝ where
  abs x := |x|
  gmax x y := max x y
  fillLike _ e := e
  rpow x p := x ^ ((p : ℚ) : ℝ)
  ofRat q := ((q : ℚ) : ℝ)

@[simp] theorem abs_real (x : ℝ) : ValOps.abs x = |x| := rfl
@[simp] theorem gmax_real (x y : ℝ) : ValOps.gmax x y = max x y := rfl
@[simp] theorem fillLike_real (v e : ℝ) : ValOps.fillLike v e = e := rfl
@[simp] theorem rpow_real (x : ℝ) (p : Rat) : ValOps.rpow x p = x ^ ((p : ℚ) : ℝ) := rfl
@[simp] theorem ofRat_real (q : Rat) : (ValOps.ofRat q : ℝ) = ((q : ℚ) : ℝ) := rfl

@[simp] theorem Mag.new_real (v : ℝ) (e : Option ℝ) : Mag.new v e = ⟨v, e⟩ := by
  cases e <;> simp [Mag.new]

/-- the absolute error, if there is one (`none` = exact), is not negative -/
def Mag.ErrNonneg (m : Mag ℝ) : Prop := ∀ e, m.error = some e → 0 ≤ e

theorem Mag.add_error (l r : Mag ℝ) : (l.add r).error = sumErr l.error r.error := by
  rw [Mag.add, Mag.new_real]

theorem Mag.sub_error (l r : Mag ℝ) : (l.sub r).error = sumErr l.error r.error := by
  rw [Mag.sub, Mag.new_real]

theorem Mag.mul_error (l r : Mag ℝ) : (l.mul r).error = mulErr l.value r.value l.error r.error := by
  rw [Mag.mul, Mag.new_real]

theorem Mag.div_error (l r : Mag ℝ) : (l.div r).error = divErr l.value r.value l.error r.error := by
  rw [Mag.div, Mag.new_real]

theorem Mag.pow_error (m : Mag ℝ) (p : Rat) : (m.pow p).error = powErr m.value p m.error := by
  rw [Mag.pow, Mag.new_real]

theorem Mag.neg_error (m : Mag ℝ) : m.neg.error = m.error := by
  rw [Mag.neg, Mag.new_real]

/-- The hypotheses are `Mag.ErrNonneg` of the operands, spelt on the error components, which is all the rules see.
    Where a rule takes a `max` of absolute values (both errors present; for a quotient: any error of the divisor) nothing
    is needed of the errors, hence no hypothesis on `re` in `divErr_nonneg`. -/
theorem sumErr_nonneg {le re : Option ℝ} (hl : ∀ e, le = some e → 0 ≤ e) (hr : ∀ e, re = some e → 0 ≤ e) :
    ∀ e, sumErr le re = some e → 0 ≤ e := by
  fun_cases sumErr le re <;> intro e he <;> cases he
  · exact hr _ rfl
  · exact hl _ rfl
  · exact add_nonneg (hl _ rfl) (hr _ rfl)

theorem mulErr_nonneg (lv rv : ℝ) {le re : Option ℝ} (hl : ∀ e, le = some e → 0 ≤ e)
    (hr : ∀ e, re = some e → 0 ≤ e) : ∀ e, mulErr lv rv le re = some e → 0 ≤ e := by
  fun_cases mulErr lv rv le re <;> intro e he <;> cases he
  · exact mul_nonneg (hr _ rfl) (abs_nonneg _)
  · exact mul_nonneg (hl _ rfl) (abs_nonneg _)
  · exact le_max_of_le_left (abs_nonneg _)

theorem divErr_nonneg (lv rv : ℝ) {le : Option ℝ} (re : Option ℝ) (hl : ∀ e, le = some e → 0 ≤ e) :
    ∀ e, divErr lv rv le re = some e → 0 ≤ e := by
  fun_cases divErr lv rv le re <;> intro e he <;> cases he
  · exact le_max_of_le_left (abs_nonneg _)
  · exact div_nonneg (hl _ rfl) (abs_nonneg _)
  · exact le_max_of_le_left (abs_nonneg _)

theorem relToAbs_absToRel (v e k : ℝ) (hv : v ≠ 0) : relToAbs v (absToRel v e * k) = e * k := by
  have h : |v| ≠ 0 := abs_ne_zero.mpr hv
  simp only [relToAbs, absToRel, abs_real]
  field_simp

theorem absToRel_relToAbs (v r : ℝ) (hv : v ≠ 0) : absToRel v (relToAbs v r) = r := by
  have h : |v| ≠ 0 := abs_ne_zero.mpr hv
  simp only [relToAbs, absToRel, abs_real]
  field_simp

theorem powErr_real (v : ℝ) (p : Rat) (hv : v ≠ 0) (o : Option ℝ) :
    powErr v p o = o.map (fun e => e * |((p : ℚ) : ℝ)|) := by
  have h : (if p < 0 then -p else p) = |p| := by
    split
    · exact (abs_of_neg ‹_›).symm
    · exact (abs_of_nonneg (not_lt.mp ‹_›)).symm
  cases o with
  | none => rfl
  | some e => rw [powErr, h, ofRat_real, Rat.cast_abs, relToAbs_absToRel v e _ hv, Option.map_some]

theorem absToRel_scale (v e : ℝ) {f : ℝ} (hf : f ≠ 0) : absToRel (v * f) (e * |f|) = absToRel v e := by
  simp only [absToRel, abs_real, abs_mul]
  rw [← mul_assoc, mul_div_mul_right _ _ (abs_ne_zero.mpr hf)]

/-- value and absolute error multiplied by one exact factor (the error by `|f|`): what `* k`, `/ k`, a linear
    conversion and the passage to base dimensions do -/
def Mag.scaleBy (m : Mag ℝ) (f : ℝ) : Mag ℝ := ⟨m.value * f, m.error.map (· * |f|)⟩

theorem Mag.scaleBy_of_pos (m : Mag ℝ) {f : ℝ} (hf : 0 < f) :
    m.scaleBy f = ⟨m.value * f, m.error.map (fun e => e * f)⟩ := by
  rw [Mag.scaleBy, abs_of_pos hf]

theorem Mag.scaleBy_one (m : Mag ℝ) : m.scaleBy 1 = m := by
  obtain ⟨v, e⟩ := m
  cases e <;> simp [Mag.scaleBy]

theorem Mag.scaleBy_scaleBy (m : Mag ℝ) (f g : ℝ) : (m.scaleBy f).scaleBy g = m.scaleBy (f * g) := by
  obtain ⟨v, e⟩ := m
  cases e <;> simp [Mag.scaleBy, abs_mul, mul_assoc]

theorem Mag.mul_exact (m : Mag ℝ) (f : ℝ) : m.mul (Mag.exact f) = m.scaleBy f := by
  obtain ⟨v, e⟩ := m
  cases e <;> rfl

theorem Mag.div_exact (m : Mag ℝ) (k : ℝ) : m.div (Mag.exact k) = m.scaleBy k⁻¹ := by
  obtain ⟨v, e⟩ := m
  cases e <;> simp [Mag.div, Mag.exact, divErr, Mag.scaleBy, div_eq_mul_inv]

theorem Mag.convertLinear_eq (m : Mag ℝ) {m1 m2 : ℝ} (h : 0 ≤ m1 / m2) :
    m.convertLinear m1 m2 = m.scaleBy (m1 / m2) := by
  rw [Mag.convertLinear, Mag.new_real, Mag.scaleBy, abs_of_nonneg h, mul_div_assoc]

theorem Mag.rele_scaleBy (m : Mag ℝ) {f : ℝ} (hf : f ≠ 0) : (m.scaleBy f).rele = m.rele := by
  obtain ⟨v, e⟩ := m
  cases e with
  | none => rfl
  | some e => exact congrArg some (absToRel_scale v e hf)

theorem sumErr_map_mul (le re : Option ℝ) (c : ℝ) :
    sumErr (le.map (· * c)) (re.map (· * c)) = (sumErr le re).map (· * c) := by
  cases le <;> cases re <;> simp [sumErr, add_mul]

theorem Mag.add_scaleBy (l r : Mag ℝ) (f : ℝ) : (l.add r).scaleBy f = (l.scaleBy f).add (r.scaleBy f) := by
  simp only [Mag.add, Mag.new_real, Mag.scaleBy, sumErr_map_mul, add_mul]

theorem Mag.sub_scaleBy (l r : Mag ℝ) (f : ℝ) : (l.sub r).scaleBy f = (l.scaleBy f).sub (r.scaleBy f) := by
  simp only [Mag.sub, Mag.new_real, Mag.scaleBy, sumErr_map_mul, sub_mul]

/-- the upper end point of a product: `(a+da)(b+db) - ab = a·db + b·da + da·db` -/
theorem first_order_mul_le (a da b db : ℝ) (h : 0 ≤ da * db) :
    a * db + b * da ≤ |(a + da) * (b + db) - a * b| :=
  calc a * db + b * da ≤ a * db + b * da + da * db := le_add_of_nonneg_right h
    _ = (a + da) * (b + db) - a * b := by ring
    _ ≤ _ := le_abs_self _

/-- the end point `(a+da)/(b-db)` of a quotient: its distance from `a/b` is
    `(a·db + b·da) / (b·|b - db|)`, at least the first-order value exactly when `|b - db| ≤ b`,
    i.e. `0 ≤ db ≤ 2b` — whether or not the divisor's interval reaches across zero. -/
theorem first_order_div_le (a da b db : ℝ) (ha : 0 ≤ a) (hda : 0 ≤ da) (hb : 0 < b) (hne : db ≠ b)
    (h0 : 0 ≤ db) (h2 : db ≤ 2 * b) :
    (a * db + b * da) / (b * b) ≤ |(a + da) / (b - db) - a / b| := by
  have hd : b - db ≠ 0 := sub_ne_zero.mpr hne.symm
  have hw : |b - db| ≤ b := abs_le.mpr ⟨by linarith, sub_le_self b h0⟩
  have hn : 0 ≤ a * db + b * da := add_nonneg (mul_nonneg ha h0) (mul_nonneg hb.le hda)
  have e : (a + da) / (b - db) - a / b = (a * db + b * da) / (b * (b - db)) := by
    rw [div_sub_div _ _ hd hb.ne']
    congr 1 <;> ring
  rw [e, abs_div, abs_mul, abs_of_nonneg hn, abs_of_pos hb]
  exact div_le_div_of_nonneg_left hn (mul_pos hb (abs_pos.mpr hd)) (mul_le_mul_of_nonneg_left hw hb.le)

theorem first_order_rdiv_le (a b db : ℝ) (ha : 0 ≤ a) (hb : 0 < b) (hne : db ≠ b) (h0 : 0 ≤ db)
    (h2 : db ≤ 2 * b) : a * db / (b * b) ≤ |a / (b - db) - a / b| := by
  have h := first_order_div_le a 0 b db ha le_rfl hb hne h0 h2
  rwa [mul_zero, add_zero, add_zero] at h

/-- arbitrary computations built from the operations of `Magnitude` -/
inductive MExpr where
  | leaf (m : Mag ℝ)
  | add (a b : MExpr)
  | sub (a b : MExpr)
  | mul (a b : MExpr)
  | div (a b : MExpr)
  | neg (a : MExpr)
  | pow (a : MExpr) (p : Rat)
  | conv (a : MExpr) (m1 m2 : ℝ)

/-- evaluation; `none` where Python raises or produces `nan` (division by 0, power of 0,
    non-positive conversion factor) -/
noncomputable def MExpr.eval : MExpr → Option (Mag ℝ)
  | .leaf m => some m
  | .add a b => do pure ((← a.eval).add (← b.eval))
  | .sub a b => do pure ((← a.eval).sub (← b.eval))
  | .mul a b => do pure ((← a.eval).mul (← b.eval))
  | .div a b => do
    let x ← a.eval
    let y ← b.eval
    if y.value = 0 then none else pure (x.div y)
  | .neg a => do pure (← a.eval).neg
  | .pow a p => do
    let x ← a.eval
    if x.value = 0 then none else pure (x.pow p)
  | .conv a m1 m2 => do
    let x ← a.eval
    if 0 < m1 ∧ 0 < m2 then pure (x.convertLinear m1 m2) else none

def MExpr.LeavesNonneg : MExpr → Prop
  | .leaf m => m.ErrNonneg
  | .add a b | .sub a b | .mul a b | .div a b => a.LeavesNonneg ∧ b.LeavesNonneg
  | .neg a | .pow a _ | .conv a _ _ => a.LeavesNonneg

end SciVerif.C08
