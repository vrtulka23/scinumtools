import SciVerif.Lemmas.C01Solve

/-!
# C01 helper lemmas (character level): rejection at a general position of the string.  The
  tokeniser loop works through the text of an admissible item list and raises on what follows
  (a call with the wrong number of arguments, a call whose argument the nested solver rejects);
  or it delivers the tokens of a framed expression and the step loop raises.
-/
namespace SciVerif.C01
open SciVerif.C01.Gen

variable {A : Type} (alg : AtomAlg A) (lit : List Char → A)

variable (sa : Bufs A → List Char → Bufs A × Except String (Tok A))

theorem call_facts (c : Call) :
    rowFact dflt c.name c.sym (some (stdPar c.narg)) = true ∧
    clashChars (dflt.rows.take (idxOf dflt c.name)) c.sym = [] := by
  cases c with
  | f1 f => exact ⟨fact_fn1 f, fact_fn1_noclash f⟩
  | f2 g => exact ⟨fact_fn2 g, fact_fn2_noclash g⟩

/-- the list holds operator symbols only (the frame around an expression in a prefix text) -/
def OprOnly (its : List LItem) : Prop := ∀ it ∈ its, it.isOpr = true

theorem itemOK_opr (it : LItem) (h : it.isOpr = true) : ItemOK alg lit sa it := by
  cases it <;> first | trivial | (simp [LItem.isOpr] at h)

theorem adj_post_opr (e : E) (hl : LitOK alg lit e) (k : OprK) :
    Adj (items e ++ [.opr k]) :=
  Adj.append_opr (adj_items alg lit e hl) (items_last e) k trivial

theorem itemOK_framed (hn : NegNeg alg) (e : E) (hwf : e.WF) (hl : LitOK alg lit e)
    (pre post : List LItem) (hpre : OprOnly pre) (hpost : OprOnly post) (n : Nat) (hd : cdepth e ≤ n) :
    ∀ it ∈ pre ++ items e ++ post, ItemOK alg lit (nestedSolve alg n) it :=
  List.forall_mem_append.mpr ⟨List.forall_mem_append.mpr
    ⟨fun it h => itemOK_opr alg lit _ it (hpre it h), items_of_depth alg lit hn e hwf hl _ hd⟩,
    fun it h => itemOK_opr alg lit _ it (hpost it h)⟩

theorem framed_len (e : E) (hl : LitOK alg lit e) (pre post : List LItem) (u : List Char)
    (hu : Pre ((pre ++ items e ++ post).flatMap itemLex) u) : cdepth e ≤ u.length := by
  rw [framed_lex] at hu
  obtain ⟨u12, u3, rfl, h12, _⟩ := Pre.append_inv hu
  obtain ⟨u1, u2, rfl, _, h2⟩ := Pre.append_inv h12
  have := cdepth_lt_text alg lit e hl h2
  simp only [List.length_append]
  omega

theorem tok_items_err (tail : List Char) (msg : String) (hsafe : SafeHead tail)
    (H : ∀ (m : Nat) (lw p : List Char) (b : Bufs A), Pending alg lit lw p → tail.length + 1 ≤ m →
      ∃ bb, tokLoop dflt alg sa m ⟨lw, tail⟩ b = .error (bb, msg))
    (its : List LItem) :
    Adj its → (∀ it ∈ its, ItemOK alg lit sa it) →
    ∀ (lw p u : List Char) (b : Bufs A) (n : Nat),
      Pending alg lit lw p → (p ≠ [] → ∀ it, its.head? = some it → it.isLit = false) →
      Pre (its.flatMap itemLex) u → u.length + tail.length + 1 ≤ n →
      ∃ bb, tokLoop dflt alg sa n ⟨lw, u ++ tail⟩ b = .error (bb, msg) :=
  fun hadj hok lw p u b n hpend hhead hu hn =>
    tok_items_cont alg lit sa tail hsafe (fun _ r => ∃ bb, r = .error (bb, msg)) H its hadj hok lw p u b n
      hpend hhead hu (by simpa [Nat.add_assoc] using hn)

theorem tokLoop_arity_pending (c : Call) (Ts : List (List Char)) (hne : Ts ≠ [])
    (hb : ∀ T ∈ Ts, nest T 0 = some 0) (hk : Ts.length ≠ c.narg) (j : Nat) (rest : List Char)
    (m : Nat) (lw p : List Char) (b : Bufs A) (hpend : Pending alg lit lw p)
    (hm : (blanks j ++ (c.sym ++ (joinArgs Ts ++ ')' :: rest))).length + 1 ≤ m) :
    ∃ bb, tokLoop dflt alg sa m ⟨lw, blanks j ++ (c.sym ++ (joinArgs Ts ++ ')' :: rest))⟩ b
      = .error (bb, "arity") := by
  obtain ⟨hf, hnc⟩ := call_facts c
  have hsne := (callSym_props c).1.1
  have hscan := scan_args c.narg Ts hne hb rest []
  refine at_blanks alg sa (P := fun r => ∃ bb, r = .error (bb, "arity")) j (fun q hq => ?_) m hm
  cases q with
  | zero => cases hq
  | succ q =>
    rw [(tokLoop_call alg sa hf hsne q _ _ b _ _ _ (Or.inr hnc)
      (pushAtom_pending alg lit (hpend.blanks alg lit j) b) (by simpa using hscan)).1 (by simpa using hk)]
    exact ⟨_, rfl⟩

theorem solveFromF_items_err (n : Nat) (its : List LItem) (hadj : Adj its)
    (hok : ∀ it ∈ its, ItemOK alg lit (nestedSolve alg n) it) (u : List Char)
    (hu : Pre (its.flatMap itemLex) u) (tail : List Char) (msg : String) (hsafe : SafeHead tail)
    (H : AtTail alg lit (nestedSolve alg n) tail fun _ r => ∃ bb, r = .error (bb, msg)) :
    (solveFromF dflt alg dfltSteps (n + 1) ⟨[], []⟩ (u ++ tail)).2 = .error msg := by
  obtain ⟨bb, hbb⟩ := tok_items_err alg lit (nestedSolve alg n) tail msg hsafe H its hadj hok [] [] u
    ⟨[], []⟩ ((u ++ tail).length + 1) (pending_nil alg lit) (fun h => absurd rfl h) hu (by simp)
  rw [solveFromF_tok_error alg n _ _ _ _ hbb]

/-- `hok` is asked for every fuel `n ≥ N`: the nested solver runs with the length of the whole
    string as fuel, and that depends on what follows `u`. -/
theorem solve_items_arity (its : List LItem) (hadj : Adj its) (u : List Char)
    (hu : Pre (its.flatMap itemLex) u) (N : Nat) (hN : N ≤ u.length)
    (hok : ∀ n, N ≤ n → ∀ it ∈ its, ItemOK alg lit (nestedSolve alg n) it)
    (c : Call) (Ts : List (List Char)) (hne : Ts ≠ [])
    (hb : ∀ T ∈ Ts, nest T 0 = some 0) (hk : Ts.length ≠ c.narg) (j : Nat) (rest : List Char) :
    solve dflt alg dfltSteps (u ++ (blanks j ++ (c.sym ++ (joinArgs Ts ++ ')' :: rest))))
      = .error "arity" :=
  solveFromF_items_err alg lit _ its hadj (hok _ (by simp only [List.length_append]; omega)) u hu _ "arity"
    (safeHead_blanks j _ ((callSym_props c).2.1.append (callSym_props c).1.1 _))
    (fun m lw p b hpend hm => tokLoop_arity_pending alg lit _ c Ts hne hb hk j rest m lw p b hpend hm)

theorem tokLoop_call_argerr {name : String} {sym : List Char} {narg : Nat}
    (h : rowFact dflt name sym (some (stdPar narg)) = true) (hne : sym ≠ []) (m : Nat)
    (lw r r' : List Char) (b b1 : Bufs A) (args : List (List Char)) (msg : String)
    (hs : SafeHead r) (hp : pushAtom alg (strip lw) b = .ok b1)
    (hscan : parScan (stdPar narg) (r.length + 1) 1 ⟨[], r⟩ [] = some (⟨[], r'⟩, args))
    (hlen : args.length = narg) (hargs : solveArgs sa ⟨[], []⟩ args = .error msg) :
    tokLoop dflt alg sa (m + 1) ⟨lw, sym ++ r⟩ b = .error (b1, msg) := by
  exact (tokLoop_call alg sa h hne m lw r b b1 _ args (Or.inl hs) hp hscan).2.1 hlen msg hargs

theorem solveArgs_one_err (x : List Char) (msg : String) (st0 : Bufs A)
    (h : ∀ st, (sa st x).2 = .error msg) : solveArgs sa st0 [x] = .error msg := by
  have h0 := h st0
  cases hh : sa st0 x with
  | mk st' r =>
    rw [hh] at h0
    simp only at h0
    subst h0
    simp [solveArgs, hh]

theorem tokLoop_argerr_pending (f : F1) (T rest : List Char) (hw : nest T 0 = some 0)
    (hs : SafeHead (T ++ ')' :: rest)) (msg : String)
    (h : ∀ st, (sa st (strip T)).2 = .error msg) (j : Nat)
    (m : Nat) (lw p : List Char) (b : Bufs A) (hpend : Pending alg lit lw p)
    (hm : (blanks j ++ (f.sym ++ (T ++ ')' :: rest))).length + 1 ≤ m) :
    ∃ bb, tokLoop dflt alg sa m ⟨lw, blanks j ++ (f.sym ++ (T ++ ')' :: rest))⟩ b
      = .error (bb, msg) := by
  have hsym := callSym_props (.f1 f)
  have hscan := scan_last 1 T rest [] [] hw
  refine at_blanks alg sa (P := fun r => ∃ bb, r = .error (bb, msg)) j (fun q hq => ?_) m hm
  cases q with
  | zero => cases hq
  | succ q =>
    rw [tokLoop_call_argerr alg sa (fact_fn1 f) hsym.1.1 q _ _ rest b _ _ msg hs
      (pushAtom_pending alg lit (hpend.blanks alg lit j) b) (by simpa using hscan) rfl
      (solveArgs_one_err sa _ _ _ (fun st => by simpa using h st))]
    exact ⟨_, rfl⟩

theorem solveFromF_arg_err (n : Nat) (its : List LItem) (hadj : Adj its)
    (hok : ∀ it ∈ its, ItemOK alg lit (nestedSolve alg n) it) (u : List Char)
    (hu : Pre (its.flatMap itemLex) u) (f : F1) (T : List Char) (hw : nest T 0 = some 0)
    (j : Nat) (rest : List Char) (hs : SafeHead (T ++ ')' :: rest)) (msg : String)
    (h : (solveFromF dflt alg dfltSteps n ⟨[], []⟩ (strip T)).2 = .error msg) :
    (solveFromF dflt alg dfltSteps (n + 1) ⟨[], []⟩
      (u ++ (blanks j ++ (f.sym ++ (T ++ ')' :: rest))))).2 = .error msg :=
  solveFromF_items_err alg lit n its hadj hok u hu _ msg
    (safeHead_blanks j _ ((callSym_props (.f1 f)).2.1.append (callSym_props (.f1 f)).1.1 _))
    (fun m lw p b hpend hm =>
      tokLoop_argerr_pending alg lit _ f T rest hw hs msg
        (fun st => by simpa [nestedSolve_apply] using h) j m lw p b hpend hm)

theorem solveFromF_framed_err (hn : NegNeg alg) (e : E) (hwf : e.WF) (hl : LitOK alg lit e)
    (pre post : List LItem) (hpre : OprOnly pre) (hpost : OprOnly post)
    (hadj : Adj (pre ++ items e ++ post)) (u : List Char) (k : Nat)
    (hu : Pre ((pre ++ items e ++ post).flatMap itemLex) u) (m : String)
    (hs : solveToks dflt alg dfltSteps
      (pre.map (tokOf alg lit) ++ toks dflt alg lit e ++ post.map (tokOf alg lit)) = .error m)
    (n : Nat) (hd : cdepth e ≤ n) :
    (solveFromF dflt alg dfltSteps (n + 1) ⟨[], []⟩ (u ++ blanks k)).2 = .error m := by
  have hok := itemOK_framed alg lit hn e hwf hl pre post hpre hpost n hd
  have ht := tok_items alg lit (nestedSolve alg n) _ hadj hok
    [] [] u ⟨[], []⟩ k ((u ++ blanks k).length + 1) (pending_nil alg lit) (fun h => absurd rfl h) hu
    (by simp [blanks_length])
  have ht' : tokLoop dflt alg (nestedSolve alg n) ((u ++ blanks k).length + 1)
      ⟨[], u ++ blanks k⟩ ⟨[], []⟩
      = .ok ⟨[], pre.map (tokOf alg lit) ++ toks dflt alg lit e ++ post.map (tokOf alg lit)⟩ := by
    rw [ht, toks_items]; simp [pendTok]
  rw [solveFromF_of_tokens alg _ _ _ ht']
  exact hs

theorem solve_framed_err (hn : NegNeg alg) (e : E) (hwf : e.WF) (hl : LitOK alg lit e)
    (pre post : List LItem) (hpre : OprOnly pre) (hpost : OprOnly post)
    (hadj : Adj (pre ++ items e ++ post)) (u : List Char) (k : Nat)
    (hu : Pre ((pre ++ items e ++ post).flatMap itemLex) u) (m : String)
    (hs : solveToks dflt alg dfltSteps
      (pre.map (tokOf alg lit) ++ toks dflt alg lit e ++ post.map (tokOf alg lit)) = .error m) :
    solve dflt alg dfltSteps (u ++ blanks k) = .error m :=
  solveFromF_framed_err alg lit hn e hwf hl pre post hpre hpost hadj u k hu m hs _
    (by have := framed_len alg lit e hl pre post u hu; simp only [List.length_append]; omega)

end SciVerif.C01
