import SciVerif.Lemmas.C18Machine
import SciVerif.Model.C18Num
import SciVerif.Model.C18Log
import SciVerif.Generated.C18Tables

/-!
The generated step tables of the two DIP solver instances realise the numerical and the logical
grammar: restricted to the keys of the instance, each table is the pass sequence of the grammar's
levels (C18).  At the end, the comparison operators of the logical instance on the same operands.
-/
namespace SciVerif.C18

variable {F A : Type}

def numKeys : List String := Generated.numTable.map (·.key)
def logKeys : List String := Generated.logTable.map (·.key)

/-- The step loop of the numerical instance: ARGS, sign folding, `**`, `* /`, `+ -`; the steps of
    the logical operators hold no key of this instance. -/
theorem num_steps : Generated.numSteps.map (Step.restrict numKeys) =
    [⟨["log", "log10", "logb", "exp", "sqrt", "powb", "sin", "cos", "tan", "par"], 0⟩,
     ⟨["add", "sub"], 1⟩, ⟨["pow"], 2⟩, ⟨["mul", "truediv"], 2⟩, ⟨["add", "sub"], 2⟩,
     ⟨[], 2⟩, ⟨[], 1⟩, ⟨[], 2⟩, ⟨[], 2⟩] := by
  decide +kernel

theorem num_listed : numGrammar.Listed ["pow", "mul", "truediv", "add", "sub"] ["add", "sub"]
    ["exp", "log", "log10", "sqrt", "sin", "cos", "tan"] ["logb", "powb"] := by
  constructor <;> intro o h <;>
    simpa only [numGrammar, Bool.or_eq_true, decide_eq_true_eq, or_assoc, List.mem_cons,
      List.not_mem_nil, or_false] using h

theorem numBin_of_ok (N : NumOps F) (o : String) (h : numGrammar.okBin o = true) :
    numBin N o = some (numBinSem N o) := by
  simp only [numGrammar, Bool.or_eq_true, decide_eq_true_eq] at h
  rcases h with (((rfl | rfl) | rfl) | rfl) | rfl <;> rfl

/-- The numerical instance: `kmax = 4` is the highest level of `numGrammar` (sign 1, `**` 2, `* /` 3,
    `+ -` 4); the step of level `k + 1` is given to `.level` with `k`.  Each decided premise is the
    agreement, over the listed keys, between the keys of that step and that level of the grammar. -/
theorem num_machine (N : NumOps F) (av : A → QV F) :
    Solves (numSem N) (numBinSem N) (numPreSem N) av numGrammar numKeys Generated.numSteps := by
  refine machine_of_runsTo num_listed numKeys Generated.numSteps 4 ?_ (by decide +kernel)
  have hbin : ∀ o ∈ ["pow", "mul", "truediv", "add", "sub"], 2 ≤ numGrammar.lvl o := by decide
  rw [num_steps]
  exact .args num_listed _ (by decide +kernel) <|
    .level (signPass_levelPass _ (numPreSem N) numGrammar _ ["add", "sub"]
      (fun u hu => ⟨num_listed.pre u hu, rfl, funext fun q => by simp [numPreSem]⟩)
      (fun o ho => hbin o (num_listed.bin o ho))) (fun _ => rfl) <|
    .level (binPass_levelPass num_listed 1 ["pow"] (numBin_of_ok N) (by decide +kernel))
      (fun _ => rfl) <|
    .level (binPass_levelPass num_listed 2 ["mul", "truediv"] (numBin_of_ok N) (by decide +kernel))
      (fun _ => rfl) <|
    .level (binPass_levelPass num_listed 3 ["add", "sub"] (numBin_of_ok N) (by decide +kernel))
      (fun _ => rfl) <|
    .skip 2 <| .skip 1 <| .skip 2 <| .skip 2 <| .nil _

/-- The step loop of the logical instance: ARGS (plain parentheses only), comparisons, `~`, `&&`,
    `||`; the steps of the arithmetic operators hold no key of this instance. -/
theorem log_steps : Generated.logSteps.map (Step.restrict logKeys) =
    [⟨["par"], 0⟩, ⟨[], 1⟩, ⟨[], 2⟩, ⟨[], 2⟩, ⟨[], 2⟩, ⟨["eq", "ne", "le", "ge", "lt", "gt"], 2⟩,
     ⟨["not"], 1⟩, ⟨["and"], 2⟩, ⟨["or"], 2⟩] := by
  decide +kernel

theorem log_listed :
    logGrammar.Listed ["eq", "ne", "le", "ge", "lt", "gt", "and", "or"] ["not"] [] [] := by
  refine ⟨fun o h => ?_, fun u h => ?_, fun _ h => (Bool.false_ne_true h).elim,
    fun _ h => (Bool.false_ne_true h).elim⟩ <;>
    simpa only [logGrammar, isCmp, Bool.or_eq_true, decide_eq_true_eq, or_assoc, List.mem_cons,
      List.not_mem_nil, or_false] using h

theorem logBin_of_ok (C : CmpOps F) (o : String) (h : logGrammar.okBin o = true) :
    logBin C o = some (logBinSem C o) := by
  unfold logBinSem
  -- branches of `logBin`: a comparison key, "and", "or", none of them
  fun_cases logBin C o
  · rfl
  · rfl
  · rfl
  · rename_i h1 h2 h3
    simp only [logGrammar, Bool.or_eq_true, decide_eq_true_eq] at h
    exact h.elim (fun h => h.elim (absurd · h1) (absurd · h2)) (absurd · h3)

/-- The logical instance: `kmax = 4` is the level of `||` in `logGrammar` (comparisons 1, `~` 2,
    `&&` 3, `||` 4). -/
theorem log_machine (C : CmpOps F) (av : A → LV F) :
    Solves (logSem C) (logBinSem C) logPreSem av logGrammar logKeys Generated.logSteps := by
  refine machine_of_runsTo log_listed logKeys Generated.logSteps 4 ?_ (by decide +kernel)
  rw [log_steps]
  exact .args log_listed _ (by decide +kernel) <| .skip 1 <| .skip 2 <| .skip 2 <| .skip 2 <|
    .level (binPass_levelPass log_listed 0 ["eq", "ne", "le", "ge", "lt", "gt"] (logBin_of_ok C)
      (by decide +kernel)) (fun _ => rfl) <|
    .level (prePass_levelPass log_listed 1 ["not"]
      (fun u hu => by cases List.mem_singleton.mp hu; rfl) (by decide +kernel)) (fun _ => rfl) <|
    .level (binPass_levelPass log_listed 2 ["and"] (logBin_of_ok C) (by decide +kernel))
      (fun _ => rfl) <|
    .level (binPass_levelPass log_listed 3 ["or"] (logBin_of_ok C) (by decide +kernel))
      (fun _ => rfl) <| .nil _

theorem cmpOp_consistent (C : CmpOps F) (l r : LV F) :
    cmpOp C "ne" l r = lNot (cmpOp C "eq" l r) ∧
    cmpOp C "le" l r = lOr (cmpOp C "lt" l r) (cmpOp C "eq" l r) ∧
    cmpOp C "ge" l r = lOr (cmpOp C "gt" l r) (cmpOp C "eq" l r) := by
  -- in every arm of `cmpOp` the operands (and, for numbers, the `prepare`d pair) are the same for all
  -- keys: only the final `if` chain on the key differs, and there the identities hold by `lNot`/`lOr`
  unfold cmpOp
  split <;> try (simp [lNot, lOr, bne]; done)
  all_goals (split <;> simp [lNot, lOr])

end SciVerif.C18
