import SciVerif.Lemmas.C04UnitTypes
import SciVerif.Lemmas.Util.StrKey
import Mathlib.Tactic.Ring
import Mathlib.Analysis.SpecialFunctions.Log.Base
import Mathlib.Analysis.SpecialFunctions.Pow.Real

/-! C05 between the regenerated tables and the properties: the Boolean checks that the sweeps of `Props/C05` evaluate
    over whole tables, each with what a true check gives; the model's transcendental operations at ℝ and the law that
    an admitted pair of method bodies invert each other; and the lift from one table entry to `pick` on single units. -/

namespace SciVerif.C05
open SciVerif.C04

noncomputable instance : LogOps ℝ where
  ofRat q := (q : ℝ)
  log10 x := Real.logb 10 x
  ln := Real.log
  exp := Real.exp
  pow10 x := (10 : ℝ) ^ x

theorem ofRat_real (q : Rat) : (LogOps.ofRat q : ℝ) = (q : ℝ) := rfl
theorem log10_real (x : ℝ) : (LogOps.log10 x : ℝ) = Real.logb 10 x := rfl
theorem ln_real (x : ℝ) : (LogOps.ln x : ℝ) = Real.log x := rfl
theorem exp_real (x : ℝ) : (LogOps.exp x : ℝ) = Real.exp x := rfl
theorem pow10_real (x : ℝ) : (LogOps.pow10 x : ℝ) = (10 : ℝ) ^ x := rfl

def temps : List String := ["K", "Cel", "degF", "degR"]

/-- the method computes the standard affine map between the scales of its two units, and is named after them -/
def tempEntryOk (e : TempEntry) : Bool :=
  match innerScale e.u, innerScale e.v with
  | some su, some sv => e.a == stdA su sv && e.b == stdB su sv && e.name == e.u ++ "_" ++ e.v
  | _, _ => false

/-- if the temperature class handles the ordered pair (u, v), both methods exist and are
    mutually inverse affine maps -/
def tempPairInv (T : Tables) (u v : String) : Bool :=
  if T.tempProcess.contains u || T.tempProcess.contains v then
    match findTemp T.tempMethods (u ++ "_" ++ v), findTemp T.tempMethods (v ++ "_" ++ u) with
    | some e, some e' => e.a * e'.a == 1 && e'.a * e.b + e'.b == 0
    | _, _ => false
  else true

theorem tempPairInv_spec {T : Tables} {u v : String} (h : tempPairInv T u v = true)
    (ht : (T.tempProcess.contains u || T.tempProcess.contains v) = true) :
    ∃ e e', findTemp T.tempMethods (u ++ "_" ++ v) = some e ∧
      findTemp T.tempMethods (v ++ "_" ++ u) = some e' ∧ e.a * e'.a = 1 ∧ e'.a * e.b + e'.b = 0 := by
  unfold tempPairInv at h
  rw [if_pos ht] at h
  split at h
  · next e e' he he' =>
    simp only [Bool.and_eq_true, beq_iff_eq] at h
    exact ⟨e, e', he, he', h.1, h.2⟩
  · exact absurd h Bool.false_ne_true

/-- the second method body undoes the first (as real functions, on the first one's domain, `InDomain` below) -/
def inverseFn : LogFn → LogFn → Bool
  | .shift e, .shift e' => e + e' == 0
  | .scale c, .unscale c' => c == c' && c != 0
  | .unscale c, .scale c' => c == c' && c != 0
  | .ratioB k c, .bRatio k' c' => k == k' && k != 0 && c * c' == 1
  | .bRatio k c, .ratioB k' c' => k == k' && k != 0 && c * c' == 1
  | .ratioNp k c, .npRatio k' c' => k == k' && k != 0 && c * c' == 1
  | .npRatio k c, .ratioNp k' c' => k == k' && k != 0 && c * c' == 1
  | _, _ => false

/-- lookup as `LogarithmicUnitType._istype` does it: table first, then the method name -/
def lookupLog (T : Tables) (key : String) : Option LogEntry :=
  match findLog T.logConversions key with
  | some e => some e
  | none => findLog T.logMethods key

/-- the look-up with keys compared as numbers (`Util/StrKey.lean`): the form the table sweeps evaluate -/
theorem findLog_eq (ms : List LogEntry) (key : String) :
    findLog ms key = ms.find? (fun e => Util.keyCode e.key == Util.keyCode key) := by
  simp only [findLog, Util.beq_eq_keyCode]

theorem lookupLog_of_findLog {T : Tables} {key : String} {e : LogEntry}
    (h : findLog T.logConversions key = some e) : lookupLog T key = some e := by
  simp only [lookupLog, h]

/-- the key is made of the entry's two units, and the entry looked up under the reversed key undoes it -/
def logEntryInv (T : Tables) (e : LogEntry) : Bool :=
  e.key == e.u ++ "_" ++ e.v &&
  match lookupLog T (e.v ++ "_" ++ e.u) with
  | some e' => inverseFn e.fn e'.fn
  | none => false

def mapGet (m : List (String × Rat)) (k : String) : Option Rat := (m.find? (·.1 == k)).map (·.2)

/-- documented levels incl. the plain bel against power / amplitude ratios -/
def docAll : List (String × String × Rat × Rat) := docLevels ++ [("B", "PR", 1, 1), ("B", "AR", 2, 1)]
def docNepers : List (String × String × Rat) := [("Np", "PR", mkRat 1 2), ("Np", "AR", 1)]

/-- the two table entries of a documented level are `k·log10(x/ref)` and its inverse, the reference in the
    table's base magnitude of the linear unit; the level unit itself has table magnitude 1 -/
def docLevelOk (T : Tables) (mags : List (String × Rat)) (d : String × String × Rat × Rat) : Bool :=
  match d with
  | (L, lin, k, ref) =>
    match mapGet mags lin, findLog T.logConversions (lin ++ "_" ++ L), findLog T.logConversions (L ++ "_" ++ lin) with
    | some m, some e, some e' =>
      e.fn == .ratioB k (1 / (ref * m)) && e'.fn == .bRatio k (ref * m) && mapGet mags L == some 1
    | _, _, _ => false

/-- what `C05_log_value_matches_doc` and `C05_level_to_linear_matches_doc` read off a true check (not the clause on
    the level unit's own magnitude) -/
theorem docLevelOk_spec {T : Tables} {mags : List (String × Rat)} {L lin : String} {k ref : Rat}
    (h : docLevelOk T mags (L, lin, k, ref) = true) :
    ∃ m e e', mapGet mags lin = some m ∧ findLog T.logConversions (lin ++ "_" ++ L) = some e ∧
      findLog T.logConversions (L ++ "_" ++ lin) = some e' ∧
      e.fn = .ratioB k (1 / (ref * m)) ∧ e'.fn = .bRatio k (ref * m) := by
  simp only [docLevelOk] at h
  split at h
  · next m e e' hm he he' =>
    simp only [Bool.and_eq_true, beq_iff_eq] at h
    exact ⟨m, e, e', hm, he, he', h.1.1, h.1.2⟩
  · exact absurd h Bool.false_ne_true

/-- the two table entries of a neper unit against a ratio are `k·ln(x)` and `e^(y/k)` -/
def docNeperOk (T : Tables) (d : String × String × Rat) : Bool :=
  match d with
  | (L, lin, k) =>
    match findLog T.logConversions (lin ++ "_" ++ L), findLog T.logConversions (L ++ "_" ++ lin) with
    | some e, some e' => e.fn == .ratioNp k 1 && e'.fn == .npRatio k 1
    | _, _ => false

def pow10Rat (e : Int) : Rat := if 0 ≤ e then (10 : Rat) ^ e.toNat else 1 / (10 : Rat) ^ (-e).toNat

def docOf (L : String) : Option (String × Rat × Rat) :=
  (docLevels.find? (·.1 == L)).map (fun d => (d.2.1, d.2.2.1, d.2.2.2))

/-- a `shift` entry between two documented dB-type units of one counterpart and one `k` adds `k·log10(ref_u/ref_v)`
    bels: the shift `s` is a whole number with `10^s = ref_u/ref_v` for power-like units (`k = 1`) and
    `(ref_u/ref_v)²` for amplitude-like ones (`k = 2`); any other `shift` entry is a unit to itself with shift 0 -/
def shiftOk (e : LogEntry) : Bool :=
  match e.fn with
  | .shift s =>
    match docOf e.u, docOf e.v with
    | some (lu, ku, ru), some (lv, kv, rv) =>
      lu == lv && ku == kv && s.den == 1 && pow10Rat s.num == (if ku == 2 then (ru / rv) * (ru / rv) else ru / rv)
    | _, _ => e.u == e.v && s == 0
  | _ => true

/-- `g' (g x) = x` for the two conversions `x ↦ f (x·m1) / m2` and back (the wrapper of `pick_accept`) around affine maps
    `f`, `f'` whose coefficients satisfy what `tempPairInv` checks -/
theorem affine_roundtrip {a b a' b' : ℚ} {m1 m2 : ℝ} (x : ℝ) (h : a * a' = 1) (h' : a' * b + b' = 0)
    (h1 : m1 ≠ 0) (h2 : m2 ≠ 0) :
    ((a' : ℝ) * (((a : ℝ) * (x * m1) + (b : ℝ)) / m2 * m2) + (b' : ℝ)) / m1 = x := by
  have hr : (a : ℝ) * (a' : ℝ) = 1 := by rw [← Rat.cast_mul, h, Rat.cast_one]
  have hr' : (a' : ℝ) * (b : ℝ) + (b' : ℝ) = 0 := by
    rw [← Rat.cast_mul, ← Rat.cast_add, h', Rat.cast_zero]
  rw [div_mul_cancel₀ _ h2, mul_add, ← mul_assoc, mul_comm (a' : ℝ), hr, one_mul, add_assoc, hr', add_zero,
    mul_div_cancel_right₀ _ h1]

theorem ten_pos : (0 : ℝ) < 10 := by norm_num
theorem ten_ne_one : (10 : ℝ) ≠ 1 := by norm_num

/-- where a method body can be undone: the argument of its logarithm is positive -/
def InDomain (f : LogFn) (x : ℝ) : Prop :=
  match f with
  | .ratioB _ c => 0 < x * (c : ℝ)
  | .ratioNp _ c => 0 < x * (c : ℝ)
  | _ => True

theorem scale_conds {c c' : ℚ} (h : (c == c' && c != 0) = true) : c = c' ∧ (c' : ℝ) ≠ 0 := by
  rw [Bool.and_eq_true, beq_iff_eq, bne_iff_ne] at h
  exact ⟨h.1, Rat.cast_ne_zero.mpr (h.1 ▸ h.2)⟩

theorem ratio_conds {k k' c c' : ℚ} (h : (k == k' && k != 0 && c * c' == 1) = true) :
    k = k' ∧ (k' : ℝ) ≠ 0 ∧ (c : ℝ) * (c' : ℝ) = 1 := by
  rw [Bool.and_eq_true, Bool.and_eq_true, beq_iff_eq, bne_iff_ne, beq_iff_eq] at h
  exact ⟨h.1.1, Rat.cast_ne_zero.mpr (h.1.1 ▸ h.1.2), by rw [← Rat.cast_mul, h.2, Rat.cast_one]⟩

theorem inverseFn_apply {f g : LogFn} (h : inverseFn f g = true) {x : ℝ} (hx : InDomain f x) :
    g.apply (f.apply x) = x := by
  revert h hx
  -- the seven pairs `inverseFn` admits, then the default `false`
  fun_cases inverseFn f g <;> intro h hx
  any_goals simp only [LogFn.apply, ofRat_real, log10_real, ln_real, exp_real, pow10_real]
  · next e e' =>
    rw [add_assoc, ← Rat.cast_add, beq_iff_eq.mp h, Rat.cast_zero, add_zero]
  · next c c' =>
    obtain ⟨rfl, hc⟩ := scale_conds h
    exact mul_div_cancel_left₀ x hc
  · next c c' =>
    obtain ⟨rfl, hc⟩ := scale_conds h
    exact mul_div_cancel₀ x hc
  · next k c k' c' =>
    obtain ⟨rfl, hk, hc⟩ := ratio_conds h
    rw [mul_div_cancel_left₀ _ hk, Real.rpow_logb ten_pos ten_ne_one hx, mul_assoc, hc, mul_one]
  · next k c k' c' =>
    obtain ⟨rfl, hk, hc⟩ := ratio_conds h
    rw [mul_assoc, hc, mul_one, Real.logb_rpow ten_pos ten_ne_one, mul_div_cancel₀ _ hk]
  · next k c k' c' =>
    obtain ⟨rfl, hk, hc⟩ := ratio_conds h
    rw [mul_div_cancel_left₀ _ hk, Real.exp_log hx, mul_assoc, hc, mul_one]
  · next k c k' c' =>
    obtain ⟨rfl, hk, hc⟩ := ratio_conds h
    rw [mul_assoc, hc, mul_one, Real.log_exp, mul_div_cancel₀ _ hk]
  · exact absurd h Bool.false_ne_true

/-- `lin / m` is the `linSI` of `specToLevel`: the linear unit's factor over the table magnitude
    `m` that `docLevelOk` finds in the constant `1/(ref·m)`. -/
theorem ratioB_apply_eq_specToLevel (k ref m : ℚ) (p lin x : ℝ) :
    (LogFn.ratioB k (1 / (ref * m))).apply (x * lin) / p = specToLevel k ref p (lin / m) x := by
  simp only [LogFn.apply, specToLevel, ofRat_real]
  congr 3
  push_cast
  ring

theorem bRatio_apply_eq_specFromLevel (k ref m : ℚ) (p lin y : ℝ) :
    (LogFn.bRatio k (ref * m)).apply (y * p) / lin = specFromLevel k ref p (lin / m) y := by
  simp only [LogFn.apply, specFromLevel, ofRat_real]
  rw [div_div_eq_mul_div]
  push_cast
  ring

theorem touches_single {α : Type} {P : List String} {b1 b2 : BU α} {u v : String}
    (hu : b1.units = [u]) (hv : b2.units = [v]) :
    touches P b1 b2 = (P.contains u || P.contains v) := by
  simp [touches, hu, hv]

section
variable {K : Type} [Add K] [Mul K] [Div K] [One K] [LogOps K] {b1 b2 : BU K} {u v : String}

theorem pick_temperature {e : TempEntry} (hu : b1.units = [u]) (hv : b2.units = [v])
    (ht : (Gen.tables.tempProcess.contains u || Gen.tables.tempProcess.contains v) = true)
    (he : findTemp Gen.tables.tempMethods (u ++ "_" ++ v) = some e) :
    pick (unitTypes Gen.tables) b1 b2
      = .ok (fun x => (LogOps.ofRat e.a * (x * b1.magnitude) + LogOps.ofRat e.b) / b2.magnitude) := by
  have hacc : (temperature Gen.tables : Rule K) b1 b2
      = .accept (fun x => LogOps.ofRat e.a * x + LogOps.ofRat e.b) := by
    simp only [temperature, (touches_single hu hv).trans ht, if_true, hu, hv, he]
  rw [unitTypes_gen]
  exact pick_accept (pre := []) (List.forall_mem_nil _) hacc

theorem pick_logarithmic {e : LogEntry} (hu : b1.units = [u]) (hv : b2.units = [v])
    (htt : (Gen.tables.tempProcess.contains u || Gen.tables.tempProcess.contains v) = false)
    (ht : (Gen.tables.logProcess.contains u || Gen.tables.logProcess.contains v) = true)
    (he : lookupLog Gen.tables (u ++ "_" ++ v) = some e) :
    pick (unitTypes Gen.tables) b1 b2
      = .ok (fun x => e.fn.apply (x * b1.magnitude) / b2.magnitude) := by
  have hacc : (logarithmic Gen.tables : Rule K) b1 b2 = .accept e.fn.apply := by
    unfold lookupLog at he
    simp only [logarithmic, (touches_single hu hv).trans ht, if_true, hu, hv, List.length_singleton,
      beq_self_eq_true, Bool.true_or, Bool.and_self, List.head?_cons]
    split at he
    · next e1 h1 => rw [h1, ← Option.some.inj he]
    · next h1 => rw [h1, he]
  rw [unitTypes_gen]
  exact pick_accept (pre := [temperature Gen.tables])
    (List.forall_mem_singleton.mpr (temperature_declines ((touches_single hu hv).trans htt))) hacc

end

/-- arithmetic core of `LogarithmicUnitType.add/sub` = the documented power sum -/
theorem level_arith (sub? : Bool) (m x y : ℝ) :
    LogOps.log10 ((if sub? then (LogOps.pow10 (x * m) - LogOps.pow10 (y * m) : ℝ)
        else LogOps.pow10 (x * m) + LogOps.pow10 (y * m))) / m = specLevelOp sub? m x y := by
  have ten : (LogOps.ofRat 10 : ℝ) ≠ 0 := by rw [ofRat_real, Rat.cast_ofNat]; exact ten_pos.ne'
  simp only [specLevelOp]
  rw [mul_div_cancel_right₀ _ ten, mul_div_cancel_right₀ _ ten, mul_div_mul_left _ _ ten]

section
variable {α : Type} [Add α] [Sub α] [Mul α] [Div α] [One α] [LogOps α]

theorem lvStep_fst (T : Tables) (st : List (α × BU α)) (op : LvOp) : (lvStep T st op).1 = st := by
  fun_cases lvStep T st op <;> rfl

theorem lvRun_eq (T : Tables) (st : List (α × BU α)) (ops : List LvOp) :
    lvRun T st ops = (st, ops.map fun op => (lvStep T st op).2) := by
  induction ops with
  | nil => rfl
  | cons op ops ih => simp only [lvRun, lvStep_fst, ih, List.map_cons]

end

theorem envClose_reverse_append (types : List String) (rec : List String) (h : rec.Nodup) :
    envClose (rec.reverse ++ types) rec = types := by
  induction rec with
  | nil => rfl
  | cons d rest ih =>
    obtain ⟨hd, hr⟩ := List.nodup_cons.mp h
    rw [envClose, List.foldl_cons, List.reverse_cons, List.append_assoc, List.singleton_append,
      List.erase_append_right _ (mt List.mem_reverse.mp hd), List.erase_cons_head]
    exact ih hr

/-- invariant of `envOpenAux`: the classes recorded so far are distinct and stand, last
    inserted first, in front of the original list -/
theorem envOpenAux_spec (types0 : List String) (defs : List String) (types rec : List String)
    (h1 : types = rec.reverse ++ types0) (h2 : rec.Nodup) :
    ∃ rec', envOpenAux types rec defs = (rec'.reverse ++ types0, rec') ∧ rec'.Nodup := by
  -- no more class names; a class already in the list; a new one
  fun_induction envOpenAux types rec defs
  case case1 types rec => exact ⟨rec, by rw [h1], h2⟩
  case case2 ih => exact ih h1 h2
  case case3 types rec d ds hc ih =>
    refine ih (by rw [h1, List.reverse_append]; rfl) ?_
    have hd : d ∉ rec := fun hm =>
      hc (List.contains_iff_mem.mpr (h1 ▸ List.mem_append_left _ (List.mem_reverse.mpr hm)))
    exact List.nodup_append.mpr ⟨h2, List.pairwise_singleton _ d, fun a ha b hb hab =>
      hd (List.mem_singleton.mp hb ▸ hab ▸ ha)⟩

end SciVerif.C05
