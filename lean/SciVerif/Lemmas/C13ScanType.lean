import SciVerif.Lemmas.C13Lexer
/-!
Scanner lemmas: string literals spelled out (`toList_lit`, the keyword texts), and the type keyword with
width / sign suffix as written (`TyD`) under `partTypeCore` and `part_type`.
-/
namespace SciVerif.C13
open SciVerif.Util

inductive IntW where | w16 | w32 | w64
deriving Repr, DecidableEq
inductive FloatW where | w32 | w64 | w128
deriving Repr, DecidableEq

/-- the type as written: keyword with optional width / sign -/
inductive TyD where
  | bool
  | str
  | int (uns : Bool) (w : Option IntW)
  | float (w : Option FloatW)
deriving Repr, DecidableEq

def IntW.text : IntW → Str
  | .w16 => ['1', '6'] | .w32 => ['3', '2'] | .w64 => ['6', '4']
def IntW.bits : IntW → Nat
  | .w16 => 16 | .w32 => 32 | .w64 => 64
def FloatW.text : FloatW → Str
  | .w32 => ['3', '2'] | .w64 => ['6', '4'] | .w128 => ['1', '2', '8']
def FloatW.bits : FloatW → Nat
  | .w32 => 32 | .w64 => 64 | .w128 => 128

def TyD.render : TyD → Str
  | .bool => ['b', 'o', 'o', 'l']
  | .str => ['s', 't', 'r']
  | .int uns w => (if uns then ['u'] else []) ++ ['i', 'n', 't'] ++ (match w with | some x => x.text | none => [])
  | .float w => ['f', 'l', 'o', 'a', 't'] ++ (match w with | some x => x.text | none => [])

def TyD.ty : TyD → Ty
  | .bool => .bool | .str => .str | .int .. => .int | .float .. => .float

/-- width and sign stored in the type object (defaults: int 32 signed, float 64) -/
def TyD.info : TyD → TyInfo
  | .bool => {}
  | .str => {}
  | .int uns w => { precision := some (match w with | some x => x.bits | none => 32), unsigned := some uns }
  | .float w => { precision := some (match w with | some x => x.bits | none => 64) }

def AfterKw (after : Str) : Prop := HeadIn ['[', ' ', '=', '#'] after

/-- A string literal is `String.ofList` of its characters, by `rfl` without evaluating `String.toList`:
    `rw [toList_lit rfl]` spells a literal out. -/
theorem toList_lit {s : String} {l : List Char} (h : s = String.ofList l) : s.toList = l :=
  h ▸ String.toList_ofList

theorem kw_bool : "bool".toList = ['b', 'o', 'o', 'l'] := toList_lit rfl
theorem kw_str : "str".toList = ['s', 't', 'r'] := toList_lit rfl
theorem kw_table : "table".toList = ['t', 'a', 'b', 'l', 'e'] := toList_lit rfl
theorem kw_uint : "uint".toList = ['u', 'i', 'n', 't'] := toList_lit rfl
theorem kw_int : "int".toList = ['i', 'n', 't'] := toList_lit rfl
theorem kw_float : "float".toList = ['f', 'l', 'o', 'a', 't'] := toList_lit rfl
theorem kw_16 : "16".toList = ['1', '6'] := toList_lit rfl
theorem kw_32 : "32".toList = ['3', '2'] := toList_lit rfl
theorem kw_64 : "64".toList = ['6', '4'] := toList_lit rfl
theorem kw_128 : "128".toList = ['1', '2', '8'] := toList_lit rfl
theorem kw_none : "none".toList = ['n', 'o', 'n', 'e'] := toList_lit rfl
theorem kw_true : "true".toList = ['t', 'r', 'u', 'e'] := toList_lit rfl
theorem kw_false : "false".toList = ['f', 'a', 'l', 's', 'e'] := toList_lit rfl
theorem kw_null : "null".toList = ['n', 'u', 'l', 'l'] := toList_lit rfl

theorem firstSuffix_hit (o : Str) (opts : List Str) (s : Str) : firstSuffix (o :: opts) (o ++ s) = (o, s) := by
  simp [firstSuffix]

theorem firstSuffix_skip {q : Str} {s : Str} (h : q.isPrefixOf s = false) (opts : List Str) :
    firstSuffix (q :: opts) s = firstSuffix opts s := by
  simp [firstSuffix, h]

theorem firstSuffix_miss (opts : List Str) (s : Str) (h : ∀ q ∈ opts, q.isPrefixOf s = false) :
    firstSuffix opts s = ([], s) := by
  have h1 : opts.find? (fun q => q.isPrefixOf s) = none := List.find?_eq_none.mpr (fun q hq => by simp [h q hq])
  simp [firstSuffix, h1]

/-! The six keywords start with six different letters, so at most one pattern is tried beyond its first character. -/

theorem partTypeCore_bool (s : Str) : partTypeCore ('b' :: 'o' :: 'o' :: 'l' :: s) = .ok (.typed .bool, {}, s) := by
  simp [partTypeCore, stripPrefix?, kw_bool, List.isPrefixOf]

theorem partTypeCore_str (s : Str) : partTypeCore ('s' :: 't' :: 'r' :: s) = .ok (.typed .str, {}, s) := by
  simp [partTypeCore, stripPrefix?, kw_bool, kw_str, List.isPrefixOf]

theorem partTypeCore_int (uns : Bool) (s : Str) :
    partTypeCore ((if uns then ['u'] else []) ++ 'i' :: 'n' :: 't' :: s) =
      .ok (.typed .int,
        { precision := some (if (firstSuffix [['1', '6'], ['3', '2'], ['6', '4']] s).1.isEmpty then 32
            else digitsToNat (firstSuffix [['1', '6'], ['3', '2'], ['6', '4']] s).1),
          unsigned := some uns },
        (firstSuffix [['1', '6'], ['3', '2'], ['6', '4']] s).2) := by
  cases uns <;>
    simp [partTypeCore, stripPrefix?, kw_bool, kw_str, kw_table, kw_uint, kw_int, kw_16, kw_32, kw_64, List.isPrefixOf]

theorem partTypeCore_float (s : Str) :
    partTypeCore ('f' :: 'l' :: 'o' :: 'a' :: 't' :: s) =
      .ok (.typed .float,
        { precision := some (if (firstSuffix [['3', '2'], ['6', '4'], ['1', '2', '8']] s).1.isEmpty then 64
            else digitsToNat (firstSuffix [['3', '2'], ['6', '4'], ['1', '2', '8']] s).1) },
        (firstSuffix [['3', '2'], ['6', '4'], ['1', '2', '8']] s).2) := by
  simp [partTypeCore, stripPrefix?, kw_bool, kw_str, kw_table, kw_uint, kw_int, kw_float, kw_32, kw_64, kw_128,
    List.isPrefixOf]

theorem firstSuffix_afterKw (opts : List Str) (hd : ∀ o ∈ opts, o.head?.any Char.isDigit = true) (after : Str)
    (h : AfterKw after) : firstSuffix opts after = ([], after) := by
  apply firstSuffix_miss
  intro o ho
  cases o with
  | nil => exact absurd (hd [] ho) (by decide)
  | cons d r =>
    have hdig : d.isDigit = true := by simpa using hd _ ho
    cases after with
    | nil => rfl
    | cons c t =>
      -- none of the four characters that may follow a keyword is a digit
      have : (d == c) = false :=
        beq_eq_false_iff_ne.mpr (ne_of_class hdig (h.headNot (p := Char.isDigit) (by decide) c t rfl))
      simp [List.isPrefixOf, this]

theorem partTypeCore_kw (t : TyD) (after : Str) (h : AfterKw after) :
    partTypeCore (t.render ++ after) = .ok (.typed t.ty, t.info, after) := by
  cases t with
  | bool => exact partTypeCore_bool after
  | str => exact partTypeCore_str after
  | int uns w =>
    have e : ∀ sfx : Str, (if uns then ['u'] else []) ++ ['i', 'n', 't'] ++ sfx ++ after =
        (if uns then ['u'] else []) ++ 'i' :: 'n' :: 't' :: (sfx ++ after) := by intro sfx; simp
    rcases w with _ | _ | _ | _ <;> simp only [TyD.render, IntW.text, e, partTypeCore_int]
    · rw [List.nil_append, firstSuffix_afterKw _ (by decide) after h]; rfl
    · rw [firstSuffix_hit]; rfl
    · rw [firstSuffix_skip rfl, firstSuffix_hit]; rfl
    · rw [firstSuffix_skip rfl, firstSuffix_skip rfl, firstSuffix_hit]; rfl
  | float w =>
    have e : ∀ sfx : Str, ['f', 'l', 'o', 'a', 't'] ++ sfx ++ after = 'f' :: 'l' :: 'o' :: 'a' :: 't' :: (sfx ++ after) := by
      intro sfx; simp
    rcases w with _ | _ | _ | _ <;> simp only [TyD.render, FloatW.text, e, partTypeCore_float]
    · rw [List.nil_append, firstSuffix_afterKw _ (by decide) after h]; rfl
    · rw [firstSuffix_hit]; rfl
    · rw [firstSuffix_skip rfl, firstSuffix_hit]; rfl
    · rw [firstSuffix_skip rfl, firstSuffix_skip rfl, firstSuffix_hit]; rfl

theorem tyD_head (t : TyD) : ∃ c r, t.render = c :: r ∧ isWs c = false ∧ c ≠ '#' ∧ c ≠ '=' ∧ c ≠ '{' := by
  cases t with
  | bool => exact ⟨'b', _, rfl, by decide, by decide, by decide, by decide⟩
  | str => exact ⟨'s', _, rfl, by decide, by decide, by decide, by decide⟩
  | int uns w =>
    cases uns
    · exact ⟨'i', _, rfl, by decide, by decide, by decide, by decide⟩
    · exact ⟨'u', _, rfl, by decide, by decide, by decide, by decide⟩
  | float w => exact ⟨'f', _, rfl, by decide, by decide, by decide, by decide⟩

theorem partType_kw (n : Nat) (t : TyD) (after : Str) (h : AfterKw after) :
    partType (List.replicate (n + 1) ' ' ++ (t.render ++ after)) = .ok (.typed t.ty, t.info, after) := by
  obtain ⟨c, r, hr, hc, _⟩ := tyD_head t
  have hd : dropWs (List.replicate (n + 1) ' ' ++ (t.render ++ after)) = t.render ++ after := by
    rw [hr]
    exact dropWs_spaces_cons (n + 1) c (r ++ after) hc
  have hcons : List.replicate (n + 1) ' ' ++ (t.render ++ after) = ' ' :: (List.replicate n ' ' ++ (t.render ++ after)) := by
    simp [List.replicate_succ]
  unfold partType
  rw [hcons] at hd ⊢
  simp only [hd]
  simp [isWs, partTypeCore_kw t after h]

end SciVerif.C13
