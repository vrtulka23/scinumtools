import Mathlib.Analysis.SpecialFunctions.Pow.Real
import SciVerif.Lemmas.C03Denote
import SciVerif.Lemmas.C03Dims

/-! # C03: the conversion factor over ℝ as a product over the whole exponent map; `BaseUnits(text)`
and `Quantity(1,text)` against the denotation, factor and dimension vector; `Fraction.rebase` keeps the value -/
namespace SciVerif.C03

/-- the real number `x ** (n/d)` a symbolic factor stands for -/
noncomputable def factorR (f : Factor) : ℝ := ((f.base : ℚ) : ℝ) ^ ((f.exp.toRat : ℚ) : ℝ)

/-- the magnitude `BaseUnits.__init__` accumulates: the product of its factors -/
noncomputable def magR (fs : List Factor) : ℝ := (fs.map factorR).prod

/-- table magnitude of a key (prefix · unit) as a real; 1 for a key the tables do not have, so that
    `specFactor` is total (the theorems only meet keys that are there) -/
noncomputable def keyMag (T : Tables) (u : UnitId) : ℝ := (((unitMag T u).getD 1 : ℚ) : ℝ)

/-- the specification's factor: `Π (prefix·unit)^e` over a multiset of (unit, exponent) pairs -/
noncomputable def specFactor (T : Tables) (l : List (UnitId × Rat)) : ℝ :=
  (l.map (fun ue => keyMag T ue.1 ^ ((ue.2 : ℚ) : ℝ))).prod

theorem magR_nil : magR [] = 1 := rfl

theorem magR_snoc (fs : List Factor) (f : Factor) : magR (fs ++ [f]) = magR fs * factorR f := by
  simp [magR]

theorem specFactor_nil (T : Tables) : specFactor T [] = 1 := rfl

theorem specFactor_cons (T : Tables) (u : UnitId) (e : Rat) (l : List (UnitId × Rat)) :
    specFactor T ((u, e) :: l) = keyMag T u ^ ((e : ℚ) : ℝ) * specFactor T l := List.prod_cons

theorem specFactor_cons_zero (T : Tables) (u : UnitId) (l : List (UnitId × Rat)) :
    specFactor T ((u, 0) :: l) = specFactor T l := by
  rw [specFactor_cons, Rat.cast_zero, Real.rpow_zero, one_mul]

theorem specFactor_append (T : Tables) (l1 l2 : List (UnitId × Rat)) :
    specFactor T (l1 ++ l2) = specFactor T l1 * specFactor T l2 := by
  rw [specFactor, List.map_append, List.prod_append]; rfl

theorem getUnitBase_factorR (T : Tables) (u : UnitId) (e : Frac) (base : Base)
    (h : getUnitBase T u e = some base) : factorR base.factor = keyMag T u ^ ((e.toRat : ℚ) : ℝ) := by
  obtain ⟨_, mag, d, hm, _, rfl⟩ := (getUnitBase_iff T u e base).mp h
  unfold factorR keyMag
  rw [hm]; rfl

theorem baseUnitsLoop_mag (T : Tables) (m : ExpMap) (acc b : BaseUnits)
    (h : baseUnitsLoop T m acc = some b) :
    magR b.factors = magR acc.factors * specFactor T (ratPairs m) := by
  fun_induction baseUnitsLoop T m acc
  -- cases of the loop: 1 end of the dict, 2 a zero exponent is skipped, 3 the lookup fails, 4 the entry is appended
  case case1 => cases h; rw [ratPairs_nil, specFactor_nil, mul_one]
  case case2 e _ _ hz ih => rw [ih h, ratPairs_cons, toRat_of_num_zero e hz, specFactor_cons_zero]
  case case3 => cases h
  case case4 u e _ _ _ base hbase ih =>
    rw [ih h, magR_snoc, getUnitBase_factorR T u e base hbase, ratPairs_cons, specFactor_cons, mul_assoc]

theorem baseUnitsOfMap_mag (T : Tables) (m : ExpMap) (b : BaseUnits) (h : baseUnitsOfMap T m = some b) :
    magR b.factors = specFactor T (ratPairs m) := by
  rw [baseUnitsLoop_mag T m BaseUnits.empty b h]
  exact one_mul _

/-- the exponents of a multiset of (unit, exponent) pairs as a finitely supported function -/
noncomputable def expVec (l : List (UnitId × Rat)) : UnitId →₀ Rat :=
  (l.map fun ue => Finsupp.single ue.1 ue.2).sum

theorem expVec_apply (l : List (UnitId × Rat)) (k : UnitId) : expVec l k = expOf l k := by
  induction l with
  | nil => rfl
  | cons a t ih =>
    rw [expOf_cons, ← ih, expVec, List.map_cons, List.sum_cons, Finsupp.add_apply, Finsupp.single_apply]
    rfl

theorem expVec_congr {l1 l2 : List (UnitId × Rat)} (h : ∀ k, expOf l1 k = expOf l2 k) :
    expVec l1 = expVec l2 :=
  Finsupp.ext fun k => by rw [expVec_apply, expVec_apply, h]

/-- a product over the pairs of something additive in the exponent is the product over the summed
    exponents: it depends on `expOf` only (the regrouping is `Finsupp.prod_add_index'`) -/
theorem prod_expVec {M : Type} [CommMonoid M] (φ : UnitId → Rat → M) (h0 : ∀ k, φ k 0 = 1)
    (hadd : ∀ k a b, φ k (a + b) = φ k a * φ k b) (l : List (UnitId × Rat)) :
    (l.map fun ue => φ ue.1 ue.2).prod = (expVec l).prod φ := by
  induction l with
  | nil => rfl
  | cons a t ih =>
    rw [List.map_cons, List.prod_cons, ih]
    unfold expVec
    rw [List.map_cons, List.sum_cons, Finsupp.prod_add_index' h0 hadd, Finsupp.prod_single_index (h0 _)]

theorem sum_expVec {M : Type} [AddCommMonoid M] (φ : UnitId → Rat → M) (h0 : ∀ k, φ k 0 = 0)
    (hadd : ∀ k a b, φ k (a + b) = φ k a + φ k b) (l : List (UnitId × Rat)) :
    (l.map fun ue => φ ue.1 ue.2).sum = (expVec l).sum φ := by
  induction l with
  | nil => rfl
  | cons a t ih =>
    rw [List.map_cons, List.sum_cons, ih]
    unfold expVec
    rw [List.map_cons, List.sum_cons, Finsupp.sum_add_index' h0 hadd, Finsupp.sum_single_index (h0 _)]

theorem specFactor_congr (T : Tables) (hM : ∀ k, 0 < keyMag T k) (l1 l2 : List (UnitId × Rat))
    (h : ∀ k, expOf l1 k = expOf l2 k) : specFactor T l1 = specFactor T l2 := by
  have key := prod_expVec (fun k e => keyMag T k ^ ((e : ℚ) : ℝ)) (fun k => by simp)
    (fun k a b => by rw [Rat.cast_add, Real.rpow_add (hM k)])
  unfold specFactor
  rw [key l1, key l2, expVec_congr h]

theorem getD_zipWith_add (a b : List Rat) (h : a.length = b.length) (i : Nat) :
    (List.zipWith (· + ·) a b)[i]?.getD 0 = a[i]?.getD 0 + b[i]?.getD 0 := by
  by_cases hi : i < a.length
  · rw [List.getElem?_eq_getElem (by simp; omega), List.getElem?_eq_getElem hi,
      List.getElem?_eq_getElem (h ▸ hi), List.getElem_zipWith]
    rfl
  · rw [List.getElem?_eq_none (by simp; omega), List.getElem?_eq_none (by omega),
      List.getElem?_eq_none (by omega)]
    exact (add_zero 0).symm

theorem getD_map_mul (D : List Rat) (e : Rat) (i : Nat) :
    (D.map (fun d => e * d))[i]?.getD 0 = e * D[i]?.getD 0 := by
  rw [List.getElem?_map]
  cases D[i]? <;> simp

theorem specDims_component (T : Tables) (hT : tableDimsOk T) (l : List (UnitId × Rat)) (i : Nat) :
    (specDims T l)[i]?.getD 0 = (l.map (fun ue => ue.2 * ((unitDims T ue.1).getD zeroRDims)[i]?.getD 0)).sum := by
  induction l with
  | nil =>
    simp only [specDims, List.map_nil, List.sum_nil, zeroRDims]
    rw [List.getElem?_replicate]
    split <;> simp
  | cons x t ih =>
    obtain ⟨u, e⟩ := x
    simp only [specDims, addRDims, List.map_cons, List.sum_cons]
    rw [getD_zipWith_add _ _ (by simp [unitDims_length T hT u, specDims_length T hT t]), getD_map_mul, ih]

theorem specDims_congr (T : Tables) (hT : tableDimsOk T) (l1 l2 : List (UnitId × Rat))
    (h : ∀ k, expOf l1 k = expOf l2 k) : specDims T l1 = specDims T l2 := by
  apply List.ext_getElem (by rw [specDims_length T hT l1, specDims_length T hT l2])
  intro i hi1 hi2
  have key := sum_expVec (fun k e => e * ((unitDims T k).getD zeroRDims)[i]?.getD 0) (fun k => zero_mul _)
    (fun k a b => add_mul a b _)
  have := specDims_component T hT l1 i
  rw [key l1, expVec_congr h, ← key l2, ← specDims_component T hT l2 i,
    List.getElem?_eq_getElem hi1, List.getElem?_eq_getElem hi2] at this
  exact this

theorem factPositive_prop {T : Tables} (h : factPositive T = true) :
    (∀ p ∈ T.prefixes, 0 < p.mag) ∧ (∀ u ∈ T.units, 0 < u.mag) ∧ (∀ u ∈ T.sys, 0 < u.mag) := by
  unfold factPositive at h
  simp only [Bool.and_eq_true, List.all_eq_true, decide_eq_true_eq] at h
  exact ⟨fun p hp => h.1.1 p hp, fun u hu => (h.1.2 u hu).1.1, fun u hu => (h.2 u hu).1.1⟩

theorem keyMag_pos (T : Tables) (hpos : factPositive T = true) (k : UnitId) : 0 < keyMag T k := by
  obtain ⟨hp, hu, hs⟩ := factPositive_prop hpos
  unfold keyMag
  have key : 0 < (unitMag T k).getD 1 := by
    cases h : unitMag T k with
    | none => exact one_pos
    | some mag =>
      rcases unitMag_cases h with
        ⟨n, row, _, hr, rfl⟩ | ⟨p, b, row, _, hr, ⟨_, rfl⟩ | ⟨_, q, hq, rfl⟩⟩
      · exact hs row (List.mem_of_find?_eq_some hr)
      · exact hu row (List.mem_of_find?_eq_some hr)
      · exact mul_pos (hp q (List.mem_of_find?_eq_some hq)) (hu row (List.mem_of_find?_eq_some hr))
  exact_mod_cast key

/-- a key `get_unit_base` can look up -/
def knownKey (T : Tables) (u : UnitId) : Prop := (unitMag T u).isSome = true

theorem getUnitBase_some (T : Tables) (u : UnitId) (e : Frac) (hk : knownKey T u) (he : e.den ≠ 0) :
    ∃ base, getUnitBase T u e = some base := by
  obtain ⟨mag, hm⟩ := Option.isSome_iff_exists.mp hk
  have hd : ∃ d, rowDims T u = some d := by
    rcases unitMag_cases hm with ⟨n, row, rfl, hr, _⟩ | ⟨p, b, row, rfl, hr, _⟩ <;>
      exact ⟨row.dims, by simp [rowDims, hr]⟩
  obtain ⟨d, hd⟩ := hd
  exact ⟨_, (getUnitBase_iff T u e _).mpr ⟨fun h => he h.1, mag, d, hm, hd, rfl⟩⟩

/-- every entry of the dict is one `get_unit_base` serves: a key it finds, an exponent it can divide by.  What
    `BaseUnits.__init__` and the dimensionless block of `Quantity.__init__` need in order not to raise. -/
def Lookable (T : Tables) (m : ExpMap) : Prop := ∀ ue ∈ m, knownKey T ue.1 ∧ ue.2.den ≠ 0

theorem baseUnitsLoop_some (T : Tables) (m : ExpMap) (acc : BaseUnits)
    (h : Lookable T m) : ∃ b, baseUnitsLoop T m acc = some b := by
  fun_induction baseUnitsLoop T m acc
  case case1 acc => exact ⟨acc, rfl⟩
  case case2 ih | case4 ih => exact ih fun ue hue => h ue (List.mem_cons_of_mem _ hue)
  case case3 u e _ _ _ hnone =>
    obtain ⟨base, hb⟩ := getUnitBase_some T u e (h (u, e) List.mem_cons_self).1 (h (u, e) List.mem_cons_self).2
    rw [hb] at hnone; cases hnone

/-! what holds of the keys of both dicts holds of the keys of the merged one -/

theorem forall_keys_set {P : UnitId → Prop} {m : ExpMap} {u : UnitId} (hm : ∀ x ∈ m, P x.1) (hu : P u) (e : Frac) :
    ∀ x ∈ m.set u e, P x.1 := by
  intro x hx
  rcases mem_set m u e x hx with h | h
  · exact hm x h
  · rw [h]; exact hu

theorem forall_keys_addEntry {P : UnitId → Prop} {m : ExpMap} {ue : UnitId × Frac} (hm : ∀ x ∈ m, P x.1)
    (hu : P ue.1) : ∀ x ∈ m.addEntry ue, P x.1 := by
  unfold ExpMap.addEntry
  split <;> exact forall_keys_set hm hu _

theorem forall_keys_mergeAdd {P : UnitId → Prop} {a b : ExpMap} (ha : ∀ x ∈ a, P x.1) (hb : ∀ x ∈ b, P x.1) :
    ∀ x ∈ a.mergeAdd b, P x.1 := by
  unfold ExpMap.mergeAdd
  induction b generalizing a with
  | nil => exact ha
  | cons y t ih =>
    exact ih (forall_keys_addEntry ha (hb y List.mem_cons_self)) fun x hx => hb x (List.mem_cons_of_mem _ hx)

theorem forall_keys_mergeSub {P : UnitId → Prop} {a b : ExpMap} (ha : ∀ x ∈ a, P x.1) (hb : ∀ x ∈ b, P x.1) :
    ∀ x ∈ a.mergeSub b, P x.1 := by
  rw [mergeSub_eq]
  refine forall_keys_mergeAdd ha fun x hx => ?_
  obtain ⟨z, hz, rfl⟩ := List.mem_map.mp hx
  exact hb z hz

theorem knownKey_of_admissible {T : Tables} {p b : Str} (h : admissible T p b) : knownKey T (.std p b) := by
  obtain ⟨row, hrow, hsym, hor⟩ := h
  obtain ⟨r2, hr2⟩ := Option.isSome_iff_exists.mp
    (List.find?_isSome.mpr ⟨row, hrow, by simp [hsym]⟩ : (T.findUnit b).isSome = true)
  refine unitMag_std_isSome hr2 (hor.imp id fun ⟨hk, _⟩ => ?_)
  obtain ⟨q0, hq0, hqs⟩ := List.mem_map.mp hk
  exact Option.isSome_iff_exists.mp
    (List.find?_isSome.mpr ⟨q0, hq0, by simp [hqs]⟩ : (T.findPrefix p).isSome = true)

theorem leafVal_known (T : Tables) (hT : noBlankHead T) (t : Str) (v : Atom) (h : leafVal T t = some v) :
    ∀ ue ∈ v.units, knownKey T ue.1 := by
  rcases atomParse_cases T t v (leafVal_eq_some.mp h) with ⟨_, q, _, _, rfl⟩ | ⟨u, e, _, hu, rfl⟩
  · intro ue hue; simp at hue
  · intro ue hue
    simp at hue; subst hue
    obtain ⟨_, _, ⟨n, rfl, hf, _⟩ | ⟨p, b, rfl, _, hadm⟩⟩ := unitParse_sound T hT t u e hu
    · unfold knownKey unitMag
      simpa using hf
    · exact knownKey_of_admissible hadm

theorem evalU_known (T : Tables) (hT : noBlankHead T) (a : U) :
    ∀ v, evalU T a = some v → ∀ ue ∈ v.units, knownKey T ue.1 := by
  induction a with
  | atom p b x => intro v hv; exact leafVal_known T hT _ v hv
  | sys n x => intro v hv; exact leafVal_known T hT _ v hv
  | num t => intro v hv; exact leafVal_known T hT _ v hv
  | par a ih => intro v hv; exact ih v hv
  | mul a b iha ihb =>
    intro v hv
    obtain ⟨x, y, hx, hy, rfl⟩ := evalU_mul_some.mp hv
    exact forall_keys_mergeAdd (iha x hx) (ihb y hy)
  | div a b iha ihb =>
    intro v hv
    obtain ⟨x, y, hx, hy, hd⟩ := evalU_div_some.mp hv
    obtain ⟨_, rfl⟩ := Atom.div_eq_some hd
    exact forall_keys_mergeSub (iha x hx) (ihb y hy)

/-- what every text-level theorem starts from, for a rendering `s` of an AST with denotation `d`: the solver's atom `v`
    (it `Agrees` with `d`), `BaseUnits(s)` = `b`, which is `BaseUnits` over `v`'s dict, its magnitude, and that the dict is `Lookable` -/
theorem baseUnits_total (T : Tables) (ok : TableOK T) (hpos : factPositive T = true)
    (a : U) (s : Str) (hs : Renders a s) (hla : a.leftAssoc = true) (d : Den) (hd : denote T a = some d) :
    ∃ v b, unitSolver T s = .ok v ∧ Agrees v d ∧ baseUnitsOfText T s = .ok b ∧
      baseUnitsOfMap T v.units = some b ∧ magR b.factors = specFactor T d.exps ∧ Lookable T v.units := by
  obtain ⟨hp, v, hv, hag⟩ := evalU_denote T ok a d hd
  have hsolve := unitSolver_renders T a s hs hp hla v hv
  have hknown := evalU_known T (factF4_noBlank ok.f4) a v hv
  have hl : Lookable T v.units := fun ue hue => ⟨hknown ue hue, hag.dens ue hue⟩
  obtain ⟨b, hb⟩ := baseUnitsLoop_some T v.units BaseUnits.empty hl
  refine ⟨v, b, hsolve, hag, by simp [baseUnitsOfText, hsolve, baseUnitsOfMap, hb], hb, ?_, hl⟩
  rw [baseUnitsOfMap_mag T v.units b hb]
  exact specFactor_congr T (keyMag_pos T hpos) _ _ hag.expOf_eq

theorem baseUnits_dims_total (T : Tables) (ok : TableOK T) (hpos : factPositive T = true)
    (a : U) (s : Str) (hs : Renders a s) (hla : a.leftAssoc = true) (d : Den) (hd : denote T a = some d) :
    ∃ b, baseUnitsOfText T s = .ok b ∧ b.dims.map Frac.toRat = specDims T d.exps := by
  have hT := tableDimsOk_of_positive hpos
  obtain ⟨v, b, _, hag, htext, hb, _, _⟩ := baseUnits_total T ok hpos a s hs hla d hd
  refine ⟨b, htext, ?_⟩
  rw [baseUnitsOfMap_dims T hT v.units b hag.dens hb]
  exact specDims_congr T hT _ _ hag.expOf_eq

/-- what `rebase` returns: `0/1` for a zero numerator; otherwise the same proportion, coprime, the denominator not
    negative (its sign is moved on top, then both are divided by the same positive number) -/
theorem rebase_cases (e : Frac) :
    (e.num = 0 ∧ e.rebase = ⟨0, 1⟩) ∨
    (e.num ≠ 0 ∧ e.rebase.num ≠ 0 ∧ e.rebase.num * e.den = e.num * e.rebase.den ∧
      (e.den ≠ 0 → e.rebase.den ≠ 0) ∧ 0 ≤ e.rebase.den ∧ Int.gcd e.rebase.num e.rebase.den = 1) := by
  by_cases hz : e.num = 0
  · exact Or.inl ⟨hz, by unfold Frac.rebase; simp [hz]⟩
  · refine Or.inr ⟨hz, ?_⟩
    -- `a2`: the sign `s` moved on top; `g`: what both are divided by
    have key : ∀ (r : Frac) (s g : Int), (s = 1 ∨ s = -1) → 0 < g → s * e.num = r.num * g →
        s * e.den = r.den * g → 0 ≤ r.den → Int.gcd r.num r.den = 1 →
        r.num ≠ 0 ∧ r.num * e.den = e.num * r.den ∧ (e.den ≠ 0 → r.den ≠ 0) ∧ 0 ≤ r.den ∧
          Int.gcd r.num r.den = 1 := by
      intro r s g hs hg hn hd hpos hgcd
      have hs0 : s ≠ 0 := by rcases hs with rfl | rfl <;> decide
      refine ⟨?_, ?_, ?_, hpos, hgcd⟩
      · intro h0; rw [h0, Int.zero_mul] at hn; exact hz ((Int.mul_eq_zero.mp hn).resolve_left hs0)
      · exact mul_right_cancel₀ (mul_ne_zero hs0 hg.ne') (by
          linear_combination (r.num * g) * hd - (r.den * g) * hn)
      · intro he h0; rw [h0, Int.zero_mul] at hd; exact he ((Int.mul_eq_zero.mp hd).resolve_left hs0)
    unfold Frac.rebase
    simp only [hz, if_false]
    generalize h2 : (if e.den < 0 then (⟨-e.num, -e.den⟩ : Frac) else e) = a2
    obtain ⟨s, hs, hn, hd, hpos⟩ : ∃ s : Int, (s = 1 ∨ s = -1) ∧ s * e.num = a2.num ∧ s * e.den = a2.den ∧
        0 ≤ a2.den := by
      by_cases hd : e.den < 0
      · simp only [hd, if_true] at h2; subst h2; exact ⟨-1, Or.inr rfl, by simp, by simp, by simp; omega⟩
      · simp only [hd, if_false] at h2; subst h2; exact ⟨1, Or.inl rfl, by simp, by simp, by omega⟩
    have hn0 : a2.num ≠ 0 := by
      rw [← hn]; rcases hs with rfl | rfl <;> simpa using hz
    have hgpos : 0 < Int.gcd a2.num a2.den := Int.gcd_pos_of_ne_zero_left _ hn0
    have d1 : ((Int.gcd a2.num a2.den : Nat) : Int) ∣ a2.num := Int.gcd_dvd_left _ _
    have d2 : ((Int.gcd a2.num a2.den : Nat) : Int) ∣ a2.den := Int.gcd_dvd_right _ _
    split
    · exact key _ s ((Int.gcd a2.num a2.den : Nat) : Int) hs (by exact_mod_cast hgpos)
        (by rw [hn, Int.ediv_mul_cancel d1]) (by rw [hd, Int.ediv_mul_cancel d2])
        (Int.ediv_nonneg hpos (by omega)) (Int.gcd_div_gcd_div_gcd hgpos)
    · exact key a2 s 1 hs Int.one_pos (by rw [hn, Int.mul_one]) (by rw [hd, Int.mul_one]) hpos (by omega)

theorem rebase_spec (e : Frac) (he : e.den ≠ 0) : e.rebase.toRat = e.toRat ∧ e.rebase.den ≠ 0 := by
  rcases rebase_cases e with ⟨hz, hr⟩ | ⟨_, _, hprop, hd, _, _⟩
  · rw [hr]; simp [Frac.toRat, hz]
  · exact ⟨(Util.intDiv_eq_iff _ _ _ _ (hd he) he).mp hprop, hd he⟩

theorem rebase_num_iff (e : Frac) : e.rebase.num = 0 ↔ e.num = 0 := by
  rcases rebase_cases e with ⟨hz, hr⟩ | ⟨hz, hn, _⟩
  · rw [hr]; exact ⟨fun _ => hz, fun _ => rfl⟩
  · exact ⟨fun h => absurd h hn, fun h => absurd h hz⟩

theorem rebase_idem (e : Frac) : e.rebase.rebase = e.rebase := by
  rcases rebase_cases e with ⟨_, hr⟩ | ⟨_, hn, _, _, hd, hgcd⟩
  · rw [hr]; decide
  · generalize e.rebase = r at hn hd hgcd
    unfold Frac.rebase
    have : ¬ r.den < 0 := by omega
    simp [hn, this, hgcd]

theorem baseUnitsLoop_entries (T : Tables) (m : ExpMap) (acc b : BaseUnits) (hm : densOk m)
    (h : baseUnitsLoop T m acc = some b) :
    specFactor T (ratPairs b.entries) = specFactor T (ratPairs acc.entries) * specFactor T (ratPairs m) ∧
    (densOk acc.entries → densOk b.entries) := by
  fun_induction baseUnitsLoop T m acc
  case case1 => cases h; exact ⟨by rw [ratPairs_nil, specFactor_nil, mul_one], id⟩
  case case2 e _ _ hz ih =>
    obtain ⟨e1, d1⟩ := ih (fun y hy => hm y (List.mem_cons_of_mem _ hy)) h
    exact ⟨by rw [e1, ratPairs_cons, toRat_of_num_zero e hz, specFactor_cons_zero], d1⟩
  case case3 => cases h
  case case4 u e _ _ _ base hbase ih =>
    obtain ⟨e1, d1⟩ := ih (fun y hy => hm y (List.mem_cons_of_mem _ hy)) h
    obtain ⟨r1, r2⟩ := rebase_spec e (hm (u, e) List.mem_cons_self)
    constructor
    · rw [e1, ratPairs_append, specFactor_append, ratPairs_cons u e.rebase, ratPairs_nil, specFactor_cons,
        specFactor_nil, mul_one, r1, ratPairs_cons, specFactor_cons, mul_assoc]
    · intro hacc
      apply d1
      intro ue hue
      rcases List.mem_append.mp hue with h1 | h1
      · exact hacc ue h1
      · simp at h1; subst h1; exact r2

theorem baseUnitsOfMap_entries (T : Tables) (m : ExpMap) (b : BaseUnits) (hm : densOk m)
    (h : baseUnitsOfMap T m = some b) : specFactor T (ratPairs b.entries) = specFactor T (ratPairs m) := by
  rw [(baseUnitsLoop_entries T m BaseUnits.empty b hm h).1]
  exact one_mul _

/-- the "rebase if dimensions are zero" block of `Quantity.__init__` only moves factors from
    the units into the number -/
theorem nodimLoop_mag (T : Tables) (m keep keep' : ExpMap) (fs fs' : List Factor)
    (h : nodimLoop T m keep fs = some (keep', fs')) :
    magR fs' * specFactor T (ratPairs keep') =
      magR fs * specFactor T (ratPairs keep) * specFactor T (ratPairs m) := by
  fun_induction nodimLoop T m keep fs
  -- cases of the loop: 1 end, 2 the lookup fails, 3 a dimensionless entry is kept, 4 a factor is moved out
  case case1 => cases h; rw [ratPairs_nil, specFactor_nil, mul_one]
  case case2 => cases h
  case case3 u e _ _ _ _ _ _ ih =>
    rw [ih h, ratPairs_append, specFactor_append, ratPairs_cons u e [], ratPairs_nil, specFactor_cons,
      specFactor_nil, mul_one, ratPairs_cons, specFactor_cons]
    ring
  case case4 u e _ _ _ base hbase _ ih =>
    rw [ih h, magR_snoc, getUnitBase_factorR T u e base hbase, ratPairs_cons, specFactor_cons]
    ring

/-- what `Quantity(1,text)` is in base units: number × moved factors × magnitude of its units -/
noncomputable def QuantityOut.total (q : QuantityOut) : ℝ :=
  ((q.coef : ℚ) : ℝ) * magR q.factors * magR q.base.factors

/-- `Quantity(1,text)` in base units is the solver's number times `Π (prefix·unit)^e` over the solver's dict, dimensionless or not -/
theorem quantityOfText_total (T : Tables) (s : Str) (v : Atom) (hsolve : unitSolver T s = .ok v)
    (hdens : densOk v.units) (q : QuantityOut) (hq : quantityOfText T s = .ok q) :
    q.total = ((v.mag : ℚ) : ℝ) * specFactor T (ratPairs v.units) := by
  unfold quantityOfText at hq
  simp only [hsolve] at hq
  split at hq
  · cases hq
  · rename_i b hb
    have hmag := baseUnitsOfMap_mag T v.units b hb
    split at hq
    · split at hq
      · cases hq
      · rename_i keep fs hloop
        split at hq
        · cases hq
        · rename_i b2 hb2
          cases hq
          rw [QuantityOut.total, mul_assoc, baseUnitsOfMap_mag T keep b2 hb2]
          show _ * (magR fs * _) = _
          rw [nodimLoop_mag T b.entries [] keep [] fs hloop, baseUnitsOfMap_entries T v.units b hdens hb]
          rw [magR_nil, ratPairs_nil, specFactor_nil, one_mul, one_mul]
    · cases hq
      rw [QuantityOut.total, hmag, magR_nil, mul_one]

theorem quantity_total (T : Tables) (ok : TableOK T) (hpos : factPositive T = true)
    (a : U) (s : Str) (hs : Renders a s) (hla : a.leftAssoc = true) (d : Den) (hd : denote T a = some d)
    (q : QuantityOut) (hq : quantityOfText T s = .ok q) :
    q.total = ((d.coef : ℚ) : ℝ) * specFactor T d.exps := by
  obtain ⟨v, b, hsolve, hag, _, _, _, _⟩ := baseUnits_total T ok hpos a s hs hla d hd
  rw [quantityOfText_total T s v hsolve hag.dens q hq, hag.mag,
    specFactor_congr T (keyMag_pos T hpos) _ _ hag.expOf_eq]

theorem baseUnitsLoop_shape (T : Tables) (m : ExpMap) (acc b : BaseUnits)
    (h : baseUnitsLoop T m acc = some b) :
    b.entries = acc.entries ++ (m.filter (fun ue => ue.2.num != 0)).map (fun ue => (ue.1, ue.2.rebase)) ∧
    b.expression = acc.expression ++ (m.filter (fun ue => ue.2.num != 0)).map (fun ue => entryText ue.1 ue.2) := by
  fun_induction baseUnitsLoop T m acc
  -- cases of the loop: 1 end of the dict, 2 a zero exponent is skipped, 3 the lookup fails, 4 the entry is appended
  case case1 => cases h; simp
  case case2 hz ih =>
    obtain ⟨e1, e2⟩ := ih h
    simp [e1, e2, hz]
  case case3 => cases h
  case case4 u e _ _ hz base hbase ih =>
    obtain ⟨e1, e2⟩ := ih h
    obtain ⟨_, _, _, _, _, rfl⟩ := (getUnitBase_iff T u e base).mp hbase
    simp [e1, e2, hz]

theorem baseUnitsOfMap_shape (T : Tables) (m : ExpMap) (b : BaseUnits) (h : baseUnitsOfMap T m = some b) :
    b.entries = (m.filter (fun ue => ue.2.num != 0)).map (fun ue => (ue.1, ue.2.rebase)) ∧
    b.expression = (m.filter (fun ue => ue.2.num != 0)).map (fun ue => entryText ue.1 ue.2) :=
  baseUnitsLoop_shape T m BaseUnits.empty b h

theorem entries_of_map (T : Tables) (m : ExpMap) (b : BaseUnits)
    (hb : baseUnitsOfMap T m = some b) :
    ∀ ue ∈ b.entries, ∃ x ∈ m, x.2.num ≠ 0 ∧ ue = (x.1, x.2.rebase) := by
  obtain ⟨hent, _⟩ := baseUnitsOfMap_shape T m b hb
  intro ue hue
  rw [hent] at hue
  obtain ⟨x, hx, rfl⟩ := List.mem_map.mp hue
  obtain ⟨hxm, hxn⟩ := List.mem_filter.mp hx
  exact ⟨x, hxm, by simpa using hxn, rfl⟩

theorem entries_lookable (T : Tables) (m : ExpMap) (b : BaseUnits) (h : Lookable T m)
    (hb : baseUnitsOfMap T m = some b) : Lookable T b.entries := by
  intro ue hue
  obtain ⟨x, hx, _, rfl⟩ := entries_of_map T m b hb ue hue
  exact ⟨(h x hx).1, (rebase_spec x.2 (h x hx).2).2⟩

theorem nodimLoop_some (T : Tables) (m keep : ExpMap) (fs : List Factor) (h : Lookable T m)
    (hk : Lookable T keep) : ∃ r, nodimLoop T m keep fs = some r ∧ Lookable T r.1 := by
  fun_induction nodimLoop T m keep fs
  case case1 keep fs => exact ⟨(keep, fs), rfl, hk⟩
  case case2 u e _ _ _ hnone =>
    obtain ⟨base, hb⟩ := getUnitBase_some T u e (h (u, e) List.mem_cons_self).1 (h (u, e) List.mem_cons_self).2
    rw [hb] at hnone; cases hnone
  case case3 ih =>
    refine ih (fun ue hue => h ue (List.mem_cons_of_mem _ hue)) fun ue hue => ?_
    rcases List.mem_append.mp hue with h1 | h1
    · exact hk ue h1
    · rw [List.mem_singleton.mp h1]; exact h _ List.mem_cons_self
  case case4 ih => exact ih (fun ue hue => h ue (List.mem_cons_of_mem _ hue)) hk

theorem quantityOfText_some (T : Tables) (s : Str) (v : Atom) (hsolve : unitSolver T s = .ok v)
    (h : Lookable T v.units) : ∃ q, quantityOfText T s = .ok q := by
  obtain ⟨b, hb⟩ := baseUnitsLoop_some T v.units BaseUnits.empty h
  unfold quantityOfText
  simp only [hsolve, show baseUnitsOfMap T v.units = some b from hb]
  split
  · obtain ⟨⟨keep, fs⟩, hr, hk⟩ := nodimLoop_some T b.entries [] [] (entries_lookable T v.units b h hb)
      (List.forall_mem_nil _)
    obtain ⟨b2, hb2⟩ := baseUnitsLoop_some T keep BaseUnits.empty hk
    simp only [hr, baseUnitsOfMap, hb2]
    exact ⟨_, rfl⟩
  · exact ⟨_, rfl⟩

theorem quantity_exists (T : Tables) (ok : TableOK T) (hpos : factPositive T = true)
    (a : U) (s : Str) (hs : Renders a s) (hla : a.leftAssoc = true) (d : Den) (hd : denote T a = some d) :
    ∃ q, quantityOfText T s = .ok q := by
  obtain ⟨v, _, hsolve, _, _, _, _, hl⟩ := baseUnits_total T ok hpos a s hs hla d hd
  exact quantityOfText_some T s v hsolve hl

end SciVerif.C03
