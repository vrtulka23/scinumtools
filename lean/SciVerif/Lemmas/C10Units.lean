import SciVerif.Lemmas.C10Parens
import SciVerif.Lemmas.C10Solve

/-! C10: sequences of units — parenthesis-free chains and parenthesised chains with optional
    counts — separated by blanks: `(OH)2 (CH3)3`, `Ca(OH)2 (H2O)6`, `(NH4)2 S O4`.  Passes 1 and 2 leave the gaps
    between units alone and act chain by chain: one induction (`ChainStage.seq`) serves both; passes 3 and 4
    rewrite the gaps and have an induction each (`preprocess_seq`).  Then the formulas: `F.units` / `F.unitsT` are
    written by such sequences (`HasSq`, `seqT_spec`), which gives `preprocess_unitsT` and, with the solver,
    `substanceOf_unitsT`. -/
namespace SciVerif.C10
open Util

/-- a unit: a chain, or a parenthesised chain with a count text (possibly empty) -/
inductive U where
  | ch (it : Item) (r : Rest)
  | gr (it : Item) (r : Rest) (dg : Str)

def U.OK : U → Prop
  | .ch it r => it.OK ∧ restOK r
  | .gr it r dg => it.OK ∧ restOK r ∧ AllDig dg

def U.isCh : U → Bool
  | .ch _ _ => true
  | .gr _ _ _ => false

inductive Sq where
  | one (u : U)
  | cons (u : U) (g : Gap) (s : Sq)

def Sq.head : Sq → U
  | .one u => u
  | .cons u _ _ => u

set_option linter.unusedVariables false in
/-- no two chains side by side (they would be one chain) -/
def Sq.valid : Sq → Prop
  | .one u => u.OK
  | .cons u k s => u.OK ∧ s.valid ∧ (u.isCh = true → s.head.isCh = false)

/-- the text of a unit after `st` of the four passes of `preprocess` (`0`: as typed): pass 1 turns the blank gaps inside its
    chain into ` + ` (`allPlus`), pass 2 writes the counts inside as ` * n` (`explChain`), pass 3 leaves a unit as it is,
    pass 4 writes the count behind `)` as ` * n` (`mulTxt`) -/
def ux (st : Nat) : U → Str
  | .ch it r => if st = 0 then chainText it r else if st = 1 then chainText it (allPlus r) else explChain it r
  | .gr it r dg =>
    '(' :: ((if st = 0 then chainText it r else if st = 1 then chainText it (allPlus r) else explChain it r) ++
      ')' :: (if st = 4 then mulTxt dg else dg))

/-- the gap `g` in front of the unit `next` after `st` passes: passes 1 and 2 leave it as typed; after pass 3 blanks in
    front of a group are ` + ` and blanks in front of a chain still blanks; after pass 4 every gap is ` + ` -/
def sepx (st : Nat) (g : Gap) (next : U) : Str :=
  match g with
  | .plus => symAdd
  | .blanks k => if st = 4 then symAdd else if st = 3 ∧ next.isCh = false then symAdd else List.replicate k ' '

/-- the text of a sequence after `st` passes: `tx 0 s` is what the user types, `tx 4 s` the explicit solver text
    (`preprocess_seq`) -/
def tx (st : Nat) : Sq → Str
  | .one u => ux st u
  | .cons u k s => ux st u ++ (sepx st k s.head ++ tx st s)

theorem sepx_text (st : Nat) (hst : st ≤ 2) (g : Gap) (u : U) : sepx st g u = g.text := by
  cases g <;> simp [sepx, Gap.text, show st ≠ 4 by omega, show st ≠ 3 by omega]
theorem sepx4 (g : Gap) (u : U) : sepx 4 g u = symAdd := by cases g <;> simp [sepx]

theorem blanks_eq (k : Nat) : ∀ c ∈ List.replicate k ' ', c = ' ' := fun _ hc => List.eq_of_mem_replicate hc
theorem blanks_ws (k : Nat) : ∀ c ∈ List.replicate k ' ', isWs c = true := by
  intro c hc; rw [blanks_eq k c hc]; decide

theorem tx_head_gr (st : Nat) (s : Sq) (h : s.head.isCh = false) : ∃ Y, tx st s = '(' :: Y := by
  cases s with
  | one u => cases u with
    | ch it r => simp [Sq.head, U.isCh] at h
    | gr it r dg => exact ⟨_, rfl⟩
  | cons u k s' => cases u with
    | ch it r => simp [Sq.head, U.isCh] at h
    | gr it r dg => exact ⟨_, by simp [tx, ux]; rfl⟩

/-- a unit with its chain written by `c` and its count as typed -/
def uxG (c : Item → Rest → Str) : U → Str
  | .ch it r => c it r
  | .gr it r dg => '(' :: (c it r ++ ')' :: dg)

/-- the text of a unit sequence with its gaps as typed and its chains written by `c` (stages 0, 1, 2) -/
def txG (c : Item → Rest → Str) : Sq → Str
  | .one u => uxG c u
  | .cons u g s => uxG c u ++ (g.text ++ txG c s)

/-- up to pass 2 the gaps between units are as typed: the stage text is the sequence with its chains written by the
    stage's chain writer -/
theorem tx_eq (st : Nat) (hst : st ≤ 2) (s : Sq) :
    tx st s = txG (fun it r => if st = 0 then chainText it r else if st = 1 then chainText it (allPlus r)
      else explChain it r) s := by
  have h4 : st ≠ 4 := by omega
  induction s with
  | one u => cases u <;> simp [tx, ux, txG, uxG, h4]
  | cons u g s ih =>
    have hg := sepx_text st hst g s.head
    cases u <;> simp [tx, ux, txG, uxG, h4, hg, ih]

theorem tx0_eq (s : Sq) : tx 0 s = txG chainText s := tx_eq 0 (by decide) s
theorem tx1_eq (s : Sq) : tx 1 s = txG (fun it r => chainText it (allPlus r)) s := tx_eq 1 (by decide) s
theorem tx2_eq (s : Sq) : tx 2 s = txG explChain s := tx_eq 2 (by decide) s

/-- What a pass (a relation `T` between a text and its image) does around chains, written `cA` before and `cB`
    after it: to a chain at the end, to a chain in front of a separator, and to characters it only copies. -/
structure ChainStage (cA cB : Item → Rest → Str) (T : Str → Str → Prop) : Prop where
  nil : T [] []
  run : ∀ p, (∀ c ∈ p, Inert c) → ∀ s t, T s t → T (p ++ s) (p ++ t)
  last : ∀ it r, it.OK → restOK r → T (cA it r) (cB it r)
  sep : ∀ it r q s t, it.OK → restOK r → Sep q → T s t → T (cA it r ++ (q ++ s)) (cB it r ++ (q ++ t))

section
variable {cA cB : Item → Rest → Str} {T : Str → Str → Prop} (hT : ChainStage cA cB T)
include hT

/-- a parenthesised chain with its count, in front of a text the pass is known on -/
theorem ChainStage.group (it : Item) (r : Rest) (dg : Str) (hok : it.OK) (hr : restOK r) (hd : AllDig dg) (X X' : Str) (h : T X X') :
    T (cA it r ++ ')' :: (dg ++ X)) (cB it r ++ ')' :: (dg ++ X')) :=
  hT.sep it r [')'] _ _ hok hr ⟨[], ')', rfl, List.forall_mem_nil _, Or.inl (Or.inr rfl)⟩
    (hT.run dg (fun c hc => inert_of_isDig c (hd c hc)) X X' h)

/-- a chain, a gap and the opening parenthesis of a group: blanks with the parenthesis, or ` +` alone, are the
    separator; the pass is known behind the parenthesis -/
theorem ChainStage.gap (it : Item) (r : Rest) (g : Gap) (hok : it.OK) (hr : restOK r) (Y Y' : Str) (hY : T Y Y') :
    T (cA it r ++ (g.text ++ '(' :: Y)) (cB it r ++ (g.text ++ '(' :: Y')) := by
  cases g with
  | blanks k =>
    have := hT.sep it r (List.replicate k ' ' ++ ['(']) Y Y' hok hr ⟨_, '(', rfl, blanks_eq k, Or.inl (Or.inl rfl)⟩ hY
    simpa only [Gap.text, List.append_assoc, List.singleton_append] using this
  | plus =>
    exact hT.sep it r [' ', '+'] _ _ hok hr ⟨[' '], '+', rfl, by simp, Or.inr ⟨rfl, by simp⟩⟩
      (hT.run [' ', '('] (by decide) Y Y' hY)

/-- The induction over a sequence that passes 1 and 2 share. The second part — if the sequence begins with a group, `T`
    also holds behind its `(` — is what the step for a chain in front of it needs: chain, gap and `(` are one `sep` step
    (`ChainStage.gap`), which asks for the pass on what follows the parenthesis. -/
theorem ChainStage.seq (s : Sq) (hv : s.valid) : T (txG cA s) (txG cB s) ∧
      (s.head.isCh = false → ∃ Y Y', txG cA s = '(' :: Y ∧ txG cB s = '(' :: Y' ∧ T Y Y') := by
  induction s with
  | one u =>
    cases u with
    | ch it r => exact ⟨hT.last it r hv.1 hv.2, fun h => absurd h (by simp [Sq.head, U.isCh])⟩
    | gr it r dg =>
      have := hT.group it r dg hv.1 hv.2.1 hv.2.2 [] [] hT.nil
      rw [List.append_nil] at this
      exact ⟨hT.run ['('] (by decide) _ _ this, fun _ => ⟨_, _, rfl, rfl, this⟩⟩
  | cons u g s ih =>
    obtain ⟨hu, hvs, h1⟩ := hv
    obtain ⟨hs, hsY⟩ := ih hvs
    cases u with
    | ch it r =>
      obtain ⟨Y, Y', e, e', hY⟩ := hsY (h1 rfl)
      refine ⟨?_, fun h => absurd h (by simp [Sq.head, U.isCh])⟩
      show T (cA it r ++ (g.text ++ txG cA s)) (cB it r ++ (g.text ++ txG cB s))
      rw [e, e']
      exact hT.gap it r g hu.1 hu.2 Y Y' hY
    | gr it r dg =>
      have := hT.group it r dg hu.1 hu.2.1 hu.2.2 _ _ (hT.run g.text (gap_inert g) _ _ hs)
      refine ⟨?_, fun _ => ⟨_, _, ?_, ?_, this⟩⟩
      · have := hT.run ['('] (by decide) _ _ this
        simpa only [txG, uxG, List.cons_append, List.append_assoc, List.singleton_append, List.nil_append] using this
      · simp only [txG, uxG, List.cons_append, List.append_assoc]
      · simp only [txG, uxG, List.cons_append, List.append_assoc]

end

theorem stage1 : ChainStage chainText (fun it r => chainText it (allPlus r))
    (fun x y => ∃ n, n ≤ x.length ∧ StepsTo n x y) where
  nil := ⟨0, Nat.le_refl 0, rfl, rfl⟩
  run p hp s t := fun ⟨n, hn, h⟩ =>
    ⟨n, Nat.le_trans hn (by rw [List.length_append]; exact Nat.le_add_left _ _), steps_map (p ++ ·) (fun x => pass1Step_inert p x hp) n s t h⟩
  last it r hok hr := ⟨unres r, unres_le_text it r hok hr, steps_chain (unres r) it r hok hr rfl⟩
  sep it r q s t hok hr hq := fun ⟨m, hm, h⟩ =>
    ⟨unres r + m, by
      rw [List.length_append, List.length_append]
      exact Nat.add_le_add (unres_le_text it r hok hr) (Nat.le_trans hm (Nat.le_add_left _ _)),
      steps_sep q hq (unres r) _ _ m s t (steps_chain (unres r) it r hok hr rfl) h⟩

theorem stage2 : ChainStage (fun it r => chainText it (allPlus r)) explChain P2 where
  nil := P2_nil
  run p hp s t h := P2_run p s t hp h
  last it r hok hr := by
    have := P2_chain_tail [] [] .nil P2_nil r it hok hr
    rwa [List.append_nil, List.append_nil] at this
  sep it r q s t hok hr hq h := by
    obtain ⟨x, X, e, hx⟩ := sep_head q s hq
    exact P2_chain_tail _ _ (e ▸ .cons (by rcases hx with rfl | rfl | rfl <;> decide) X)
      (P2_run q s t (sep_inert q hq) h) r it hok hr

theorem steps_seq (s : Sq) : s.valid → ∃ n, n ≤ (tx 0 s).length ∧ StepsTo n (tx 0 s) (tx 1 s) := by
  intro hv
  have := (stage1.seq s hv).1
  rwa [← tx0_eq, ← tx1_eq] at this

theorem P2_seq (s : Sq) : s.valid → P2 (tx 1 s) (tx 2 s) := by
  intro hv
  have := (stage2.seq s hv).1
  rwa [← tx1_eq, ← tx2_eq] at this



theorem tx_head_ch (st : Nat) (hst : st = 2 ∨ st = 3) (s : Sq) (hv : s.valid) (h : s.head.isCh = true) :
    ∃ a t, tx st s = a :: t ∧ (isUp a = true ∨ a = '[') := by
  rcases hst with rfl | rfl <;> cases s with
  | one u => cases u with
    | ch it r =>
      obtain ⟨a, t, e, ha⟩ := explChain_head r it hv.1 []
      exact ⟨a, t, (List.append_nil _).symm.trans e, ha⟩
    | gr it r dg => exact absurd h Bool.false_ne_true
  | cons u k s' => cases u with
    | ch it r => exact explChain_head r it hv.1.1 _
    | gr it r dg => exact absurd h Bool.false_ne_true

theorem sepx3_gr (g : Gap) (u : U) (h : u.isCh = false) : sepx 3 g u = symAdd := by
  cases g <;> simp [sepx, h]

theorem sepx3_ch (g : Gap) (u : U) (h : u.isCh = true) : sepx 3 g u = g.text := by
  cases g <;> simp [sepx, h, Gap.text]

theorem tx2_cons_ch (it : Item) (r : Rest) (g : Gap) (s : Sq) :
    tx 2 (.cons (.ch it r) g s) = explChain it r ++ (g.text ++ tx 2 s) := by cases g <;> rfl

theorem tx3_cons_ch (it : Item) (r : Rest) (g : Gap) (s : Sq) :
    tx 3 (.cons (.ch it r) g s) = explChain it r ++ (sepx 3 g s.head ++ tx 3 s) := rfl

theorem tx2_cons_gr (it : Item) (r : Rest) (dg : Str) (g : Gap) (s : Sq) :
    tx 2 (.cons (.gr it r dg) g s) = '(' :: (explChain it r ++ ')' :: (dg ++ (g.text ++ tx 2 s))) := by
  rw [← sepx_text 2 (by decide) g s.head]
  simp [tx, ux, List.append_assoc]

theorem tx3_cons_gr (it : Item) (r : Rest) (dg : Str) (g : Gap) (s : Sq) :
    tx 3 (.cons (.gr it r dg) g s) =
      '(' :: (explChain it r ++ ')' :: (dg ++ (sepx 3 g s.head ++ tx 3 s))) := by
  simp [tx, ux, List.append_assoc]

theorem gap_noparen (g : Gap) : ∀ c ∈ g.text, c ≠ '(' := by
  cases g with
  | blanks k => intro c hc; rw [blanks_eq k c hc]; decide
  | plus => decide

/-- a gap in front of `(`: blanks become ` + `, an explicit ` + ` stays -/
theorem P3_gap (w : Str) (g : Gap) (Y tY : Str) (hw : Word3 w) (hY : P3 ('(' :: Y) ('(' :: tY)) :
    P3 (w ++ (g.text ++ '(' :: Y)) (w ++ (symAdd ++ '(' :: tY)) := by
  cases g with
  | blanks k =>
    obtain ⟨hw, w0, l, rfl, hl⟩ := hw
    have := P3_join w0 l (List.replicate k ' ') Y tY (fun c hc => hw c (by simp [hc])) hl (blanks_ws k)
      (P3_lparen_tail _ _ hY)
    simpa [List.append_assoc, Gap.text] using this
  | plus =>
    exact P3_prefix w _ _ hw.1 (noOpen_ws ' ' _ (by decide) (noOpen_cons '+' _ (by decide) (by decide)))
      (P3_ws ' ' _ _ (by decide) (P3_special '+' _ _ (by decide) (by decide) (by decide)
        (P3_ws ' ' _ _ (by decide) hY)))

/-- Behind a word, a gap in front of a valid sequence: before a group the gap becomes ` + ` (`P3_gap`), before a
    chain it stays and the chain is copied (`P3_prefix`). -/
theorem P3_word_gap (w : Str) (hw : Word3 w) (g : Gap) (s : Sq) (hvs : s.valid) (hs : P3 (tx 2 s) (tx 3 s)) :
    P3 (w ++ (g.text ++ tx 2 s)) (w ++ (sepx 3 g s.head ++ tx 3 s)) := by
  by_cases hg : s.head.isCh = false
  · obtain ⟨Y2, e2⟩ := tx_head_gr 2 s hg
    obtain ⟨Y3, e3⟩ := tx_head_gr 3 s hg
    rw [sepx3_gr _ _ hg, e2, e3]
    exact P3_gap _ g Y2 Y3 hw (e2 ▸ e3 ▸ hs)
  · have hc := Bool.eq_true_of_not_eq_false hg
    obtain ⟨a, t, e, ha⟩ := tx_head_ch 2 (Or.inl rfl) s hvs hc
    have := P3_prefix (w ++ g.text) _ _ (List.forall_mem_append.mpr ⟨hw.1, gap_noparen g⟩)
      (e ▸ noOpen_cons a t (head_facts a ha).1.1 (head_facts a ha).1.2) hs
    rw [sepx3_ch _ _ hc]
    simpa only [List.append_assoc] using this

theorem P3_seq (s : Sq) (hv : s.valid) : P3 (tx 2 s) (tx 3 s) := by
  induction s with
  | one u =>
    cases u with
    | ch it r => exact P3_noparen _ (word3_explChain r it hv.1 hv.2).1
    | gr it r dg =>
      exact P3_lparen _ _ (P3_noparen _ (word3_close _ dg (word3_explChain r it hv.1 hv.2.1).1 hv.2.2).1)
  | cons u g s ih =>
    obtain ⟨hu, hvs, _⟩ := hv
    cases u with
    | ch it r =>
      rw [tx2_cons_ch, tx3_cons_ch]
      exact P3_word_gap _ (word3_explChain r it hu.1 hu.2) g s hvs (ih hvs)
    | gr it r dg =>
      have := P3_word_gap _ (word3_close _ dg (word3_explChain r it hu.1 hu.2.1).1 hu.2.2) g s hvs (ih hvs)
      rw [tx2_cons_gr, tx3_cons_gr]
      exact P3_lparen _ _ (by simpa only [List.append_assoc, List.cons_append] using this)

/-- the form with a glued word in front follows from the prefix rule -/
theorem P3_seq_aux (s : Sq) : s.valid → P3 (tx 2 s) (tx 3 s) ∧
    (s.head.isCh = true → ∀ w : Str, (∀ c ∈ w, c ≠ '(' ∧ isWs c = false) → P3 (w ++ tx 2 s) (w ++ tx 3 s)) := by
  intro hv
  refine ⟨P3_seq s hv, fun hc w hw => ?_⟩
  obtain ⟨a, t, e, ha⟩ := tx_head_ch 2 (Or.inl rfl) s hv hc
  exact P3_prefix w _ _ (fun c h => (hw c h).1) (e ▸ noOpen_cons a t (head_facts a ha).1.1 (head_facts a ha).1.2)
    (P3_seq s hv)

/-- `)n` at the end of the text; `P4_close_plus`: in front of ` + `; `P4_close_gen`: in front of `k` blanks (also none) and an
    ordinary character that is no digit -/
theorem P4_close_end (dg : Str) (hd : AllDig dg) : P4 (')' :: dg) (')' :: mulTxt dg) := by
  exact P4_intro fun n _ => pass4_close dg hd n

theorem P4_close_plus (dg Y tY : Str) (hd : AllDig dg) (h : P4 Y tY) :
    P4 (')' :: (dg ++ (symAdd ++ Y))) (')' :: (mulTxt dg ++ (symAdd ++ tY))) := by
  refine P4_intro fun n hn => ?_
  have h2 : P4 ('+' :: ' ' :: Y) ('+' :: ' ' :: tY) :=
    P4_copy '+' _ _ (by decide) (P4_copy ' ' _ _ (by decide) h)
  have hlen : ('+' :: ' ' :: Y).length < n := by
    simp only [List.length_cons, List.length_append, symAdd] at hn ⊢; omega
  have := pass4_rparen n dg [' '] [] ('+' :: ' ' :: Y) hd (by decide) (List.forall_mem_nil _)
    (.cons (by decide) _) (.cons (by decide) _) (.cons (by decide) _)
  rw [h2 n hlen] at this
  exact this

theorem P4_close_gen (dg X tX : Str) (k : Nat) (hd : AllDig dg) (h : P4 X tX)
    (hX : ∃ a t, X = a :: t ∧ notSpec4 a = true ∧ isDig a = false) :
    P4 (')' :: (dg ++ (List.replicate k ' ' ++ X))) (')' :: (mulTxt dg ++ (symAdd ++ tX))) := by
  obtain ⟨a, t, rfl, ha, had⟩ := hX
  have haw : isWs a = false := by
    simp only [notSpec4, Bool.not_eq_true', Bool.or_eq_false_iff] at ha; exact ha.2
  refine P4_intro fun n hf => ?_
  -- the third group of the regex is the run of ordinary characters at the head of `X`
  have hg3 : ∀ c ∈ (a :: t).takeWhile notSpec4, notSpec4 c = true := fun _ h => mem_takeWhile h
  have hne : (a :: t).takeWhile notSpec4 ≠ [] := by simp [ha]
  have hcat : (a :: t).takeWhile notSpec4 ++ (a :: t).dropWhile notSpec4 = a :: t :=
    List.takeWhile_append_dropWhile
  have e1 : HeadNot isDig (List.replicate k ' ' ++ (a :: t)) := by
    cases k with
    | zero => exact .cons had _
    | succ k' => exact .cons (by decide) _
  have := pass4_rparen n dg (List.replicate k ' ') _ _ hd (blanks_ws k) hg3 (hcat.symm ▸ e1)
    (hcat.symm ▸ .cons haw _) (headNot_dropWhile notSpec4 (a :: t))
  have hlen : (a :: t).length < ((a :: t).takeWhile notSpec4).length + n := by
    simp only [List.length_cons, List.length_append, List.length_replicate] at hf ⊢; omega
  have hrest : (a :: t).takeWhile notSpec4 ++ pass4 n ((a :: t).dropWhile notSpec4) = tX := by
    rw [← pass4_copy _ _ (fun c hc e => by subst e; exact absurd (hg3 _ hc) (by decide)) n, hcat]
    exact h _ hlen
  rw [hcat, List.isEmpty_eq_false_iff.mpr hne] at this
  rw [this, ← hrest]
  simp only [Bool.false_eq_true, if_false, List.append_assoc]

theorem tx4_cons_gr (it : Item) (r : Rest) (dg : Str) (g : Gap) (s : Sq) :
    tx 4 (.cons (.gr it r dg) g s) =
      '(' :: (explChain it r ++ ')' :: (mulTxt dg ++ (symAdd ++ tx 4 s))) := by
  simp [tx, ux, sepx4, List.append_assoc]

/-- A closing parenthesis with its count in front of a gap and a valid sequence: the count becomes ` * n`, the gap
    ` + ` (it is ` + ` already before a group). -/
theorem P4_close_gap (dg : Str) (hd : AllDig dg) (g : Gap) (s : Sq) (hvs : s.valid) (hs : P4 (tx 3 s) (tx 4 s)) :
    P4 (')' :: (dg ++ (sepx 3 g s.head ++ tx 3 s))) (')' :: (mulTxt dg ++ (symAdd ++ tx 4 s))) := by
  by_cases hg : s.head.isCh = false
  · rw [sepx3_gr _ _ hg]
    exact P4_close_plus dg _ _ hd hs
  · have hc := Bool.eq_true_of_not_eq_false hg
    rw [sepx3_ch _ _ hc]
    cases g with
    | plus => exact P4_close_plus dg _ _ hd hs
    | blanks k => exact P4_close_gen dg _ _ k hd hs ((tx_head_ch 3 (Or.inr rfl) s hvs hc).imp fun a =>
        Exists.imp fun _ h => ⟨h.1, (head_facts a h.2).2⟩)

theorem P4_seq (s : Sq) : s.valid → P4 (tx 3 s) (tx 4 s) := by
  -- pass 4 copies everything up to the first `)`
  have hgroup : ∀ (it : Item) (r : Rest), it.OK → restOK r → ∀ Z tZ : Str, P4 (')' :: Z) tZ →
      P4 ('(' :: (explChain it r ++ ')' :: Z)) ('(' :: (explChain it r ++ tZ)) :=
    fun it r hok hr Z tZ h => P4_copy '(' _ _ (by decide)
      (P4_run _ _ _ (fun c hc => (explChain_noparen r it hok hr c hc).2) h)
  induction s with
  | one u =>
    intro hv
    cases u with
    | ch it r => exact P4_noparen _ (fun c hc => (explChain_noparen r it hv.1 hv.2 c hc).2)
    | gr it r dg => exact hgroup it r hv.1 hv.2.1 dg _ (P4_close_end dg hv.2.2)
  | cons u g s ih =>
    intro hv
    obtain ⟨hu, hvs, h1⟩ := hv
    cases u with
    | ch it r =>
      rw [tx3_cons_ch, sepx3_gr _ _ (h1 rfl)]
      show P4 _ (explChain it r ++ (sepx 4 g s.head ++ tx 4 s))
      rw [sepx4]
      exact P4_run _ _ _ (fun c hc => (explChain_noparen r it hu.1 hu.2 c hc).2)
        (P4_run _ _ _ (by decide) (ih hvs))
    | gr it r dg =>
      rw [tx3_cons_gr, tx4_cons_gr]
      exact hgroup it r hu.1 hu.2.1 _ _ (P4_close_gap dg hu.2.2 g s hvs (ih hvs))

theorem preprocess_seq (s : Sq) (hv : s.valid) : preprocess (tx 0 s) = tx 4 s := by
  obtain ⟨n, hn, hst⟩ := steps_seq s hv
  have h1 := pass1_of_steps n _ _ (2 * (tx 0 s).length + 2) hst (by omega)
  simp only [preprocess, h1]
  rw [P2_seq s hv _ (by omega), P3_seq s hv _ (by omega), P4_seq s hv _ (by omega)]


/-- a parenthesised group, with or without a count -/
def F.isGr : F → Bool
  | .group _ => true
  | .count (.group _) _ => true
  | _ => false

/-- the first unit is a group, read off a right-nested sequence (`F.units`) -/
def F.headGr : F → Bool
  | .seq _ a _ => a.isGr
  | .plus a _ => a.isGr
  | f => f.isGr

set_option linter.unusedVariables false in
/-- a sequence `u₁ ␣* u₂ ␣* … uₙ` (right-nested juxtapositions or explicit ` + `) of units, each a parenthesis-free
    formula or a parenthesised parenthesis-free group without or with a count, with any number
    of blanks (also none) between them; two parenthesis-free units are never adjacent (together
    they are one such unit) -/
def F.units : F → Prop
  | .seq k a b => (a.flat ∧ b.flat) ∨
      ((a.flat ∨ a.group1) ∧ b.units ∧ (a.isGr = false → b.headGr = true))
  | .plus a b => (a.flat ∧ b.flat) ∨
      ((a.flat ∨ a.group1) ∧ b.units ∧ (a.isGr = false → b.headGr = true))
  | f => f.flat ∨ f.group1

theorem flat_not_gr (f : F) (h : f.flat) : f.isGr = false := by
  cases f with
  -- a flat formula carries a count only on a species, `isGr` asks for one on a group
  | count g n => cases g <;> simp_all [F.flat, F.isGr]
  | group g => simp [F.flat] at h
  | _ => rfl

theorem group1_gr (f : F) (h : f.group1) : f.isGr = true := by
  cases f with
  -- `group1` and `isGr` both ask for a group, with or without a count
  | count g n => cases g <;> simp_all [F.group1, F.isGr]
  | group g => rfl
  | _ => simp [F.group1] at h

theorem unit_spec (f : F) (h : f.flat ∨ f.group1) (hs : f.spAll SpeciesShape) :
    ∃ u : U, u.OK ∧ ux 0 u = render f ∧ ux 4 u = renderExplicit f ∧ u.isCh = !f.isGr := by
  rcases h with h | h
  · obtain ⟨h1, h2, h3, h4⟩ := toChain_spec f h hs
    exact ⟨.ch (toChain f).1 (toChain f).2, ⟨h3, h4⟩, by simp [ux, h1], by simp [ux, h2],
      by simp [U.isCh, flat_not_gr f h]⟩
  · cases f with
    | group g =>
      obtain ⟨h1, h2, h3, h4⟩ := toChain_spec g h hs
      exact ⟨.gr (toChain g).1 (toChain g).2 [], ⟨h3, h4, List.forall_mem_nil _⟩,
        by simp [ux, render, h1], by simp [ux, renderExplicit, h2, mulTxt], rfl⟩
    | count f' n =>
      cases f' with
      | group g =>
        obtain ⟨h1, h2, h3, h4⟩ := toChain_spec g h hs
        have hne : (digitsOf n).isEmpty = false := List.isEmpty_eq_false_iff.mpr (digitsOf_ne_nil n)
        exact ⟨.gr (toChain g).1 (toChain g).2 (digitsOf n), ⟨h3, h4, allDig_digitsOf n⟩,
          by simp [ux, render, h1], by simp [ux, renderExplicit, h2, mulTxt, hne, List.append_assoc], rfl⟩
      | _ => exact absurd h (by simp [F.group1])
    | _ => exact absurd h (by simp [F.group1])

theorem tx0_ne_nil (s : Sq) (hv : s.valid) : tx 0 s ≠ [] := by
  have : ∀ u : U, u.OK → ∀ rest, ux 0 u ++ rest ≠ [] := by
    intro u hu rest
    cases u with
    | ch it r =>
      obtain ⟨c, t, e, _⟩ := chainText_head it r hu.1
      simp [ux, e]
    | gr it r dg => simp [ux]
  cases s with
  | one u => have := this u hv []; simpa [tx] using this
  | cons u k s' => exact this u hv.1 _

def Sq.last : Sq → U
  | .one u => u
  | .cons _ _ s => s.last

def Sq.app : Sq → Gap → Sq → Sq
  | .one u, g, t => .cons u g t
  | .cons u g' s, g, t => .cons u g' (s.app g t)

theorem app_head (s : Sq) (g : Gap) (t : Sq) : (s.app g t).head = s.head := by
  cases s <;> rfl

theorem app_last (s : Sq) (g : Gap) (t : Sq) : (s.app g t).last = t.last := by
  induction s with
  | one u => rfl
  | cons u g' s ih => simpa [Sq.app, Sq.last] using ih

theorem app_valid (s : Sq) (g : Gap) (t : Sq) (hs : s.valid) (ht : t.valid)
    (hj : s.last.isCh = true → t.head.isCh = false) : (s.app g t).valid := by
  induction s with
  | one u => exact ⟨hs, ht, hj⟩
  | cons u g' s ih =>
    obtain ⟨h1, h2, h3⟩ := hs
    exact ⟨h1, ih h2 hj, by rw [app_head]; exact h3⟩


theorem app_tx0 (s : Sq) (g : Gap) (t : Sq) : tx 0 (s.app g t) = tx 0 s ++ (g.text ++ tx 0 t) := by
  induction s with
  | one u => simp [Sq.app, tx, sepx_text 0]
  | cons u g' s ih => simp [Sq.app, tx, sepx_text 0, ih, List.append_assoc]

theorem app_tx4 (s : Sq) (g : Gap) (t : Sq) : tx 4 (s.app g t) = tx 4 s ++ (symAdd ++ tx 4 t) := by
  induction s with
  | one u => simp [Sq.app, tx, sepx4]
  | cons u g' s ih => simp [Sq.app, tx, sepx4, ih, List.append_assoc]

/-- the leftmost leaf is a group, for any bracketing (`F.unitsT`) -/
def F.headGrT : F → Bool
  | .seq _ a _ => a.headGrT
  | .plus a _ => a.headGrT
  | f => f.isGr

/-- the rightmost leaf is a group -/
def F.lastGr : F → Bool
  | .seq _ _ b => b.lastGr
  | .plus _ b => b.lastGr
  | f => f.isGr

/-- any tree of juxtapositions (any blanks) and explicit ` + ` whose leaves are units —
    parenthesis-free formulas or parenthesised parenthesis-free groups without or with a count —
    such that no two parenthesis-free units meet at a junction (together they are one unit) -/
def F.unitsT : F → Prop
  | .seq _ a b => (a.flat ∧ b.flat) ∨ (a.unitsT ∧ b.unitsT ∧ (a.lastGr = false → b.headGrT = true))
  | .plus a b => (a.flat ∧ b.flat) ∨ (a.unitsT ∧ b.unitsT ∧ (a.lastGr = false → b.headGrT = true))
  | f => f.flat ∨ f.group1

theorem flat_ends (f : F) : f.flat → f.headGrT = false ∧ f.lastGr = false := by
  induction f with
  | seq k a b iha ihb | plus a b iha ihb => intro h; exact ⟨(iha h.1).1, (ihb h.2).2⟩
  | sp s | mulx g n _ => intro h; exact ⟨rfl, rfl⟩
  | count g n _ => intro h; exact ⟨flat_not_gr _ h, flat_not_gr _ h⟩
  | group g _ => intro h; exact absurd h (by simp [F.flat])

/-- `f` is written by a valid sequence of units: its short and its explicit text, and whether it begins and ends
    with a chain -/
abbrev HasSq (f : F) : Prop :=
  ∃ s : Sq, s.valid ∧ tx 0 s = render f ∧ tx 4 s = renderExplicit f ∧ s.head.isCh = !f.headGrT ∧
    s.last.isCh = !f.lastGr

theorem oneT_spec (f : F) (h : f.flat ∨ f.group1) (hh : f.headGrT = f.isGr) (hl : f.lastGr = f.isGr)
    (hs : f.spAll SpeciesShape) : HasSq f := by
  obtain ⟨u, h1, h2, h3, h4⟩ := unit_spec f h hs
  exact ⟨.one u, h1, h2, h3, by rw [hh]; exact h4, by rw [hl]; exact h4⟩

/-- `f` enters only by its two renderings and its two ends: it is written by the sequences of `a` and `b` joined by `g` -/
theorem app_spec (g : Gap) (a b f : F) (hr : render f = render a ++ g.text ++ render b)
    (hre : renderExplicit f = renderExplicit a ++ symAdd ++ renderExplicit b)
    (hh : f.headGrT = a.headGrT) (hl : f.lastGr = b.lastGr)
    (ha : HasSq a) (hb : HasSq b) (c1 : a.lastGr = false → b.headGrT = true) :
    HasSq f := by
  obtain ⟨sa, a1, a2, a3, a4, a5⟩ := ha
  obtain ⟨sb, b1, b2, b3, b4, b5⟩ := hb
  refine ⟨sa.app g sb, app_valid _ _ _ a1 b1 ?_, ?_, ?_, ?_, ?_⟩
  · intro hu
    rw [a5] at hu
    rw [b4, c1 (by simpa using hu)]; rfl
  · rw [app_tx0, a2, b2, hr, List.append_assoc]
  · rw [app_tx4, a3, b3, hre, List.append_assoc]
  · rw [app_head, a4, hh]
  · rw [app_last, b5, hl]

theorem flat_spec (f : F) (h : f.flat) (hs : f.spAll SpeciesShape) : HasSq f := by
  obtain ⟨u, h1, h2, h3, h4⟩ := unit_spec f (Or.inl h) hs
  rw [flat_not_gr f h] at h4
  exact ⟨.one u, h1, h2, h3, (flat_ends f h).1 ▸ h4, (flat_ends f h).2 ▸ h4⟩

theorem seqT_spec (f : F) : f.unitsT → f.spAll SpeciesShape → HasSq f := by
  induction f with
  | sp s | count g n _ | mulx g n _ | group g _ => intro h hs; exact oneT_spec _ h rfl rfl hs
  | plus a b iha ihb =>
    intro h hs
    rcases h with h | ⟨ha, hb, c1⟩
    · exact flat_spec _ h hs
    · exact app_spec .plus a b _ rfl rfl rfl rfl (iha ha hs.1) (ihb hb hs.2) c1
  | seq k a b iha ihb =>
    intro h hs
    rcases h with h | ⟨ha, hb, c1⟩
    · exact flat_spec _ h hs
    · exact app_spec (.blanks k) a b _ rfl rfl rfl rfl (iha ha hs.1) (ihb hb hs.2) c1

theorem preprocess_unitsT (f : F) (hf : f.unitsT) (hs : f.spAll SpeciesShape) :
    preprocess (render f) = renderExplicit f ∧ render f ≠ [] := by
  obtain ⟨s, h1, h2, h3, _⟩ := seqT_spec f hf hs
  rw [← h2, ← h3]
  exact ⟨preprocess_seq s h1, tx0_ne_nil s h1⟩

theorem flat_unitsT (f : F) (h : f.flat) : f.unitsT := by
  cases f <;> exact Or.inl h

theorem group1_unitsT (f : F) (h : f.group1) : f.unitsT := by
  cases f with
  | seq _ _ _ | plus _ _ => exact h.elim
  | _ => exact Or.inr h

theorem group1_ends (f : F) (h : f.group1) : f.headGrT = true ∧ f.lastGr = true := by
  cases f with
  | seq _ _ _ | plus _ _ => exact h.elim
  | _ => exact ⟨group1_gr _ h, group1_gr _ h⟩

theorem chainGroup_unitsT (f : F) (h : f.chainGroup) : f.unitsT := by
  cases f with
  | seq k a b => exact Or.inr ⟨flat_unitsT a h.1, group1_unitsT b h.2, fun _ => (group1_ends b h.2).1⟩
  | _ => exact h.elim

theorem units_headGrT (f : F) (h : f.units) (hg : f.headGr = true) : f.headGrT = true := by
  have first : ∀ a : F, (a.flat ∨ a.group1) → a.isGr = true → a.headGrT = true := by
    intro a ha hag
    rcases ha with ha | ha
    · rw [flat_not_gr a ha] at hag; cases hag
    · exact (group1_ends a ha).1
  cases f with
  | seq k a b | plus a b =>
    rcases h with ⟨ha, _⟩ | ⟨ha, _, _⟩
    · exact first a (Or.inl ha) hg
    · exact first a ha hg
  | _ => exact hg

theorem units_unitsT (f : F) : f.units → f.unitsT := by
  induction f with
  | seq k a b _ ihb | plus a b _ ihb =>
    intro h
    rcases h with h | ⟨ha, hb, hj⟩
    · exact Or.inl h
    · refine Or.inr ⟨ha.elim (flat_unitsT a) (group1_unitsT a), ihb hb, fun hl => ?_⟩
      rcases ha with ha | ha
      · exact units_headGrT b hb (hj (flat_not_gr a ha))
      · rw [(group1_ends a ha).2] at hl; cases hl
  | _ => exact id

theorem unitsT_factorOK (f : F) : f.unitsT → f.factorOK := by
  induction f with
  | sp s => intro _; trivial
  | count g n ih =>
    intro h
    cases g with
    | sp s => trivial
    | group k => exact ih (Or.inr (h.elim (·.elim) id))
    | _ => exact h.elim (·.elim) (·.elim)
  | mulx g n _ => intro h; exact h.elim (·.elim) (·.elim)
  | group g ih => intro h; exact ih (flat_unitsT g (h.elim (·.elim) id))
  | seq k a b iha ihb | plus a b iha ihb =>
    intro h
    rcases h with ⟨ha, hb⟩ | ⟨ha, hb, _⟩
    · exact ⟨iha (flat_unitsT a ha), ihb (flat_unitsT b hb)⟩
    · exact ⟨iha ha, ihb hb⟩

/-- `Substance(text)` through the whole modelled pipeline (`preprocess`, then the solver) has exactly the expanded
    counts, for every tree of units whose species have the documented shape and are accepted by `Element` -/
theorem substanceOf_unitsT (valid : Str → Bool) (f : F) (hf : f.unitsT)
    (hs : f.spAll fun s => SpeciesShape s ∧ valid s = true) :
    substanceOf valid (render f) = some ((expand f).map fun kn => (kn.1, (kn.2 : Rat))) := by
  obtain ⟨hpre, hne⟩ := preprocess_unitsT f hf (spAll_mono (fun s h => h.1) f hs)
  rw [substanceOf_of_preprocess valid f (unitsT_factorOK f hf) (spAll_speciesOK valid f hs) _ hne hpre,
    evalF_eq_expand]

end SciVerif.C10
