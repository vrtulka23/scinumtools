import SciVerif.Lemmas.C13Lexer
/-!
Scanner lemmas: value literals as written (`Lit`), `part_value` on each form, and `part_equal`.
-/
namespace SciVerif.C13
open SciVerif.Util

/-- a value literal as written: a bare word, or text between double, single or triple quotes -/
inductive Lit where
  | bare (s : Str)      -- true, -34, 2.3e20, Canada, none, [1,2,3] …
  | dq (s : Str)        -- "…"
  | sq (s : Str)        -- '…'
  | tq (s : Str)        -- """…"""  (after block grouping; `s` is the escape-marked text)
deriving Repr, DecidableEq

/-- the text `part_value` is to hand back: the word, or what stands between the quotes -/
def Lit.text : Lit → Str
  | .bare s => s | .dq s => s | .sq s => s | .tq s => s

def Lit.render : Lit → Str
  | .bare s => s
  | .dq s => '"' :: (s ++ ['"'])
  | .sq s => '\'' :: (s ++ ['\''])
  | .tq s => '"' :: '"' :: '"' :: (s ++ ['"', '"', '"'])

/-- the text cannot end the literal early: a bare word has no blank or `#` and does not start a quoted or
    bracketed form, quoted text does not contain its quote character -/
def Lit.Ok : Lit → Prop
  | .bare s => (∃ c r, s = c :: r ∧ c ≠ '{' ∧ c ≠ '(' ∧ c ≠ '"' ∧ c ≠ '\'') ∧ ∀ c ∈ s, c ≠ '#' ∧ isWs c = false
  | .dq s => ∀ c ∈ s, c ≠ '"'
  | .sq s => ∀ c ∈ s, c ≠ '\''
  | .tq s => ∀ c ∈ s, c ≠ '"'

/-- the closing quote is found at its first occurrence: no character of `s` starts one -/
theorem findClose_close (q : Str) (c0 : Char) (hq : q.head? = some c0) (tl : Str) (htl : tailOk tl = true) :
    ∀ (s acc : Str), (∀ c ∈ s, c ≠ c0) → findClose q acc (s ++ (q ++ tl)) = some (acc.reverse ++ s, tl) := by
  obtain ⟨r, rfl⟩ : ∃ r, q = c0 :: r := by
    cases q with
    | nil => cases hq
    | cons a r => exact ⟨r, by rw [Option.some.inj hq]⟩
  intro s
  induction s with
  | nil =>
    intro acc _
    have hpre : (c0 :: r).isPrefixOf (c0 :: (r ++ tl)) = true :=
      List.isPrefixOf_iff_prefix.mpr (List.prefix_append (c0 :: r) tl)
    have hdrop : (c0 :: (r ++ tl)).drop (c0 :: r).length = tl := List.drop_left' (l₁ := c0 :: r) rfl
    rw [List.nil_append, List.cons_append, findClose, hdrop, hpre, htl]
    simp
  | cons x t ih =>
    intro acc h
    have hx : (c0 == x) = false := by simpa using Ne.symm (h x (by simp))
    rw [List.cons_append, findClose, if_neg (by simp [List.isPrefixOf, hx]),
      ih (x :: acc) (fun c hc => h c (List.mem_cons_of_mem _ hc))]
    simp

theorem partValue_eq_bare (c : Char) (v : Str) (h1 : c ≠ '{') (h2 : c ≠ '(') :
    partValue (c :: v) = partValue.bare (c :: v) := by
  unfold partValue
  split
  · rename_i heq; exact absurd (List.cons.inj heq).1 h1
  · rename_i heq; exact absurd (List.cons.inj heq).1 h2
  · rfl

theorem quoted_miss (q : Str) (c : Char) (v : Str) (h : q.head? ≠ some c) (hq : q ≠ []) :
    quoted q (c :: v) = none := by
  obtain ⟨d, r, rfl⟩ := List.exists_cons_of_ne_nil hq
  have : (d == c) = false := by simpa using h
  simp [quoted, List.isPrefixOf, this]

theorem quoted_close (q : Str) (c0 : Char) (hq : q.head? = some c0) (s tl : Str) (hs : ∀ c ∈ s, c ≠ c0)
    (htl : tailOk tl = true) : quoted q (q ++ (s ++ (q ++ tl))) = some (s, tl) := by
  have hpre : q.isPrefixOf (q ++ (s ++ (q ++ tl))) = true := List.isPrefixOf_iff_prefix.mpr (List.prefix_append q _)
  rw [quoted, if_pos hpre, List.drop_left' rfl, findClose_close q c0 hq tl htl s [] hs]
  rfl

/-- behind the opening quote stands a character of the text, or, the text being empty, the closing quote and a
    tail that is empty or starts with a blank or `#`: never two more quotes -/
theorem quoted_q3_dq (s tl : Str) (hs : ∀ c ∈ s, c ≠ '"') (hh : HeadIn [' ', '#'] tl) :
    quoted q3 ('"' :: (s ++ '"' :: tl)) = none := by
  cases s with
  | nil =>
    cases tl with
    | nil => simp [quoted, q3, List.isPrefixOf]
    | cons x y =>
      have : ('"' == x) = false := hh.headNot (p := fun c => '"' == c) (by decide) x y rfl
      simp [quoted, q3, List.isPrefixOf, this]
  | cons x t => simp [quoted, q3, List.isPrefixOf, Ne.symm (hs x (by simp))]

theorem partValue_lit (l : Lit) (hl : l.Ok) (tl : Str) (htl : tailOk tl = true)
    (hh : HeadIn [' ', '#'] tl) :
    partValue (l.render ++ tl) = .ok (l.text, tl) := by
  cases l with
  | bare s =>
    obtain ⟨⟨c, r, rfl, h1, h2, h3, h4⟩, hall⟩ := hl
    have hp : ∀ x ∈ c :: r, (fun c => c != '#' && c != ' ') x = true := by
      intro x hx
      have := hall x hx
      have h5 : x ≠ ' ' := by intro e; rw [e] at this; exact absurd this.2 (by decide)
      simp [this.1, h5]
    have htw := takeWhile_append_headNot hp (hh.headNot (by decide))
    have hdw := dropWhile_append_headNot hp (hh.headNot (by decide))
    simp only [Lit.render, Lit.text, List.cons_append] at htw hdw ⊢
    rw [partValue_eq_bare c _ h1 h2]
    simp only [partValue.bare, quoted_miss q3 c _ (by simpa [q3] using Ne.symm h3) (by decide),
      quoted_miss q2 c _ (by simpa [q2] using Ne.symm h3) (by decide),
      quoted_miss q1 c _ (by simpa [q1] using Ne.symm h4) (by decide), htw, hdw]
    rfl
  | dq s =>
    simp only [Lit.render, Lit.text, List.cons_append, List.append_assoc, List.nil_append]
    rw [partValue_eq_bare '"' _ (by decide) (by decide)]
    simp only [partValue.bare, quoted_q3_dq s tl hl hh, show quoted q2 ('"' :: (s ++ '"' :: tl)) = _ from quoted_close q2 '"' rfl s tl hl htl]
  | sq s =>
    simp only [Lit.render, Lit.text, List.cons_append, List.append_assoc, List.nil_append]
    rw [partValue_eq_bare '\'' _ (by decide) (by decide)]
    simp only [partValue.bare, quoted_miss q3 '\'' _ (by decide) (by decide),
      quoted_miss q2 '\'' _ (by decide) (by decide),
      show quoted q1 ('\'' :: (s ++ '\'' :: tl)) = _ from quoted_close q1 '\'' rfl s tl hl htl]
  | tq s =>
    simp only [Lit.render, Lit.text, List.cons_append, List.append_assoc, List.nil_append]
    rw [partValue_eq_bare '"' _ (by decide) (by decide)]
    simp only [partValue.bare, show quoted q3 ('"' :: '"' :: '"' :: (s ++ '"' :: '"' :: '"' :: tl)) = _ from
      quoted_close q3 '"' rfl s tl hl htl]

theorem lit_head (l : Lit) (hl : l.Ok) : ∃ c r, l.render = c :: r ∧ isWs c = false := by
  cases l with
  | bare s =>
    obtain ⟨⟨c, r, rfl, _⟩, hall⟩ := hl
    exact ⟨c, r, rfl, (hall c (by simp)).2⟩
  | dq s => exact ⟨'"', s ++ ['"'], rfl, by decide⟩
  | sq s => exact ⟨'\'', s ++ ['\''], rfl, by decide⟩
  | tq s => exact ⟨'"', _, rfl, by decide⟩

theorem partEqual_eq (a b : Nat) (v : Str) (hv : ∃ c r, v = c :: r ∧ isWs c = false) :
    partEqual (List.replicate a ' ' ++ '=' :: (List.replicate b ' ' ++ v)) = some v := by
  obtain ⟨c, r, rfl, hc⟩ := hv
  simp only [partEqual]
  rw [dropWs_spaces_cons a '=' _ (by decide)]
  simp only
  rw [dropWs_spaces_cons b c r hc]

theorem partEqual_none (a : Nat) (c : Char) (r : Str) (hc : isWs c = false) (he : c ≠ '=') :
    partEqual (List.replicate a ' ' ++ c :: r) = none := by
  simp only [partEqual]
  rw [dropWs_spaces_cons a c r hc]
  split
  · rename_i heq; exact absurd (List.cons.inj heq).1 he
  · rfl

theorem partEqual_blank (a : Nat) : partEqual (List.replicate a ' ') = none := by
  simp only [partEqual, dropWs_spaces_nil]

end SciVerif.C13
