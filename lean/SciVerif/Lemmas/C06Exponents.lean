import SciVerif.Lemmas.C06

/-!
Exponent algebra of unit maps (C06): `BaseUnits.__add__/__sub__/__mul__` add, subtract and
scale the exponent of every unit (`BU.expOf`, exponent 0 = unit absent).
-/
namespace SciVerif.C06


variable {ι : Type}

def BU.KeysNodup (b : BU ι) : Prop := (b.map Prod.fst).Nodup

theorem BU.new_nodup (b : BU ι) (hb : b.KeysNodup) : (BU.new b).KeysNodup := by
  unfold BU.KeysNodup BU.new at *
  exact (List.filter_sublist.map _).nodup hb

theorem map_nodup (g : Frac → Frac) (b : BU ι) (hb : b.KeysNodup) :
    BU.KeysNodup (b.map (fun p => (p.1, g p.2))) := by
  unfold BU.KeysNodup at *
  simpa [List.map_map, Function.comp_def] using hb

variable [DecidableEq ι]

theorem expOf_nil (u : ι) : BU.expOf ([] : BU ι) u = 0 := rfl

theorem expOf_cons (p : ι × Frac) (t : BU ι) (u : ι) :
    BU.expOf (p :: t) u = if p.1 = u then p.2.toRat else BU.expOf t u := by
  by_cases h : p.1 = u <;> simp [BU.expOf, h]

theorem expOf_notin (b : BU ι) (u : ι) (h : u ∉ b.map Prod.fst) : BU.expOf b u = 0 := by
  induction b with
  | nil => rfl
  | cons p t ih =>
    simp only [List.map_cons, List.mem_cons, not_or] at h
    rw [expOf_cons, if_neg (fun e => h.1 e.symm), ih h.2]

theorem expOf_upd (u : ι) (f : Frac → Frac) (g : Frac)
    (hf : ∀ e : Frac, e.den ≠ 0 → (f e).toRat = e.toRat + g.toRat) (b : BU ι) (hb : b.WF) (v : ι) :
    BU.expOf (b.upd u f g) v = BU.expOf b v + if u = v then g.toRat else 0 := by
  fun_induction BU.upd b u f g with
  | case1 => rw [expOf_cons, expOf_nil, zero_add]
  | case2 e t =>
    rw [expOf_cons, expOf_cons]
    by_cases hv : u = v <;> simp [hv, hf e (WF_cons.mp hb).1]
  | case3 k e t hk ih =>
    rw [expOf_cons, expOf_cons, ih (WF_cons.mp hb).2]
    by_cases hv : k = v
    · rw [if_pos hv, if_pos hv, if_neg (fun h => hk (hv.trans h.symm)), add_zero]
    · rw [if_neg hv, if_neg hv]

theorem keys_upd (u : ι) (f : Frac → Frac) (g : Frac) (b : BU ι) :
    (b.upd u f g).map Prod.fst = if u ∈ b.map Prod.fst then b.map Prod.fst else b.map Prod.fst ++ [u] := by
  fun_induction BU.upd b u f g with
  | case1 => rfl
  | case2 e t => exact (if_pos List.mem_cons_self).symm
  | case3 k e t hk ih =>
    rw [List.map_cons, ih, List.map_cons]
    by_cases h : u ∈ t.map Prod.fst
    · rw [if_pos h, if_pos (List.mem_cons_of_mem _ h)]
    · rw [if_neg h, if_neg (fun h' => (List.mem_cons.mp h').elim (Ne.symm hk) h)]
      rfl

theorem upd_nodup (u : ι) (f : Frac → Frac) (g : Frac) (b : BU ι) (hb : b.KeysNodup) :
    (b.upd u f g).KeysNodup := by
  unfold BU.KeysNodup at *
  rw [keys_upd]
  split
  · exact hb
  · exact List.nodup_append_comm.mp (List.nodup_cons.mpr ⟨‹_›, hb⟩)

theorem BU.expOf_new (b : BU ι) (hn : b.KeysNodup) (v : ι) : BU.expOf (BU.new b) v = BU.expOf b v := by
  induction b with
  | nil => rfl
  | cons p t ih =>
    obtain ⟨hp, hn'⟩ := List.nodup_cons.mp hn
    by_cases h : p.2.num = 0
    · rw [BU.new_cons_zero t h, ih hn', expOf_cons]
      split
      · rename_i hv
        rw [← hv, expOf_notin t p.1 hp, toRat_zero_num _ h]
      · rfl
    · rw [BU.new_cons_ne t h, expOf_cons, expOf_cons, ih hn']

theorem expOf_map (g : Frac → Frac) (c : Rat → Rat) (hc0 : c 0 = 0) (hg : ∀ x : Frac, (g x).toRat = c x.toRat)
    (b : BU ι) (v : ι) : BU.expOf (b.map (fun p => (p.1, g p.2))) v = c (BU.expOf b v) := by
  induction b with
  | nil => simp [expOf_nil, hc0]
  | cons p t ih =>
    simp only [List.map_cons, expOf_cons, ih]
    split <;> simp [hg]

theorem addU_nodup (a b : BU ι) (ha : a.KeysNodup) : (a.addU b).KeysNodup := by
  induction b generalizing a with
  | nil => exact BU.new_nodup a ha
  | cons p t ih => exact ih _ (upd_nodup _ _ _ a ha)

theorem expOf_addU (a b : BU ι) (ha : a.WF) (hb : b.WF) (hna : a.KeysNodup) (hnb : b.KeysNodup) (v : ι) :
    (a.addU b).expOf v = a.expOf v + b.expOf v := by
  induction b generalizing a with
  | nil => rw [addU_nil, BU.expOf_new a hna, expOf_nil, add_zero]
  | cons p t ih =>
    obtain ⟨hp, ht⟩ := WF_cons.mp hb
    obtain ⟨hpt, hnt⟩ := List.nodup_cons.mp hnb
    rw [addU_cons, ih _ (addU_step_WF a ha hp) ht (upd_nodup _ _ _ a hna) hnt,
      expOf_upd _ _ _ (fun e he => toRat_add e p.2 he hp) a ha, expOf_cons]
    by_cases hv : p.1 = v
    · rw [if_pos hv, if_pos hv, expOf_notin t v (hv ▸ hpt), add_zero]
    · rw [if_neg hv, if_neg hv, add_zero]

end SciVerif.C06
