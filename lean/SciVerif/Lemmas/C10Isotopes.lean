import Mathlib.Tactic.Ring
import SciVerif.Model.C10
import SciVerif.Lemmas.Util.MapM

/-! C10: the isotope table — lookups in a well-formed table, the row `get_isotope` returns (`isoRow`), natural mean,
    first maximum (`np.argmax`). -/
namespace SciVerif.C10

/-- `PERIODIC_TABLE` and `isotopes.A` are keyed by symbol resp. mass number in Python, so keys cannot repeat;
    the association-list model has to assume it -/
def TableWF (tbl : List Elem) : Prop :=
  (tbl.map (·.sym)).Nodup ∧ ∀ el ∈ tbl, (el.isos.map (·.A)).Nodup

theorem lookupElem_eq_find (tbl : List Elem) (s : Str) :
    lookupElem tbl s = tbl.find? (fun el => el.sym == s) := by
  induction tbl with
  | nil => rfl
  | cons a t ih =>
    by_cases h : a.sym = s
    · simp [lookupElem, h]
    · simp [lookupElem, h, ih]

theorem lookupIso_eq_find (isos : List Iso) (a : Nat) :
    lookupIso isos a = isos.find? (fun i => i.A == a) := by
  induction isos with
  | nil => rfl
  | cons i t ih =>
    by_cases h : i.A = a
    · simp [lookupIso, h]
    · simp [lookupIso, h, ih]

theorem find_key_mem {β κ : Type} [BEq κ] [LawfulBEq κ] (key : β → κ) (l : List β) (x : β) (h : (l.map key).Nodup)
    (hm : x ∈ l) : l.find? (fun y => key y == key x) = some x := by
  induction l with
  | nil => cases hm
  | cons a t ih =>
    simp only [List.map_cons, List.nodup_cons] at h
    rcases List.mem_cons.mp hm with rfl | hm'
    · simp
    · have : key a ≠ key x := fun e => h.1 (e ▸ List.mem_map_of_mem (f := key) hm')
      simp [this, ih h.2 hm']

theorem lookupElem_mem (tbl : List Elem) (el : Elem) (h : (tbl.map (·.sym)).Nodup) (hm : el ∈ tbl) :
    lookupElem tbl el.sym = some el :=
  lookupElem_eq_find tbl el.sym ▸ find_key_mem (·.sym) tbl el h hm

theorem lookupIso_mem (isos : List Iso) (i : Iso) (h : (isos.map (·.A)).Nodup) (hm : i ∈ isos) :
    lookupIso isos i.A = some i :=
  lookupIso_eq_find isos i.A ▸ find_key_mem (·.A) isos i h hm

theorem lookupIso_some_A (isos : List Iso) (a : Nat) (i : Iso) (h : lookupIso isos a = some i) : i.A = a := by
  rw [lookupIso_eq_find] at h
  simpa using List.find?_some h

/-- the row `get_isotope` must return for isotope `i` of element `el` with charge number `q` -/
def isoRow (me : Rat) (el : Elem) (i : Iso) (q : Int) : Data :=
  { NA := i.NA, mass := i.M + (q : Rat) * me, Z := el.Z, N := ((i.A : Int) - (el.Z : Int) : Int),
    e := ((el.Z : Int) + q : Int), iso := i.A, ion := q }

theorem getIsotope_spec (tbl : List Elem) (me : Rat) (h : TableWF tbl) (el : Elem) (hel : el ∈ tbl)
    (i : Iso) (hi : i ∈ el.isos) (hA : i.A ≠ 0) (q : Int) :
    getIsotope tbl me el.sym i.A q = some (isoRow me el i q) := by
  simp [getIsotope, lookupElem_mem tbl el h.1 hel, hA, lookupIso_mem el.isos i (h.2 el hel) hi, isoRow]

theorem getNatural_spec (tbl : List Elem) (me : Rat) (h : TableWF tbl) (el : Elem) (hel : el ∈ tbl)
    (hA : ∀ i ∈ el.isos, i.A ≠ 0) (hne : el.isos ≠ []) (q : Int)
    (hw : sumR (el.isos.map (·.NA)) ≠ 0) :
    getNatural tbl me el.sym q =
      let ws := el.isos.map (·.NA)
      let avg := fun (v : Iso → Rat) => sumR (List.zipWith (· * ·) (el.isos.map v) ws) / sumR ws
      some { NA := sumR ws, mass := avg (fun i => i.M + (q : Rat) * me), Z := avg (fun _ => el.Z),
             N := avg (fun i => (((i.A : Int) - (el.Z : Int) : Int) : Rat)),
             e := avg (fun _ => (((el.Z : Int) + q : Int) : Rat)), iso := avg (fun i => i.A), ion := q } := by
  have hrows : el.isos.mapM (fun i => getIsotope tbl me el.sym i.A q) = some (el.isos.map (isoRow me el · q)) :=
    Util.mapM_eq_pure fun i hi => getIsotope_spec tbl me h el hel i hi (hA i hi) q
  obtain ⟨i0, t0, hcons⟩ := List.exists_cons_of_ne_nil hne
  simp only [getNatural, lookupElem_mem tbl el h.1 hel, hrows, List.map_map, wavg]
  have e1 : (List.map ((fun x => x.NA) ∘ fun x => isoRow me el x q) el.isos) = el.isos.map (·.NA) := rfl
  simp only [e1, hw, if_false]
  rw [hcons]
  rfl


/-- what `np.argmax` returns: `idx` holds a maximum of `l` and every earlier entry is smaller -/
def FirstMax (l : List Rat) (idx : Nat) : Prop :=
  ∃ x, l[idx]? = some x ∧ (∀ y ∈ l, y ≤ x) ∧ (∀ j, j < idx → ∀ y, l[j]? = some y → y < x)

theorem argmaxFrom_spec (t : List Rat) (pre : List Rat) (b : Rat) (bi : Nat)
    (h1 : pre[bi]? = some b) (h2 : ∀ y ∈ pre, y ≤ b) (h3 : ∀ j, j < bi → ∀ y, pre[j]? = some y → y < b) :
    FirstMax (pre ++ t) (argmaxFrom b bi pre.length t) := by
  generalize hi : pre.length = i
  -- case1: the list is exhausted; case2: a larger element, the new candidate; case3: the candidate stays
  fun_induction argmaxFrom b bi i t generalizing pre with
  | case1 b bi i => rw [List.append_nil]; exact ⟨b, h1, h2, h3⟩
  | case2 b bi i x t hlt ih =>
    rw [show pre ++ x :: t = (pre ++ [x]) ++ t by simp]
    refine ih (pre ++ [x]) (by simp [hi]) (List.forall_mem_append.mpr
      ⟨fun y hy => le_of_lt (lt_of_le_of_lt (h2 y hy) hlt), List.forall_mem_singleton.mpr (le_refl x)⟩) ?_ (by simp [hi])
    · intro j hj y hy
      rw [List.getElem?_append_left (hi ▸ hj)] at hy
      exact lt_of_le_of_lt (h2 y (List.mem_of_getElem? hy)) hlt
  | case3 b bi i x t hlt ih =>
    have hbi : bi < pre.length := by
      by_contra hc
      rw [List.getElem?_eq_none (by omega)] at h1
      cases h1
    rw [show pre ++ x :: t = (pre ++ [x]) ++ t by simp]
    refine ih (pre ++ [x]) (by rw [List.getElem?_append_left hbi]; exact h1)
      (List.forall_mem_append.mpr ⟨h2, List.forall_mem_singleton.mpr (not_lt.mp hlt)⟩) ?_ (by simp [hi])
    · intro j hj y hy
      rw [List.getElem?_append_left (by omega)] at hy
      exact h3 j hj y hy

theorem argmax_spec (l : List Rat) (idx : Nat) (h : argmax l = some idx) : FirstMax l idx := by
  cases l with
  | nil => simp [argmax] at h
  | cons x t =>
    simp only [argmax, Option.some.injEq] at h
    subst h
    have := argmaxFrom_spec t [x] x 0 (by simp) (by simp) (by intro j hj; omega)
    simpa using this

theorem getAbundant_spec (tbl : List Elem) (me : Rat) (h : TableWF tbl) (el : Elem) (hel : el ∈ tbl)
    (hA : ∀ i ∈ el.isos, i.A ≠ 0) (hne : el.isos ≠ []) (q : Int) :
    ∃ idx i, FirstMax (el.isos.map (·.NA)) idx ∧ el.isos[idx]? = some i ∧
      getAbundant tbl me el.sym q = some (isoRow me el i q) := by
  obtain ⟨i0, t0, hcons⟩ := List.exists_cons_of_ne_nil hne
  obtain ⟨idx, hidx⟩ : ∃ idx, argmax (el.isos.map (·.NA)) = some idx := by
    rw [hcons]; exact ⟨_, rfl⟩
  have hfm := argmax_spec _ idx hidx
  obtain ⟨x, hx, _, _⟩ := argmax_spec _ idx hidx
  have hlt : idx < el.isos.length := by
    by_contra hc
    rw [List.getElem?_eq_none (by simpa using hc)] at hx
    cases hx
  have hmem : el.isos[idx] ∈ el.isos := List.getElem_mem hlt
  refine ⟨idx, el.isos[idx], hfm, List.getElem?_eq_getElem hlt, ?_⟩
  simp only [getAbundant, lookupElem_mem tbl el h.1 hel, hidx, List.getElem?_eq_getElem hlt]
  exact getIsotope_spec tbl me h el hel _ hmem (hA _ hmem) q

theorem sumR_cons (x : Rat) (l : List Rat) : sumR (x :: l) = x + sumR l := by
  have : ∀ (l : List Rat) (a : Rat), l.foldl (· + ·) a = a + l.foldl (· + ·) 0 := by
    intro l
    induction l with
    | nil => intro a; simp
    | cons y t ih => intro a; simp only [List.foldl_cons]; rw [ih (a + y), ih (0 + y)]; ring
  simp only [sumR, List.foldl_cons]
  rw [this l (0 + x)]; ring

end SciVerif.C10
