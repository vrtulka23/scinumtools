import SciVerif.Lemmas.C19Values
/-!
# C19 — Fortran: declaration lines (scalar, constructor, `reshape`) and whole modules under the guard

`fortranGuard` says which kinds the export carries, `ParamOKF` is the condition on a parameter; the theorems are
`readFortranLine_lineFortran` and `readFortran_exportFortran`.
-/
namespace SciVerif.C19

theorem writes_nat (q : Quoting) (d : Nat) : Writes q '[' ']' (showNat d) [.leaf (showNat d)] :=
  .tok (.bare _ (showNat_ne_nil d) (showNat_plain d))

theorem writes_commaNats (q : Quoting) : ∀ l : List Nat, l ≠ [] →
    Writes q '[' ']' (commaNats l) (l.map fun d => Tree.leaf (showNat d))
  | [], h => absurd rfl h
  | [d], _ => writes_nat q d
  | d :: e :: l, _ => by
    rw [commaNats_cons_cons]
    exact (writes_nat q d).sep good_bracket ',' (.inl rfl) (writes_commaNats q (e :: l) (List.cons_ne_nil _ _))

theorem writes_typed (q : Quoting) (dtype : Str) (hne : dtype ≠ []) (hp : ∀ ch ∈ dtype, plainChar '[' ']' ch)
    (ts : List TokTree) (h : SafeTrees q '[' ']' ts) :
    Writes q '[' ']' (dtype ++ (cs!" :: " ++ printToks '[' ']' ts)) (Tree.leaf dtype :: Tree.leaf [':', ':'] :: ts) :=
  (Writes.tok (.bare _ hne hp)).sep good_bracket ' ' (.inr rfl)
    ((Writes.tok (.bare [':', ':'] (List.cons_ne_nil _ _) (by decide))).sep good_bracket ' ' (.inr rfl)
      (writes_trees good_bracket ts h))

/-- `[ … ],[dims],order=[ord]` : the arguments of `reshape` -/
def reshapeArgs (x : Str) (dims ord : List Nat) : Str :=
  ['['] ++ (x ++ (cs!"],[" ++ (commaNats dims ++ (cs!"],order=[" ++ (commaNats ord ++ [']'])))))

theorem parseItems_reshape (q : Quoting) (x : Str) (items : List TokTree) (h : Writes q '[' ']' x items)
    (dims ord : List Nat) (hd : dims ≠ []) (ho : ord ≠ []) :
    parseItems q '[' ']' (reshapeArgs x dims ord) =
      some [Tree.arr items, Tree.arr (dims.map (fun d => Tree.leaf (showNat d))), Tree.leaf (cs!"order="),
            Tree.arr (ord.map (fun d => Tree.leaf (showNat d)))] := by
  -- three bracketed groups, the third directly after the bare token `order=`
  have hsplit : reshapeArgs x dims ord = ([] ++ '[' :: (x ++ [']'])) ++ ',' :: (([] ++ '[' :: (commaNats dims ++ [']'])) ++
      ',' :: (cs!"order=" ++ '[' :: (commaNats ord ++ [']']))) := by simp [reshapeArgs]
  rw [hsplit]
  exact parseItems_of_writes ((Writes.group good_bracket .nil h).sep good_bracket ',' (.inl rfl)
    ((Writes.group good_bracket .nil (writes_commaNats q dims hd)).sep good_bracket ',' (.inl rfl)
      (Writes.group good_bracket (.tok (.bare _ (List.cons_ne_nil _ _) (by decide))) (writes_commaNats q ord ho))))

theorem flattenList_tokTrees_ne_nil (st : Style) (vs : List Val) (sh : List Nat) (hne : vs ≠ [])
    (hall : ∀ t ∈ vs, rectShape t = some sh) (h0 : 0 ∉ sh) : flattenList (tokTrees st vs) ≠ [] := by
  cases vs with
  | nil => exact absurd rfl hne
  | cons v vs =>
    have := flatten_ne_nil (tokTree st v) sh (by rw [rectShape_tokTree]; exact hall v (by simp)) h0
    simp [tokTrees_cons, flattenList_cons, this]

mutual
/-- Fortran's `_parse_array` joins the texts of the sub-arrays again: the result is the flat list -/
theorem flat_val : (v : Val) → ∀ sh, rectShape v = some sh → 0 ∉ sh →
    printVal styleFortran v = printToks '[' ']' ((flatten (tokTree styleFortran v)).map Tree.leaf)
  | .leaf s, _, _, _ => rfl
  | .arr vs, sh, h, h0 => by
    rcases rectShape_arr vs sh h with ⟨_, rfl⟩ | ⟨s, rfl, _, hall⟩
    · simp at h0
    · have h0' : 0 ∉ s := fun hm => h0 (by simp [hm])
      simp only [printVal, styleFortran, List.nil_append, List.append_nil, tokTree_arr, flatten_arr]
      exact flat_vals vs s hall h0'
theorem flat_vals : (vs : List Val) → ∀ s, (∀ t ∈ vs, rectShape t = some s) → 0 ∉ s →
    printVals styleFortran vs = printToks '[' ']' ((flattenList (tokTrees styleFortran vs)).map Tree.leaf)
  | [], _, _, _ => rfl
  | [v], s, h, h0 => by
    have := flat_val v s (h v (by simp)) h0
    simp [printVals, tokTrees, flattenList, this]
  | v :: w :: vs, s, h, h0 => by
    have h1 := flat_val v s (h v (by simp)) h0
    have h2 := flat_vals (w :: vs) s (fun t ht => h t (by simp [ht])) h0
    have n1 : (flatten (tokTree styleFortran v)).map Tree.leaf ≠ [] := by
      have := flatten_ne_nil (tokTree styleFortran v) s (by rw [rectShape_tokTree]; exact h v (by simp)) h0
      simpa using this
    have n2 : (flattenList (tokTrees styleFortran (w :: vs))).map Tree.leaf ≠ [] := by
      have := flattenList_tokTrees_ne_nil styleFortran (w :: vs) s (by simp) (fun t ht => h t (by simp [ht])) h0
      simpa using this
    have e : (flattenList (tokTrees styleFortran (v :: w :: vs))).map Tree.leaf =
        (flatten (tokTree styleFortran v)).map Tree.leaf ++
          (flattenList (tokTrees styleFortran (w :: vs))).map Tree.leaf := by
      rw [tokTrees_cons, flattenList_cons, List.map_append]
    have e0 : printVals styleFortran (v :: w :: vs) =
        printVal styleFortran v ++ [',', ' '] ++ printVals styleFortran (w :: vs) := by simp [printVals]
    rw [e0, h1, h2, e, printToks_append _ _ _ _ n1 n2]
    simp
end

theorem safeTrees_append (q : Quoting) (o c : Char) : (a b : List TokTree) → SafeTrees q o c a → SafeTrees q o c b →
    SafeTrees q o c (a ++ b)
  | [], _, _, hb => hb
  | _ :: a, b, ha, hb => ⟨ha.1, safeTrees_append q o c a b ha.2 hb⟩

mutual
theorem safe_flatten (q : Quoting) (o c : Char) : (t : TokTree) → SafeTree q o c t →
    SafeTrees q o c ((flatten t).map Tree.leaf)
  | .leaf _, h => ⟨h, trivial⟩
  | .arr ts, h => safe_flattenList q o c ts h
theorem safe_flattenList (q : Quoting) (o c : Char) : (ts : List TokTree) → SafeTrees q o c ts →
    SafeTrees q o c ((flattenList ts).map Tree.leaf)
  | [], _ => trivial
  | t :: ts, h => by
    rw [flattenList_cons, List.map_append]
    exact safeTrees_append q o c _ _ (safe_flatten q o c t h.1) (safe_flattenList q o c ts h.2)
end

theorem mapM_leafTok (l : List Str) : (l.map Tree.leaf).mapM leafTok = some l :=
  mapM_map_some Tree.leaf leafTok (fun _ => rfl) l

theorem natList_leaves (l : List Nat) : natList (.arr (l.map (fun d => Tree.leaf (showNat d)))) = some l := by
  simp only [natList]
  exact mapM_map_some (fun d => Tree.leaf (showNat d)) (fun x => (leafTok x).bind readNat)
    (fun d => by simp [leafTok, readNat_showNat]) l

theorem tokTrees_flat (st : Style) : ∀ vs : List Val, (∀ t ∈ vs, rectShape t = some []) →
    (flattenList (tokTrees st vs)).map Tree.leaf = tokTrees st vs
  | [], _ => rfl
  | v :: vs, h => by
    obtain ⟨s, rfl⟩ := leaf_of_shape_nil v (h v (by simp))
    have ih := tokTrees_flat st vs (fun t ht => h t (by simp [ht]))
    simp [tokTrees_cons, tokTree_leaf, flattenList_cons, flatten_leaf, ih]

/-- the kinds the Fortran export carries faithfully: logical and character always; integers whose
    literals fit the default kind and the declared kind (finding `fortran:int-literal-kind`); reals of
    default kind only (finding `fortran:real-literal-kind`); no unsigned integers (finding `fortran:unsigned`) -/
def fortranGuard (p : Param) : Bool :=
  match p.kind with
  | .bool => true
  | .str => true
  | .int => fitsInt p.bits p.value
  | .uint => false
  | .float => p.bits == 32

/-- the Fortran style with brackets (the scalars are printed the same way) -/
def styleFB : Style := { styleFortran with opn := ['['], cls := [']'] }

mutual
theorem tokTree_styleFB : (v : Val) → tokTree styleFB v = tokTree styleFortran v
  | .leaf s => by cases s <;> rfl
  | .arr vs => by rw [tokTree_arr, tokTree_arr, tokTrees_styleFB vs]
theorem tokTrees_styleFB : (vs : List Val) → tokTrees styleFB vs = tokTrees styleFortran vs
  | [] => rfl
  | v :: vs => by rw [tokTrees_cons, tokTrees_cons, tokTree_styleFB v, tokTrees_styleFB vs]
end

theorem styleFB_ok : StyleOK styleFB '[' ']' where
  good := good_bracket
  opn := rfl
  cls := rfl
  ne := by decide
  tru := SafeTok.bare _ (by decide) (by decide)
  fls := SafeTok.bare _ (by decide) (by decide)
  fc := plain_of_floatChar '[' ']' rfl rfl

theorem safe_tokTree_fortran (k : Kind) (v : Val) (hv : ValOK k v) :
    SafeTree .doubled '[' ']' (tokTree styleFortran v) := by
  have := safe_tree styleFB '[' ']' styleFB_ok k v hv
  rw [tokTree_styleFB] at this
  exact this

mutual
theorem fitsInt_other (b : Nat) (k : Kind) (hk : k ≠ Kind.int ∧ k ≠ Kind.uint) :
    (v : Val) → ValOK k v → fitsInt b v = true
  | .leaf (.i x), h => (h : ScalarOK k (.i x)).elim (absurd · hk.1) (absurd · hk.2)
  | .leaf (.b _), _ => rfl
  | .leaf (.f _), _ => rfl
  | .leaf (.s _), _ => rfl
  | .arr vs, h => fitsIntList_other b k hk vs h
theorem fitsIntList_other (b : Nat) (k : Kind) (hk : k ≠ Kind.int ∧ k ≠ Kind.uint) :
    (vs : List Val) → ValsOK k vs → fitsIntList b vs = true
  | [], _ => rfl
  | v :: vs, h => by
    rw [fitsIntList, fitsInt_other b k hk v h.1, fitsIntList_other b k hk vs h.2]
    rfl
end

mutual
theorem strLens_other (k : Kind) (hk : k ≠ Kind.str) : (v : Val) → ValOK k v → strLens v = []
  | .leaf (.s x), h => absurd (h : ScalarOK k (.s x)) hk
  | .leaf (.b _), _ => rfl
  | .leaf (.i _), _ => rfl
  | .leaf (.f _), _ => rfl
  | .arr vs, h => strLensList_other k hk vs h
theorem strLensList_other (k : Kind) (hk : k ≠ Kind.str) : (vs : List Val) → ValsOK k vs → strLensList vs = []
  | [], _ => rfl
  | v :: vs, h => by
    rw [strLensList, strLens_other k hk v h.1, strLensList_other k hk vs h.2]
    rfl
end

theorem utf8Len_append (a b : Str) : utf8Len (a ++ b) = utf8Len a + utf8Len b := by
  simp [utf8Len, List.sum_append]

theorem utf8Len_cons (c : Char) (s : Str) : utf8Len (c :: s) = c.utf8Size + utf8Len s := rfl

theorem utf8Len_replaceChar (c : Char) (r : Str) (hr : c.utf8Size ≤ utf8Len r) :
    ∀ s : Str, utf8Len s ≤ utf8Len (replaceChar c r s)
  | [] => Nat.le_refl _
  | x :: s => by
    have ih := utf8Len_replaceChar c r hr s
    rw [replaceChar_cons, utf8Len_append, utf8Len_cons]
    split
    · rename_i e; rw [e]; omega
    · have h0 : utf8Len ([] : Str) = 0 := rfl
      rw [utf8Len_cons, h0]; omega

theorem utf8Len_escStr (q : Quoting) (v : Str) : utf8Len v ≤ utf8Len (escStr q v) := by
  cases q
  · exact Nat.le_trans (utf8Len_replaceChar _ _ (by decide) v) (utf8Len_replaceChar _ _ (by decide) _)
  · exact utf8Len_replaceChar _ _ (by decide) v

mutual
/-- no character literal is longer (in bytes) than the rendered value the declared length is taken from -/
theorem strLens_le (st : Style) : (v : Val) → ∀ n ∈ strLens v, n ≤ utf8Len (printVal st v)
  | .leaf s, n, hn => by
    cases s with
    | s x =>
      simp only [strLens, List.mem_singleton] at hn
      subst hn
      have := utf8Len_escStr st.q x
      simp only [printVal, printScalar, quoteStr, utf8Len_cons, utf8Len_append]
      omega
    | b x => simp [strLens] at hn
    | i x => simp [strLens] at hn
    | f x => simp [strLens] at hn
  | .arr vs, n, hn => by
    simp only [strLens] at hn
    have := strLensList_le st vs n hn
    simp only [printVal, utf8Len_append]
    omega
theorem strLensList_le (st : Style) : (vs : List Val) → ∀ n ∈ strLensList vs, n ≤ utf8Len (printVals st vs)
  | [], n, hn => nomatch hn
  | [v], n, hn => by
    simp only [strLensList, List.append_nil] at hn
    simpa [printVals] using strLens_le st v n hn
  | v :: w :: vs, n, hn => by
    simp only [strLensList, List.mem_append] at hn
    simp only [printVals, utf8Len_append]
    rcases hn with h | h
    · have := strLens_le st v n h; omega
    · have := strLensList_le st (w :: vs) n (by simpa [strLensList] using h); omega
end

theorem charLen_character (n : Nat) : charLen? (cs!"character(len=" ++ (showNat n ++ [')'])) = some n := by
  have h := dropLastChar_snoc ')' (showNat n)
  simp only [charLen?, dropPrefix_append, Option.bind_eq_bind, Option.bind_some, h, readNat_showNat]

/-- what the reader learns from the declared type of a guarded parameter; `bits` is the width of a number and the
    `len=` of a string, `narrow` the flag `fortranFinish` computes -/
structure FHead (p : Param) (dtype : Str) (bits : Nat) : Prop where
  nocomma : ∀ ch ∈ dtype, ch ≠ ','
  cleanT : clean dtype = true
  kind : fortranKind dtype = some (p.kind, bits)
  fits : fitsInt bits p.value = true
  lens : ∀ n ∈ strLens p.value, n ≤ bits
  narrow : decide (p.kind = Kind.float ∧ bits > 32) = false
  typedPlain : p.kind = Kind.str → dtype ≠ [] ∧ ∀ ch ∈ dtype, plainChar '[' ']' ch

theorem charType_chars (n : Nat) :
    ∀ ch ∈ cs!"character(len=" ++ showNat n ++ [')'], plainChar '[' ']' ch ∧ ch ≠ '\n' := by
  have hlit : ∀ ch ∈ cs!"character(len=" ++ [')'], plainChar '[' ']' ch ∧ ch ≠ '\n' := by decide +kernel
  exact List.forall_mem_append.mpr ⟨List.forall_mem_append.mpr ⟨fun ch h => hlit ch (List.mem_append_left _ h),
    fun ch h => ⟨showNat_plain n ch h, Util.ne_of_class (showNat_floatChars n ch h) rfl⟩⟩,
    fun ch h => hlit ch (List.mem_append_right _ h)⟩

theorem fhead_str (p : Param) (hs : p.kind = Kind.str) (hv : ValOK p.kind p.value) (n : Nat)
    (hn : ∀ m ∈ strLens p.value, m ≤ n) : FHead p (cs!"character(len=" ++ showNat n ++ [')']) n where
  nocomma := fun ch hch => (charType_chars n ch hch).1.2.2.2.1
  cleanT := (clean_iff _).mpr (fun ch hch => (charType_chars n ch hch).2)
  kind := by rw [List.append_assoc, fortranKind, charLen_character, hs]
  fits := fitsInt_other _ p.kind (by rw [hs]; decide) p.value hv
  lens := hn
  narrow := by rw [hs]; rfl
  typedPlain := fun _ =>
    ⟨List.append_ne_nil_of_right_ne_nil _ (List.cons_ne_nil _ _), fun ch hch => (charType_chars n ch hch).1⟩

theorem fortranGuard_spec (p : Param) (hg : fortranGuard p = true) :
    p.kind ≠ Kind.uint ∧ (p.kind = Kind.int → fitsInt p.bits p.value = true) ∧ (p.kind = Kind.float → p.bits = 32) := by
  unfold fortranGuard at hg
  cases hk : p.kind <;> simp_all

/-- the Fortran sibling of `targetKind_of_lookup`: what table and compiler probe say of the type of a kind other than
    string and unsigned -/
theorem fortranKind_of_lookup (k : Kind) (bits : Nat) (t : Str) (h : lookupType bFortran k bits = some t)
    (hs : k ≠ Kind.str) (hu : k ≠ Kind.uint) (hf : k = Kind.float → bits = 32) :
    (∃ b, fortranKind t = some (k, b) ∧ (k = Kind.int → b = bits) ∧ (k = Kind.float → b = 32)) ∧
      (∀ ch ∈ t, ch ≠ ',') ∧ clean t = true := by
  obtain ⟨r, hm, h1, rfl, rfl, h4⟩ := lookupType_row bFortran _ _ t h
  obtain ⟨fc, _, _, f⟩ := typeRows_spec r hm t h4
  obtain ⟨f1, f2, f3, f4, f5⟩ := f h1 hs
  refine ⟨?_, fun ch hch => of_decide_eq_true (List.all_eq_true.mp f2 ch hch), fc⟩
  rw [fortranKind, f1]
  cases hk : r.2.1 with
  | bool => exact (exists_of_map_fst (f3 hk)).imp fun b e => ⟨e, nofun, nofun⟩
  | int => exact ⟨_, f4 hk, fun _ => rfl, nofun⟩
  | uint => exact absurd hk hu
  | float => exact ⟨32, f5 hk (hf hk), nofun, fun _ => rfl⟩
  | str => exact absurd hk hs

theorem fhead (p : Param) (hg : fortranGuard p = true) (hv : ValOK p.kind p.value) (dtype : Str)
    (ht : fortranType p (printVal styleFortran p.value) = some dtype) : ∃ bits, FHead p dtype bits := by
  unfold fortranType at ht
  by_cases hs : p.kind = Kind.str
  · rw [if_pos hs, Option.some.injEq] at ht
    exact ⟨_, ht ▸ fhead_str p hs hv _ (strLens_le styleFortran p.value)⟩
  · rw [if_neg hs] at ht
    obtain ⟨hu, hint, hfl⟩ := fortranGuard_spec p hg
    obtain ⟨⟨bits, hk, hbi, hbf⟩, hnc, hcl⟩ := fortranKind_of_lookup p.kind p.bits dtype ht hs hu hfl
    exact ⟨bits, {
      nocomma := hnc
      cleanT := hcl
      kind := hk
      fits := (Decidable.em (p.kind = Kind.int)).elim (fun hi => hbi hi ▸ hint hi)
        (fun hi => fitsInt_other bits p.kind ⟨hi, hu⟩ p.value hv)
      lens := fun n hn => by rw [strLens_other p.kind hs p.value hv] at hn; cases hn
      narrow := decide_eq_false fun h => absurd (hbf h.1 ▸ h.2) (by decide)
      typedPlain := fun e => absurd e hs }⟩

theorem lensOK_of_le (typed : Bool) (bits : Nat) (ns : List Nat) (hle : ∀ n ∈ ns, n ≤ bits)
    (h : typed = true ∨ ns.length ≤ 1) : lensOK typed bits ns = true := by
  match ns, h with
  | [], _ => rfl
  | n :: ns, h =>
    have h1 : (typed || ns.all (· = n)) = true := h.elim (fun e => by rw [e]; rfl) fun e => by
      rw [List.length_eq_zero_iff.mp (Nat.le_zero.mp (Nat.le_of_succ_le_succ e))]; exact Bool.or_true _
    rw [lensOK, h1, Bool.true_and]
    exact List.all_eq_true.mpr fun m hm => decide_eq_true (hle m hm)

theorem fortranFinish_ok (p : Param) (dtype : Str) (bits : Nat) (hh : FHead p dtype bits)
    (hv : ValOK p.kind p.value) (name : Str) (dims : List Nat) (typed : Bool)
    (hty : p.kind = Kind.str → typed = true ∨ ∃ x, p.value = .leaf (.s x)) :
    fortranFinish dtype p.kind bits name dims (tokTree styleFortran p.value) typed =
      some ⟨name, dtype, dims, false, p.value⟩ := by
  have hi : interp .doubled p.kind (cs!".true.") (cs!".false.") (tokTree styleFortran p.value) = some p.value :=
    interp_tokTree styleFortran (by decide) p.kind p.value hv
  have hcond : lensOK typed bits (strLens p.value) = true := lensOK_of_le _ _ _ hh.lens (by
    by_cases hs : p.kind = Kind.str
    · exact (hty hs).imp id fun ⟨x, hx⟩ => by rw [hx]; exact Nat.le_refl 1
    · rw [strLens_other p.kind hs p.value hv]; exact .inr (Nat.zero_le 1))
  have hn := hh.narrow
  simp only [fortranFinish, hi, Option.bind_eq_bind, Option.bind_some, hh.fits, not_true_eq_false, if_false, hn]
  simp [hcond]

theorem readFortranLine_head (dtype rest : Str) (k : Kind) (bits : Nat) (hnc : ∀ ch ∈ dtype, ch ≠ ',')
    (hk : fortranKind dtype = some (k, bits)) :
    readFortranLine (cs!"  " ++ (dtype ++ (cs!", " ++ rest))) = readFortranRest dtype k bits rest := by
  have hsp := span_stop_lit (fun c => decide (c ≠ ',')) dtype ',' [' '] rest
    (fun ch hch => by simpa using hnc ch hch) rfl
  simp only [readFortranLine, dropPrefix_append, Option.bind_eq_bind, Option.bind_some, hsp, hk]

theorem name_span (name l rest : Str) (hn : ∀ ch ∈ name, ch ≠ ' ') :
    (name ++ ((' ' :: l) ++ rest)).span (fun c => decide (c ≠ ' ')) = (name, (' ' :: l) ++ rest) :=
  span_stop_lit _ name ' ' l rest (fun ch hch => by simpa using hn ch hch) rfl

/-- the inside of the constructor the exporter writes: `TYPE :: ` before the elements of a string array -/
def ctorInside (p : Param) (dtype : Str) : Str :=
  if p.value.isArr ∧ p.kind = Kind.str then dtype ++ (cs!" :: " ++ printVal styleFortran p.value)
  else printVal styleFortran p.value

theorem ctorInside_eq (p : Param) (dtype : Str) :
    (if p.value.isArr ∧ p.kind = Kind.str then dtype ++ cs!" :: " ++ printVal styleFortran p.value
     else printVal styleFortran p.value) = ctorInside p dtype := by
  unfold ctorInside
  split <;> simp

def scalarTail (name ctor : Str) : Str := cs!"parameter :: " ++ (name ++ (cs!" = " ++ (ctor ++ [';'])))

def vectorTail (name ctor : Str) (sh : List Nat) : Str :=
  cs!"dimension (" ++ (commaNats sh ++ (cs!") :: " ++ (name ++ (cs!" = " ++ ((['['] ++ (ctor ++ [']'])) ++ [';'])))))

def reshapeTail (name ctor : Str) (sh : List Nat) : Str :=
  cs!"dimension (" ++ (commaNats sh ++ (cs!"), parameter :: " ++ (name ++ (cs!" = reshape(" ++
    (reshapeArgs ctor sh (orderList sh.length) ++ [')'])))))

theorem readFortranRest_scalar (p : Param) (s : Scalar) (hval : p.value = .leaf s) (dtype : Str) (bits : Nat)
    (hh : FHead p dtype bits) (hv : ValOK p.kind p.value) (name : Str) (hn : ∀ ch ∈ name, ch ≠ ' ') :
    readFortranRest dtype p.kind bits (scalarTail name (ctorInside p dtype)) = some ⟨name, dtype, [], false, p.value⟩ := by
  have hparse := parseInit_printTok .doubled '[' ']' good_bracket _ (safe_tokTree_fortran p.kind p.value hv)
  have hfin := fortranFinish_ok p dtype bits hh hv name [] false (fun hk => Or.inr (by
    rw [hval, hk] at hv
    obtain ⟨x, rfl⟩ := scalarOK_str s hv
    exact ⟨x, hval⟩))
  rw [hval] at hparse hfin
  simp only [tokTree_leaf, printTok] at hparse hfin
  have hin : ctorInside p dtype = printScalar styleFortran s := by
    rw [ctorInside, if_neg (fun h => by rw [hval] at h; cases h.1), hval]
    rfl
  simp only [scalarTail, readFortranRest, dropPrefix_append, readFortranScalar, name_span name _ _ hn, Option.bind_eq_bind,
    hin, Option.bind_some, dropLastChar_snoc, hparse, hval]
  exact hfin

theorem printScalar_ne_colons (k : Kind) (s : Scalar) (h : ScalarOK k s) : printScalar styleFortran s ≠ [':', ':'] := by
  rcases printScalar_cases styleFortran k s h with ⟨v, rfl⟩ | e | e | ⟨_, e⟩
  · exact fun e => nomatch e
  · exact e ▸ by decide
  · exact e ▸ by decide
  · exact fun e' => absurd (e ':' (e' ▸ List.mem_cons_self)) (by decide)

mutual
theorem flatten_toks_ne (k : Kind) : (v : Val) → ValOK k v → ∀ tok ∈ flatten (tokTree styleFortran v), tok ≠ [':', ':']
  | .leaf s, h, _, ht => List.mem_singleton.mp ht ▸ printScalar_ne_colons k s h
  | .arr vs, h, tok, ht => flattenList_toks_ne k vs h tok ht
theorem flattenList_toks_ne (k : Kind) : (vs : List Val) → ValsOK k vs →
    ∀ tok ∈ flattenList (tokTrees styleFortran vs), tok ≠ [':', ':']
  | [], _, tok, ht => nomatch ht
  | v :: vs, h, tok, ht => by
    rw [tokTrees_cons, flattenList_cons] at ht
    exact (List.mem_append.mp ht).elim (flatten_toks_ne k v h.1 tok) (flattenList_toks_ne k vs h.2 tok)
end

theorem stripTypeSpec_untyped (decl : Str) (toks : List Str) (h : ∀ tok ∈ toks, tok ≠ [':', ':']) :
    stripTypeSpec decl (toks.map Tree.leaf) = (toks.map Tree.leaf, false) := by
  cases toks with
  | nil => rfl
  | cons a r =>
    cases r with
    | nil => rfl
    | cons b r =>
      have hb : b ≠ [':', ':'] := h b (by simp)
      simp [stripTypeSpec, hb]

theorem stripTypeSpec_typed (decl : Str) (ts : List TokTree) :
    stripTypeSpec decl (Tree.leaf decl :: Tree.leaf [':', ':'] :: ts) = (ts, true) := by
  simp [stripTypeSpec]

/-- both array forms rest on this: what the machine makes of the inside of the constructor (`stripTypeSpec` then leaves
    the flat list of element tokens), and the final check on the value read from them -/
theorem constructor_inside (p : Param) (dtype : Str) (bits : Nat) (hh : FHead p dtype bits)
    (hv : ValOK p.kind p.value) (sh : List Nat) (hr : rectShape p.value = some sh) (h0 : 0 ∉ sh)
    (hia : p.value.isArr = true) :
    (∃ items, Writes .doubled '[' ']' (ctorInside p dtype) items ∧
      stripTypeSpec dtype items = ((flatten (tokTree styleFortran p.value)).map Tree.leaf,
        decide (p.value.isArr ∧ p.kind = Kind.str))) ∧
    ∀ name dims, fortranFinish dtype p.kind bits name dims (tokTree styleFortran p.value)
      (decide (p.value.isArr ∧ p.kind = Kind.str)) = some ⟨name, dtype, dims, false, p.value⟩ := by
  refine ⟨?_, fun name dims => fortranFinish_ok p dtype bits hh hv name dims _ fun hs => Or.inl (by simp [hia, hs])⟩
  have hsafe := safe_flatten .doubled '[' ']' _ (safe_tokTree_fortran p.kind p.value hv)
  have hflat := flat_val p.value sh hr h0
  unfold ctorInside
  by_cases hc : p.value.isArr ∧ p.kind = Kind.str
  · obtain ⟨hne, hpl⟩ := hh.typedPlain hc.2
    refine ⟨Tree.leaf dtype :: Tree.leaf [':', ':'] :: (flatten (tokTree styleFortran p.value)).map Tree.leaf, ?_, ?_⟩
    · rw [if_pos hc, hflat]
      exact writes_typed .doubled dtype hne hpl _ hsafe
    · rw [stripTypeSpec_typed]; simp [hc]
  · refine ⟨(flatten (tokTree styleFortran p.value)).map Tree.leaf, ?_, ?_⟩
    · rw [if_neg hc, hflat]
      exact writes_trees good_bracket _ hsafe
    · rw [stripTypeSpec_untyped dtype _ (flatten_toks_ne p.kind p.value hv)]; simp [hc]

theorem commaNats_span (sh : List Nat) (l rest : Str) :
    (commaNats sh ++ ((')' :: l) ++ rest)).span (fun c => decide (c ≠ ')')) = (commaNats sh, (')' :: l) ++ rest) :=
  span_stop_lit _ _ ')' l rest (fun ch hch => decide_eq_true (commaNats_no ')' rfl (by decide) sh ch hch)) rfl

theorem readFortranRest_vector (p : Param) (dtype : Str) (bits : Nat) (hh : FHead p dtype bits)
    (hv : ValOK p.kind p.value) (n : Nat) (hr : rectShape p.value = some [n]) (h0 : 0 ∉ [n])
    (hia : p.value.isArr = true) (name : Str) (hn : ∀ ch ∈ name, ch ≠ ' ') :
    readFortranRest dtype p.kind bits (vectorTail name (ctorInside p dtype) [n]) = some ⟨name, dtype, [n], false, p.value⟩ := by
  obtain ⟨⟨items, hin, hstrip⟩, hfin⟩ := constructor_inside p dtype bits hh hv [n] hr h0 hia
  have hparse : parseInit .doubled '[' ']' (['['] ++ (ctorInside p dtype ++ [']'])) = some (Tree.arr items) :=
    parseInit_of_writes (.arr good_bracket hin)
  obtain ⟨vs, hvs, _, hchild⟩ := arr_of_shape_one p.value n hr h0
  have htree : Tree.arr ((flatten (tokTree styleFortran p.value)).map Tree.leaf) = tokTree styleFortran p.value := by
    rw [hvs]
    simp only [tokTree_arr, flatten_arr]
    rw [tokTrees_flat styleFortran vs hchild]
  have hshape : rectShape (tokTree styleFortran p.value) = some [n] := by rw [rectShape_tokTree]; exact hr
  have hnp : ∀ rest : Str, dropPrefix? (cs!"parameter :: ") (cs!"dimension (" ++ rest) = none := fun _ => rfl
  rw [vectorTail, readFortranRest, hnp]
  simp only [dropPrefix_append, Option.bind_eq_bind, Option.bind_some, commaNats_span,
    parseCommaNats_commaNats [n] (List.cons_ne_nil _ _), readFortranVector, name_span name _ _ hn, dropLastChar_snoc, hparse,
    hstrip, htree, hshape]
  simpa using hfin name [n]

theorem orderList_ne_nil (k : Nat) (h : 0 < k) : orderList k ≠ [] := by
  cases k with
  | zero => omega
  | succ k => simp [orderList, List.range_succ]

theorem readFortranRest_reshape (p : Param) (dtype : Str) (bits : Nat) (hh : FHead p dtype bits)
    (hv : ValOK p.kind p.value) (sh : List Nat) (hr : rectShape p.value = some sh) (h0 : 0 ∉ sh)
    (hrank : 1 < sh.length) (hia : p.value.isArr = true) (name : Str) (hn : ∀ ch ∈ name, ch ≠ ' ') :
    readFortranRest dtype p.kind bits (reshapeTail name (ctorInside p dtype) sh) = some ⟨name, dtype, sh, false, p.value⟩ := by
  obtain ⟨⟨items, hin, hstrip⟩, hfin⟩ := constructor_inside p dtype bits hh hv sh hr h0 hia
  have hshne : sh ≠ [] := by intro e; rw [e] at hrank; cases hrank
  have hparse := parseItems_reshape .doubled _ items hin sh (orderList sh.length) hshne
    (orderList_ne_nil _ (by omega))
  have hshape : rectShape (tokTree styleFortran p.value) = some sh := by rw [rectShape_tokTree]; exact hr
  have hresh := reshapeF_flatten (tokTree styleFortran p.value) sh hshape
  have hnp : ∀ rest : Str, dropPrefix? (cs!"parameter :: ") (cs!"dimension (" ++ rest) = none := fun _ => rfl
  have hnv : ∀ rest : Str, dropPrefix? (cs!") :: ") (cs!"), parameter :: " ++ rest) = none := fun _ => rfl
  rw [reshapeTail, readFortranRest, hnp]
  simp only [dropPrefix_append, Option.bind_eq_bind, Option.bind_some, commaNats_span, parseCommaNats_commaNats sh hshne,
    hnv, readFortranReshape, name_span name _ _ hn, dropLastChar_snoc, hparse, ↓reduceIte, natList_leaves, Option.map_some,
    hstrip, ne_eq, not_true_eq_false, mapM_leafTok, hresh]
  simpa using hfin name sh

theorem expectedDecl_fortran (p : Param) :
    expectedDecl bFortran p = fortranType p (printVal styleFortran p.value) := by
  unfold expectedDecl fortranType
  by_cases h : p.kind = Kind.str <;> simp [h]

/-- the declaration after `  TYPE, `: scalar, one-dimensional constructor, or `reshape` for rank two and more -/
def fortranTail (p : Param) (dtype name : Str) (sh : List Nat) : Str :=
  if p.value.isArr = false then scalarTail name (ctorInside p dtype)
  else if 1 < sh.length then reshapeTail name (ctorInside p dtype) sh
  else vectorTail name (ctorInside p dtype) sh

/-- the line `lineFortran` writes, pieces associated to the right; what then differs from the template is only where the
    literal texts are cut (`", parameter :: "` = `", "` and `"parameter :: "`), which `rfl` sees through -/
theorem lineFortran_eq (ren : Bool) (p : Param) (sh : List Nat) (hs : shapeOf p.value = some sh) :
    lineFortran ren p = (fortranType p (printVal styleFortran p.value)).map fun dtype =>
      cs!"  " ++ (dtype ++ (cs!", " ++ fortranTail p dtype (rename ren p.name) sh)) := by
  cases ht : fortranType p (printVal styleFortran p.value) with
  | none => simp only [lineFortran, hs, ht, Option.bind_eq_bind, Option.bind_some, Option.bind_none, Option.map_none]
  | some dtype =>
    simp only [lineFortran, hs, ht, Option.bind_eq_bind, Option.bind_some, ctorInside_eq, fortranTail, Option.map_some]
    cases p.value.isArr
    · simp only [Bool.false_eq_true, not_false_eq_true, if_true, scalarTail, List.append_assoc]
      rfl
    · by_cases hrank : 1 < sh.length <;>
        simp only [not_true_eq_false, if_false, Bool.true_eq_false, gt_iff_lt, hrank, if_true, vectorTail, reshapeTail,
          reshapeArgs, List.append_assoc] <;> rfl

theorem expectedSym_fortran (ren : Bool) (p : Param) (sh : List Nat) (hs : shapeOf p.value = some sh) :
    expectedSym bFortran ren false p = (fortranType p (printVal styleFortran p.value)).map fun dtype =>
      ⟨rename ren p.name, dtype, sh, false, p.value⟩ := by
  simp only [expectedSym, expectedDecl_fortran, hs, Option.bind_eq_bind, Option.bind_some, Bool.false_eq_true, if_false]
  cases fortranType p (printVal styleFortran p.value) <;> rfl

theorem readFortranRest_tail (p : Param) (dtype : Str) (bits : Nat) (hh : FHead p dtype bits)
    (hv : ValOK p.kind p.value) (sh : List Nat) (hr : rectShape p.value = some sh) (h0 : 0 ∉ sh) (name : Str)
    (hn : ∀ ch ∈ name, ch ≠ ' ') :
    readFortranRest dtype p.kind bits (fortranTail p dtype name sh) = some ⟨name, dtype, sh, false, p.value⟩ := by
  unfold fortranTail
  cases hia : p.value.isArr with
  | false =>
    obtain rfl : sh = [] := shape_nil_of_leaf p.value sh hr hia
    rw [if_pos rfl]
    obtain ⟨s, hval⟩ := leaf_of_shape_nil p.value hr
    exact readFortranRest_scalar p s hval dtype bits hh hv name hn
  | true =>
    rw [if_neg (by decide)]
    by_cases hrank : 1 < sh.length
    · rw [if_pos hrank]
      exact readFortranRest_reshape p dtype bits hh hv sh hr h0 hrank hia name hn
    · rw [if_neg hrank]
      match sh, shape_ne_nil_of_arr p.value sh hr hia, hrank with
      | [n], _, _ => exact readFortranRest_vector p dtype bits hh hv n hr h0 hia name hn
      | _ :: _ :: _, _, hrank => exact absurd (by simp) hrank

theorem readFortranLine_lineFortran (ren : Bool) (p : Param) (sh : List Nat)
    (hn : ∀ ch ∈ rename ren p.name, ch ≠ ' ') (hv : ValOK p.kind p.value)
    (hr : rectShape p.value = some sh) (h0 : 0 ∉ sh) (hg : fortranGuard p = true) :
    (lineFortran ren p).bind readFortranLine = expectedSym bFortran ren false p := by
  have hs := shapeOf_of_rect p.value sh hr h0
  rw [lineFortran_eq ren p sh hs, expectedSym_fortran ren p sh hs]
  cases ht : fortranType p (printVal styleFortran p.value) with
  | none => rfl
  | some dtype =>
    obtain ⟨bits, hh⟩ := fhead p hg hv dtype ht
    rw [Option.map_some, Option.bind_some, readFortranLine_head dtype _ p.kind bits hh.nocomma hh.kind]
    exact readFortranRest_tail p dtype bits hh hv sh hr h0 _ hn

theorem readBodyF_lines (endline : Str) : ∀ body : List Str, (∀ l ∈ body, l ≠ []) →
    readBodyF endline (body ++ [[], endline]) = body.mapM readFortranLine
  | [], _ => by simp [readBodyF]
  | l :: ls, h => by
    have hl : l ≠ [] := h l (by simp)
    have ih := readBodyF_lines endline ls (fun x hx => h x (by simp [hx]))
    simp only [List.cons_append, readBodyF, hl, if_false, ih, List.mapM_cons, Option.bind_eq_bind, Option.pure_def]

def ParamOKF (ren : Bool) (p : Param) : Prop :=
  (∀ ch ∈ rename ren p.name, ch ≠ ' ') ∧ clean (rename ren p.name) = true ∧ ValOK p.kind p.value ∧ NoNL p.value ∧
  (∃ sh, rectShape p.value = some sh ∧ 0 ∉ sh) ∧ fortranGuard p = true

theorem lineFortran_line (ren : Bool) (p : Param) (hok : ParamOKF ren p) (l : Str) (h : lineFortran ren p = some l) :
    Line l := by
  obtain ⟨_, hcn, hv, hnl, ⟨sh, hr, h0⟩, hg⟩ := hok
  rw [lineFortran_eq ren p sh (shapeOf_of_rect p.value sh hr h0)] at h
  obtain ⟨dtype, ht, rfl⟩ := Option.map_eq_some_iff.mp h
  obtain ⟨bits, hh⟩ := fhead p hg hv dtype ht
  have hdt := hh.cleanT
  have hval := printVal_clean styleFortran (by decide) (by decide) (by decide) (by decide) p.kind p.value hv hnl
  have hin : clean (ctorInside p dtype) = true := by
    unfold ctorInside
    split <;> simp only [clean_append, clean_cons, hdt, hval] <;> rfl
  refine ⟨?_, List.cons_ne_nil _ _⟩
  unfold fortranTail
  split
  · simp only [scalarTail, clean_append, hcn, hdt, hin]
    rfl
  · split <;> simp only [reshapeTail, reshapeArgs, vectorTail, clean_append, hcn, hdt, hin, clean_commaNats] <;> rfl

theorem readFortran_exportFortran (modname : Str) (hm : clean modname = true) (ren : Bool) (data : List Param)
    (hok : ∀ p ∈ data, ParamOKF ren p) :
    (exportFortran modname ren data).bind (readFortran modname) = expected bFortran ren [] data := by
  have hexp : expected bFortran ren [] data = data.mapM (fun p => expectedSym bFortran ren false p) := rfl
  rw [hexp]
  refine readFramed (lineFortran ren) readFortranLine _ data (fun p hp => ?_) _ _ (fun body hb => ?_)
  · obtain ⟨h1, _, h3, _, ⟨sh, h5, h6⟩, h7⟩ := hok p hp
    exact readFortranLine_lineFortran ren p sh h1 h3 h5 h6 h7
  · have hbody : ∀ l ∈ body, Line l := fun l hl => by
      obtain ⟨p, hp, hlp⟩ := hb l hl
      exact lineFortran_line ren p (hok p hp) l hlp
    have hl : lines (joinWith ['\n'] ([cs!"module " ++ modname, cs!"  implicit none", []] ++ body ++
        [[], cs!"end module " ++ modname])) =
        (cs!"module " ++ modname) :: cs!"  implicit none" :: [] :: (body ++ [[], cs!"end module " ++ modname]) :=
      lines_joinWith_all _ (List.cons_ne_nil _ _) (by
        simp only [List.all_append, List.all_cons, List.all_nil, clean_append, hm,
          List.all_eq_true.mpr fun l hl => (hbody l hl).1, Bool.and_true]
        rfl)
    rw [readFortran, hl]
    simp only [and_self, if_true, Option.bind_eq_bind, Option.bind_some]
    exact readBodyF_lines _ body (fun l hl => (hbody l hl).2)

end SciVerif.C19
