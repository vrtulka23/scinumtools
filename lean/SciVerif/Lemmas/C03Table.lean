import SciVerif.Model.C03Base

/-! # C03: the longest-suffix search, and table conditions the kernel decides cheaply

`findBase` returns a longest table row whose symbol ends the text.  With pairwise distinct symbols
fact F1 therefore says: no symbol is `s ++ u.sym` with `s` a non-empty end of `' ' :: p`, `p` empty or a
prefix `u` admits.  `checkF1` tests that, looking only at the few texts `s` for which
`s ++ u.sym` is a symbol at all; `factF1_of_check` shows that it implies `factF1` for every table. -/
namespace SciVerif.C03

theorem nodupB_map_inj {α : Type} (f : α → Str) (l : List α) (h : nodupB (l.map f) = true)
    (a b : α) (ha : a ∈ l) (hb : b ∈ l) (hab : f a = f b) : a = b := by
  induction l with
  | nil => cases ha
  | cons x t ih =>
    simp only [List.map_cons, nodupB, Bool.and_eq_true, Bool.not_eq_true', List.contains_eq_mem,
      decide_eq_false_iff_not] at h
    rcases List.mem_cons.mp ha with rfl | ha' <;> rcases List.mem_cons.mp hb with rfl | hb'
    · rfl
    · exact absurd (hab ▸ List.mem_map_of_mem hb') h.1
    · exact absurd (hab ▸ List.mem_map_of_mem ha') h.1
    · exact ih h.2 ha' hb'

theorem foldl_longer_spec (l : List UnitRow) (a : UnitRow) :
    ∃ w, l.foldl longer (some a) = some w ∧ w ∈ a :: l ∧ ∀ v ∈ a :: l, v.sym.length ≤ w.sym.length := by
  induction l generalizing a with
  | nil => exact ⟨a, rfl, List.mem_cons_self, fun v hv => by rw [List.mem_singleton.mp hv]; exact Nat.le_refl _⟩
  | cons b t ih =>
    rw [List.foldl_cons]
    by_cases h : a.sym.length < b.sym.length
    · obtain ⟨w, hw, hm, ht⟩ := ih b
      refine ⟨w, by simpa only [longer, h, if_true] using hw, List.mem_cons_of_mem _ hm, fun v hv => ?_⟩
      rcases List.mem_cons.mp hv with rfl | hv
      · exact Nat.le_trans (Nat.le_of_lt h) (ht b List.mem_cons_self)
      · exact ht v hv
    · obtain ⟨w, hw, hm, ht⟩ := ih a
      refine ⟨w, by simpa only [longer, h, if_false] using hw, ?_, fun v hv => ?_⟩
      · rcases List.mem_cons.mp hm with rfl | hm
        · exact List.mem_cons_self
        · exact List.mem_cons_of_mem _ (List.mem_cons_of_mem _ hm)
      · rcases List.mem_cons.mp hv with rfl | hv
        · exact ht v List.mem_cons_self
        · rcases List.mem_cons.mp hv with rfl | hv
          · exact Nat.le_trans (Nat.le_of_not_lt h) (ht a List.mem_cons_self)
          · exact ht v (List.mem_cons_of_mem _ hv)

theorem findBase_cases (T : Tables) (body : Str) :
    (findBase T body = none ∧ ∀ v ∈ T.units, ¬ v.sym <:+ body) ∨
    ∃ w, findBase T body = some w ∧ w ∈ T.units ∧ w.sym <:+ body ∧
      ∀ v ∈ T.units, v.sym <:+ body → v.sym.length ≤ w.sym.length := by
  have hmem : ∀ v, v ∈ T.units.filter (fun u => u.sym.isSuffixOf body) ↔ v ∈ T.units ∧ v.sym <:+ body :=
    fun v => by rw [List.mem_filter, List.isSuffixOf_iff_suffix]
  unfold findBase
  cases hl : T.units.filter (fun u => u.sym.isSuffixOf body) with
  | nil =>
    refine Or.inl ⟨rfl, fun v hv hs => ?_⟩
    have := (hmem v).mpr ⟨hv, hs⟩
    rw [hl] at this
    cases this
  | cons b t =>
    rw [hl] at hmem
    obtain ⟨w, hw, hm, ht⟩ := foldl_longer_spec t b
    exact Or.inr ⟨w, hw, ((hmem w).mp hm).1, ((hmem w).mp hm).2, fun v hv hs => ht v ((hmem v).mpr ⟨hv, hs⟩)⟩

theorem findBase_sound (T : Tables) (body : Str) (u : UnitRow) (h : findBase T body = some u) :
    u ∈ T.units ∧ u.sym <:+ body := by
  rcases findBase_cases T body with ⟨hn, _⟩ | ⟨w, hw, hm, hs, _⟩
  · rw [hn] at h; cases h
  · rw [hw] at h; cases h; exact ⟨hm, hs⟩

theorem findBase_eq_some {T : Tables} (hT : nodupB (T.units.map (·.sym)) = true) {body : Str}
    {u : UnitRow} (hu : u ∈ T.units) (hs : u.sym <:+ body)
    (hmax : ∀ v ∈ T.units, v.sym <:+ body → v.sym.length ≤ u.sym.length) :
    findBase T body = some u := by
  rcases findBase_cases T body with ⟨_, hn⟩ | ⟨w, hw, hm, hws, hwmax⟩
  · exact absurd hs (hn u hu)
  · have hlen : w.sym.length ≤ u.sym.length := hmax w hm hws
    have hsym : w.sym = u.sym :=
      (List.suffix_of_suffix_length_le hws hs hlen).eq_of_length_le (hwmax u hu hs)
    rw [hw, nodupB_map_inj (·.sym) T.units hT w u hm hu hsym]

/-! Comparing two symbols character by character costs the kernel about twenty times as much as
comparing two numerals, so for `checkUnique` each symbol is first turned into one number. -/

/-- a text as a number: its characters as digits to base `2^32` (`Char.toNat` stays below it) under a leading 1 -/
def symKey : Str → Nat
  | [] => 1
  | c :: s => symKey s * 4294967296 + c.toNat

/-- pairwise distinct numbers (`Nat.beq`, which the kernel evaluates on numerals at once) -/
def distinctNats : List Nat → Bool
  | [] => true
  | k :: ks => ks.all (fun j => !Nat.beq k j) && distinctNats ks

theorem nodupB_of_distinct_keys : ∀ l : List Str, distinctNats (l.map symKey) = true → nodupB l = true
  | [], _ => rfl
  | a :: t, h => by
    simp only [List.map_cons, distinctNats, Bool.and_eq_true, List.all_eq_true, List.mem_map,
      Bool.not_eq_true', forall_exists_index, and_imp, forall_apply_eq_imp_iff₂] at h
    simp only [nodupB, Bool.and_eq_true, Bool.not_eq_true', List.contains_eq_mem, decide_eq_false_iff_not]
    refine ⟨fun ha => ?_, nodupB_of_distinct_keys t h.2⟩
    have := h.1 a ha
    rw [Nat.beq_refl] at this
    cases this

/-- what the kernel evaluates for `factUnique`: the symbols' numbers are pairwise distinct, every listed prefix is a key of the prefix table -/
def checkUnique (T : Tables) : Bool :=
  distinctNats (T.units.map (fun u => symKey u.sym)) &&
  T.units.all (fun u => match u.pref with | .only l => l.all (fun p => T.prefixKeys.contains p) | _ => true)

theorem factUnique_of_check (T : Tables) (h : checkUnique T = true) : factUnique T = true := by
  unfold checkUnique at h
  unfold factUnique
  rw [Bool.and_eq_true] at h ⊢
  refine ⟨nodupB_of_distinct_keys _ ?_, h.2⟩
  rw [List.map_map]
  exact h.1

/-- a list holding every prefix `u` admits: `admPrefixes` without the filtering -/
def admSup (T : Tables) (u : UnitRow) : List Str :=
  match u.pref with
  | .only l => l
  | .none => []
  | _ => T.prefixKeys

theorem admPrefixes_subset {T : Tables} {u : UnitRow} {p : Str} (hp : p ∈ admPrefixes T u) :
    p ∈ admSup T u := by
  unfold admPrefixes admits at hp
  unfold admSup
  rw [List.mem_filter] at hp
  cases hpref : u.pref <;> rw [hpref] at hp <;> simp only at hp ⊢
  · exact hp.1
  · cases hp.2
  · exact List.contains_iff_mem.mp hp.2
  · exact hp.1

def lastCode (s : Str) : Nat :=
  match s.getLast? with
  | some c => c.toNat
  | none => 0

/-- the texts `s ≠ []` for which `s ++ u.sym` is a symbol of the table.  The last characters are
    compared first, as numbers, since for most rows that is all the kernel then has to evaluate. -/
def fronts (T : Tables) (u : UnitRow) : List Str :=
  (T.units.filter (fun v => Nat.beq (lastCode u.sym) (lastCode v.sym) &&
    (u.sym.length < v.sym.length && u.sym.isSuffixOf v.sym))).map
    (fun v => v.sym.take (v.sym.length - u.sym.length))

theorem lastCode_append {s t : Str} (ht : t ≠ []) : lastCode (s ++ t) = lastCode t := by
  obtain ⟨c, hc⟩ := Option.isSome_iff_exists.mp (List.getLast?_isSome.mpr ht)
  unfold lastCode
  rw [List.getLast?_append, hc]
  rfl

theorem mem_fronts {T : Tables} {u v : UnitRow} {s : Str} (hv : v ∈ T.units) (hu : u.sym ≠ [])
    (hs : s ≠ []) (h : s ++ u.sym = v.sym) : s ∈ fronts T u := by
  have hlen : u.sym.length < v.sym.length := by
    rw [← h, List.length_append]
    have := List.length_pos_iff.mpr hs
    omega
  refine List.mem_map.mpr ⟨v, List.mem_filter.mpr ⟨hv, ?_⟩, ?_⟩
  · rw [← h, lastCode_append hu, Nat.beq_refl, List.isSuffixOf_iff_suffix.mpr (List.suffix_append s u.sym),
      h, decide_eq_true hlen]
    rfl
  · rw [← h]
    exact List.take_left' (by simp)

/-- what the kernel evaluates for `factF1`: no symbol is empty or begins with a blank, and no front of a longer symbol ends `' ' :: p` -/
def checkF1 (T : Tables) : Bool :=
  T.units.all (fun u => u.sym != [] && u.sym.head? != some ' ') &&
  T.units.all (fun u => (admSup T u).all (fun p => (fronts T u).all (fun s => !s.isSuffixOf (' ' :: p))))

theorem factF1_of_check (T : Tables) (hT : nodupB (T.units.map (·.sym)) = true)
    (h : checkF1 T = true) : factF1 T = true := by
  unfold checkF1 at h
  simp only [Bool.and_eq_true, List.all_eq_true, bne_iff_ne, ne_eq, Bool.not_eq_true'] at h
  obtain ⟨hsym, hfront⟩ := h
  unfold factF1
  simp only [List.all_eq_true, beq_iff_eq]
  intro u hu p hp
  refine findBase_eq_some hT hu ⟨' ' :: p, by simp⟩ (fun v hv hs => ?_)
  -- a longer matching row is `s ++ u.sym` with `s` a non-empty end of `' ' :: p`
  apply Nat.le_of_not_lt
  intro hlen
  obtain ⟨s, hsv⟩ := List.suffix_of_suffix_length_le ⟨' ' :: p, by simp⟩ hs (Nat.le_of_lt hlen)
  have hne : s ≠ [] := by
    rintro rfl
    rw [← hsv] at hlen
    exact Nat.lt_irrefl _ hlen
  have hsp : s <:+ ' ' :: p := by
    rw [← hsv] at hs
    exact List.suffix_append_self_iff.mp hs
  rcases List.mem_cons.mp hp with rfl | hp
  · rcases List.suffix_cons_iff.mp hsp with rfl | h0
    · exact (hsym v hv).2 (by rw [← hsv]; rfl)
    · exact hne (List.suffix_nil.mp h0)
  · have := hfront u hu p (admPrefixes_subset hp) s (mem_fronts hv (hsym u hu).1 hne hsv)
    rw [List.isSuffixOf_iff_suffix.mpr hsp] at this
    cases this

end SciVerif.C03
