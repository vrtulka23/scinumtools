import SciVerif.Model.C13Cast
import SciVerif.Lemmas.C13Run
/-!
What the lexer produces is well-formed in the sense of `NodeWF` (apart from table lines, which the
main loop expands before anything else).  Tables in the refinement: the list in which every table line is
replaced by its column nodes (`expandAll`, with the loop on it, in `Lemmas/C13Run.lean`) is well-formed; and the
column nodes the executable `TableNode.parse` model produces are well-formed typed nodes, so the table
hypothesis of `C14_parse_refines_spec_tables` holds for the driver's parameters.
-/
namespace SciVerif.C13
open SciVerif.Util

/-- `NodeWF` without its table clause: `NodeWF nd` unfolds to `nd.kind ≠ .table ∧ NodeWF' nd` -/
def NodeWF' (nd : Node) : Prop :=
  (nd.kind = .mod → nd.name.isSome = true ∧ nd.raw.isSome = true) ∧
  (∀ t, nd.kind = .typed t → nd.name.isSome = true)

theorem valueUnitsTail_wf (nm : Str) (kind : Kind) (info : TyInfo) (dims : Option (List Dim)) (v : Str) (nd : Node)
    (h : valueUnitsTail nm kind info dims v = .ok nd) : NodeWF' nd := by
  obtain ⟨⟨x, r1⟩, _, h⟩ := bind_eq_ok h
  simp only at h
  split at h
  · cases h; exact ⟨fun _ => ⟨rfl, rfl⟩, fun _ _ => rfl⟩
  · cases h

theorem modTail_wf (nm v : Str) (nd : Node) (h : modTail nm v = .ok nd) : NodeWF' nd := by
  obtain ⟨⟨x, r1⟩, _, h⟩ := bind_eq_ok h
  simp only at h
  split at h
  · cases h; exact ⟨fun _ => ⟨rfl, rfl⟩, fun _ _ => rfl⟩
  · split at h <;> cases h
theorem partTypeCore_kind (t : Str) (k : Kind) (i : TyInfo) (r : Str) (h : partTypeCore t = .ok (k, i, r)) :
    k ≠ .mod := by
  rintro rfl
  revert h
  -- the function's own cases: every result names its kind, the two integer forms behind a local abbreviation
  fun_cases partTypeCore t <;> intro h
  case case4 | case5 => simp +zetaDelta only at h; cases h
  all_goals cases h

theorem partType_kind (x : Str) (k : Kind) (i : TyInfo) (r : Str) (h : partType x = .ok (k, i, r)) : k ≠ .mod := by
  revert h
  fun_cases partType x <;> intro h
  case case2 => exact partTypeCore_kind _ k i r h
  all_goals cases h

theorem afterName_wf (nm rest : Str) (nd : Node) (h : afterName nm rest = .ok nd) : NodeWF' nd := by
  revert h
  fun_cases afterName nm rest <;> intro h
  case case1 => cases h; exact ⟨fun hk => (nomatch hk), fun t hk => (nomatch hk)⟩
  case case4 => exact modTail_wf _ _ _ h
  case case5 =>
    obtain ⟨⟨k, i, r⟩, hpt, h⟩ := bind_eq_ok h
    obtain ⟨⟨dims, r1⟩, _, h⟩ := bind_eq_ok h
    simp only at h
    split at h
    · exact valueUnitsTail_wf _ _ _ _ _ _ h
    split at h
    · cases h; exact ⟨fun hk => absurd hk (partType_kind _ k i r hpt), fun _ _ => rfl⟩
    · cases h
  all_goals cases h
theorem nodeWF'_of_kind (x : Node) (h1 : x.kind ≠ .mod) (h2 : ∀ t, x.kind ≠ .typed t) : NodeWF' x :=
  ⟨fun hk => absurd hk h1, fun t hk => absurd hk (h2 t)⟩

theorem determineBody_wf (b : Str) (nd : Node) (h : determineBody b = .ok nd) : NodeWF' nd := by
  unfold determineBody at h
  split at h
  · split at h <;> cases h
  · cases h
  · split at h
    · split at h
      · cases h; exact nodeWF'_of_kind _ (by decide) (fun t e => nomatch e)
      · cases h
    · cases h
  · simp only at h
    split at h
    · split at h
      · split at h
        · cases h; exact nodeWF'_of_kind _ (by decide) (fun t e => nomatch e)
        · cases h
      · cases h
    · cases h
    · split at h
      · cases h
      split at h
      · cases h
      · exact afterName_wf _ _ _ h
    · split at h
      · cases h
      · exact afterName_wf _ _ _ h

theorem determine_wf (l : Str) (nd : Node) (h : determine l = .ok nd) : NodeWF' nd := by
  unfold determine at h
  simp only at h
  have hempty : NodeWF' { kind := .empty } := nodeWF'_of_kind _ (by decide) (fun t e => nomatch e)
  split at h
  · cases h; exact hempty
  split at h
  · cases h; exact hempty
  obtain ⟨nd0, hb, rfl⟩ := map_eq_ok h
  have := determineBody_wf _ _ hb
  exact ⟨fun hk => this.1 hk, fun t hk => this.2 t hk⟩

theorem expandOne_mem {P : Params} {nd : Node} {cols : List Node} (h : expandOne P nd = .ok cols) :
    (nd.kind ≠ .table ∧ cols = [nd]) ∨ (nd.kind = .table ∧ P.expandTable nd = .ok cols) := by
  unfold expandOne at h
  split at h
  · rename_i hk
    obtain ⟨c, he, h⟩ := bind_eq_ok h
    split at h
    · cases h
    · cases h; exact .inr ⟨hk, he⟩
  · rename_i hk
    cases h
    exact .inl ⟨hk, rfl⟩

theorem expandAll_wf (P : Params) : ∀ (nds nds' : List Node),
    (∀ nd ∈ nds, nd.kind ≠ .table → NodeWF nd) →
    (∀ nd ∈ nds, nd.kind = .table → ∀ cols, P.expandTable nd = .ok cols → ∀ c ∈ cols, NodeWF c) →
    expandAll P nds = .ok nds' → ∀ x ∈ nds', NodeWF x
  | [], nds', _, _, h, x, hx => by simp only [expandAll, Except.ok.injEq] at h; subst h; cases hx
  | nd :: t, nds', hwf, hcols, h, x, hx => by
    obtain ⟨cols, rest, he, hr, rfl⟩ := expandAll_cons_ok h
    rcases List.mem_append.mp hx with h1 | h1
    · rcases expandOne_mem he with ⟨hk, rfl⟩ | ⟨hk, het⟩
      · rw [List.mem_singleton.mp h1]; exact hwf nd (by simp) hk
      · exact hcols nd (by simp) hk cols het x h1
    · exact expandAll_wf P t rest (fun y hy => hwf y (List.mem_cons_of_mem _ hy))
        (fun y hy => hcols y (List.mem_cons_of_mem _ hy)) hr x h1

theorem headerLine_typed (tname line : Str) (nd : Node) (b : Bool) (h : headerLine tname line = .ok (nd, b)) :
    (∃ t, nd.kind = .typed t) ∧ nd.name.isSome = true := by
  revert h
  fun_cases headerLine tname line <;> intro h
  case case3 =>
    obtain ⟨⟨k, i, r0⟩, _, h⟩ := bind_eq_ok h
    obtain ⟨⟨dims, r1⟩, _, h⟩ := bind_eq_ok h
    simp only at h
    split at h
    · cases h
    · cases k with
      | typed t => cases h; exact ⟨⟨t, rfl⟩, rfl⟩
      | _ => cases h
  all_goals cases h

theorem expandTable0_wf (raw : Option Raw) (name : Option Str) (cols : List Node)
    (h : expandTable0 raw name = .ok cols) : ∀ c ∈ cols, (∃ t, c.kind = .typed t) ∧ c.name.isSome = true := by
  unfold expandTable0 at h
  split at h
  · rename_i v tname
    obtain ⟨hc, hm, h⟩ := bind_eq_ok h
    split at h
    · cases h
    obtain ⟨rows, _, h⟩ := bind_eq_ok h
    split at h
    · cases h
    cases h
    intro c hcm
    obtain ⟨p, hp, rfl⟩ := List.mem_map.mp hcm
    obtain ⟨l, _, hl⟩ := mem_of_mapM_eq_ok hm (List.of_mem_zip hp).1
    exact headerLine_typed tname l p.1.1 p.1.2 hl
  · cases h

theorem expandTable_cols_wf (tbl : List UnitRow) (nd : Node) (cols : List Node)
    (h : (mkParams tbl).expandTable nd = .ok cols) : ∀ c ∈ cols, NodeWF c := by
  obtain ⟨cs, h0, rfl⟩ := map_eq_ok (g := List.map _) h
  intro c hc
  obtain ⟨c0, hc0, rfl⟩ := List.mem_map.mp hc
  obtain ⟨⟨t, ht⟩, hn⟩ := expandTable0_wf nd.raw nd.name cs h0 c0 hc0
  refine ⟨?_, ?_, ?_⟩
  · simp only [ht]; intro e; cases e
  · intro hk; simp only [ht] at hk; cases hk
  · intro t' _; exact hn

end SciVerif.C13
