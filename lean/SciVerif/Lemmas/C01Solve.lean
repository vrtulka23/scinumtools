import SciVerif.Lemmas.C01ItemsLoop
import SciVerif.Lemmas.C01StepLoop

/-!
# C01 helper lemmas: where the character level (`Lemmas/C01ItemsLoop.lean`: text to tokens) meets the token
  level (`Lemmas/C01StepLoop.lean`: tokens to value): the items of every expression are admissible
  (`adj_items`), `solve` on every text of an expression by induction over the call nesting; at the
  end of the file, the number literals of the grammar are texts the tokeniser leaves whole.
-/
namespace SciVerif.C01
open SciVerif.C01.Gen

variable {A : Type} (alg : AtomAlg A) (lit : List Char → A)

theorem items_last (e : E) : ∃ pre it, items e = pre ++ [it] ∧ it.isOpr = false := by
  induction e with
  | num t => exact ⟨[], .lit t, rfl, rfl⟩
  | fn1 f a _ => exact ⟨[], .call1 f a, rfl, rfl⟩
  | fn2 g a b _ _ => exact ⟨[], .call2 g a b, rfl, rfl⟩
  | sign s e ih =>
    obtain ⟨pre, it, e1, h1⟩ := ih
    exact ⟨.opr (.sign s) :: pre, it, by simp [items, e1], h1⟩
  | bin o l r _ ihr =>
    obtain ⟨pre, it, e1, h1⟩ := ihr
    exact ⟨items l ++ [.opr (.bin o)] ++ pre, it, by simp [items, e1], h1⟩
  | not e ih =>
    obtain ⟨pre, it, e1, h1⟩ := ih
    exact ⟨.opr .not :: pre, it, by simp [items, e1], h1⟩

theorem adj_items (e : E) (h : LitOK alg lit e) : Adj (items e) := by
  induction e with
  | num t => trivial
  | fn1 f a _ => trivial
  | fn2 g a b _ _ => trivial
  | sign s e ih => exact Adj.cons_opr _ (items_head alg lit e h) (ih h)
  | bin o l r ihl ihr =>
    simpa [items] using Adj.append_opr (ihl h.1) (items_last l) _
      (Adj.cons_opr (.bin o) (items_head alg lit r h.2) (ihr h.2))
  | not e ih => exact Adj.cons_opr _ (items_head alg lit e h) (ih h)

variable (sa : Bufs A → List Char → Bufs A × Except String (Tok A))

theorem tokLoop_text (e : E) (hl : LitOK alg lit e) (ha : ∀ it ∈ items e, ItemOK alg lit sa it)
    (u : List Char) (k n : Nat) (hu : Pre (lexemes e) u) (hn : u.length + k + 1 ≤ n) :
    tokLoop dflt alg sa n ⟨[], u ++ blanks k⟩ ⟨[], []⟩ = .ok ⟨[], toks dflt alg lit e⟩ := by
  have := tok_items alg lit sa (items e) (adj_items alg lit e hl) ha
    [] [] u ⟨[], []⟩ k n (pending_nil alg lit) (fun h => absurd rfl h)
    (by rw [← lexemes_items]; exact hu) hn
  rw [this, toks_items]
  simp [pendTok]

/-- nesting depth of calls: how many nested solvers evaluating the expression needs -/
def cdepth : E → Nat
  | .num _ => 0
  | .fn1 _ a => cdepth a + 1
  | .fn2 _ a b => max (cdepth a) (cdepth b) + 1
  | .sign _ e => cdepth e
  | .bin _ l r => max (cdepth l) (cdepth r)
  | .not e => cdepth e

theorem cdepth_le_lexemes (e : E) : cdepth e + 1 ≤ (lexemes e).length := by
  induction e with
  | num t => simp [cdepth, lexemes]
  | fn1 f a ih => simp [cdepth, lexemes]; omega
  | fn2 g a b iha ihb => simp [cdepth, lexemes]; omega
  | sign s e ih => simp [cdepth, lexemes]; omega
  | bin o l r ihl ihr => simp [cdepth, lexemes]; omega
  | not e ih => simp [cdepth, lexemes]; omega

/-- every text of `e` is longer than its calls are nested: every call level is a lexeme and every
    lexeme a character at least -/
theorem cdepth_lt_text (e : E) (hl : LitOK alg lit e) {u : List Char} (hu : Pre (lexemes e) u) :
    cdepth e < u.length :=
  Nat.lt_of_lt_of_le (cdepth_le_lexemes e)
    (Pre.length_le hu fun x hx => (lexemes_good alg lit e hl x hx).1)

/-- the solver a call's arguments are given to: a fresh instance with one unit of fuel less -/
def nestedSolve (n : Nat) : Bufs A → List Char → Bufs A × Except String (Tok A) :=
  fun st a => solveFromF dflt alg dfltSteps n (resetBufs st) a

theorem nestedSolve_apply (n : Nat) (st : Bufs A) (a : List Char) :
    nestedSolve alg n st a = solveFromF dflt alg dfltSteps n ⟨[], []⟩ a := rfl

theorem solveFromF_tok_error (n : Nat) (s : List Char) (b0 b : Bufs A) (m : String)
    (h : tokLoop dflt alg (nestedSolve alg n) (s.length + 1) ⟨[], s⟩ b0 = .error (b, m)) :
    solveFromF dflt alg dfltSteps (n + 1) b0 s = (b, .error m) := by
  unfold nestedSolve at h
  simp only [solveFromF, h]

theorem solveFromF_of_tokens (n : Nat) (s : List Char) (T : List (Tok A))
    (ht : tokLoop dflt alg (nestedSolve alg n) (s.length + 1) ⟨[], s⟩ ⟨[], []⟩ = .ok ⟨[], T⟩) :
    (solveFromF dflt alg dfltSteps (n + 1) ⟨[], []⟩ s).2 = solveToks dflt alg dfltSteps T := by
  unfold nestedSolve at ht
  simp only [solveFromF, ht, solveToks]
  cases runSteps dflt alg dfltSteps ⟨[], T⟩ with
  | error e => rfl
  | ok b2 =>
    dsimp only
    cases finish b2 <;> rfl

theorem solve_of_items (hn : NegNeg alg) (n : Nat) (e : E) (hwf : e.WF) (hl : LitOK alg lit e)
    (ha : ∀ it ∈ items e, ItemOK alg lit (nestedSolve alg n) it) (u : List Char) (k : Nat)
    (hu : Pre (lexemes e) u) :
    (solveFromF dflt alg dfltSteps (n + 1) ⟨[], []⟩ (u ++ blanks k)).2
      = .ok (.atom (eval alg lit e)) := by
  rw [solveFromF_of_tokens alg n _ _
    (tokLoop_text alg lit (nestedSolve alg n) e hl ha u k _ hu (by simp [blanks_length]))]
  exact tokens_eq_eval alg lit hn e hwf

theorem itemsOK_of (sa : Bufs A → List Char → Bufs A × Except String (Tok A)) (d : Nat)
    (H : ∀ a : E, a.WF → LitOK alg lit a → cdepth a < d → ∀ (v : List Char) (st : Bufs A),
      Pre (lexemes a) v → (sa st v).2 = .ok (.atom (eval alg lit a)))
    (e : E) (hwf : e.WF) (hl : LitOK alg lit e) (hd : cdepth e ≤ d) :
    ∀ it ∈ items e, ItemOK alg lit sa it := by
  have arg : ∀ a : E, a.WF → LitOK alg lit a → cdepth a < d → ArgOK alg lit sa a :=
    fun a wa la hlt => ⟨la, fun v j st hv =>
      H a wa la hlt _ st (strip_text j hv (lexemes_ne_nil a) (lexemes_good alg lit a la))⟩
  induction e with
  | num t => exact List.forall_mem_singleton.mpr hl
  | fn1 f a _ => exact List.forall_mem_singleton.mpr (arg a hwf hl hd)
  | fn2 g a b _ _ =>
    have hd' : cdepth a < d ∧ cdepth b < d := by simp only [cdepth] at hd; omega
    exact List.forall_mem_singleton.mpr ⟨arg a hwf.1 hl.1 hd'.1, arg b hwf.2 hl.2 hd'.2⟩
  | sign s e ih => exact List.forall_mem_cons.mpr ⟨trivial, ih hwf.1 hl hd⟩
  | bin o l r ihl ihr =>
    have hd' : cdepth l ≤ d ∧ cdepth r ≤ d := by simp only [cdepth] at hd; omega
    simp only [items, List.forall_mem_append, List.forall_mem_singleton]
    exact ⟨⟨ihl hwf.1 hl.1 hd'.1, trivial⟩, ihr hwf.2.1 hl.2 hd'.2⟩
  | not e ih => exact List.forall_mem_cons.mpr ⟨trivial, ih hwf.1 hl hd⟩

theorem items_of_depth (hn : NegNeg alg) (e : E) (hwf : e.WF) (hl : LitOK alg lit e) :
    ∀ n, cdepth e ≤ n → ∀ it ∈ items e, ItemOK alg lit (nestedSolve alg n) it := by
  intro n
  induction n generalizing e with
  | zero => exact itemsOK_of alg lit _ 0 (fun a _ _ h => absurd h (Nat.not_lt_zero _)) e hwf hl
  | succ m ih =>
    refine itemsOK_of alg lit _ (m + 1) (fun a wa la hlt v st hv => ?_) e hwf hl
    have := solve_of_items alg lit hn m a wa la (ih a wa la (by omega)) v 0 hv
    simpa [nestedSolve_apply, blanks_zero] using this

/-- `solve` on every text of `e`.  The fuel `solve` gives the nested solvers is the length of the string,
    and that is at least the call nesting of `e` (`cdepth_lt_text`). -/
theorem solve_text (hn : NegNeg alg) (e : E) (hwf : e.WF) (hl : LitOK alg lit e)
    (u : List Char) (k : Nat) (hu : Pre (lexemes e) u) :
    solve dflt alg dfltSteps (u ++ blanks k) = .ok (.atom (eval alg lit e)) := by
  have h := cdepth_lt_text alg lit e hl hu
  exact solve_of_items alg lit hn (u ++ blanks k).length e hwf hl
    (items_of_depth alg lit hn e hwf hl _ (by simp; omega)) u k hu

theorem tokenize_text (hn : NegNeg alg) (e : E) (hwf : e.WF) (hl : LitOK alg lit e)
    (u : List Char) (k : Nat) (hu : Pre (lexemes e) u) :
    tokenize dflt alg dfltSteps (u ++ blanks k) = .ok (toks dflt alg lit e) := by
  have hargs : ∀ it ∈ items e, ItemOK alg lit (fun st a => solveI dflt alg dfltSteps st a) it :=
    itemsOK_of alg lit _ _ (fun a wa la _ v st hv => by
      have h := solve_text alg lit hn a wa la v 0 hv
      rw [show blanks 0 = [] from rfl, List.append_nil] at h
      exact h) e hwf hl (Nat.le_refl _)
  unfold tokenize
  rw [tokLoop_text alg lit _ e hl hargs u k _ hu (by simp [blanks_length])]

theorem litScan_digits (d r : List Char) (h : ∀ c ∈ d, isDigit c = true) :
    litScan (d ++ r) = litScan r := by
  induction d with
  | nil => rfl
  | cons c d ih =>
    have hc := h c (by simp)
    have hne : c ≠ 'e' := by rintro rfl; revert hc; decide
    simp [litScan, hne, hc, ih (fun x hx => h x (by simp [hx]))]

theorem litScan_all_digits (r : List Char) (h : r.all isDigit = true) : litScan r = true := by
  have := litScan_digits r [] (by simpa using h)
  simpa [litScan] using this

theorem litScan_exp (r : List Char) (h : expOK r = true) : litScan r = true := by
  cases r with
  | nil => rfl
  | cons c r' =>
    simp only [expOK, Bool.and_eq_true, beq_iff_eq, Bool.not_eq_eq_eq_not, Bool.not_true,
      List.isEmpty_eq_false_iff] at h
    obtain ⟨⟨rfl, hne⟩, hall⟩ := h
    cases r' with
    | nil => exact absurd rfl hne
    | cons d ds =>
      have hd : isDigit d = true := by
        simp only [List.all_cons, Bool.and_eq_true] at hall; exact hall.1
      have hrest := litScan_all_digits _ hall
      have hde : d ≠ 'e' := by rintro rfl; revert hd; decide
      simp only [litScan, hde, if_false, hd, Bool.true_or, Bool.true_and] at hrest
      simp [litScan, hd, hde, hrest]

theorem grammarLit_safe (s : List Char) (h : isGrammarLit s = true) : litSafe s = true := by
  unfold isGrammarLit at h
  have hsplit : s = s.takeWhile isDigit ++ s.dropWhile isDigit := (List.takeWhile_append_dropWhile).symm
  have hds : ∀ c ∈ s.takeWhile isDigit, isDigit c = true := fun _ => Util.mem_takeWhile
  generalize s.dropWhile isDigit = r1 at h hsplit
  generalize s.takeWhile isDigit = ds at h hsplit hds
  simp only [] at h
  cases r1 with
  | nil =>
    simp only [Bool.not_eq_eq_eq_not, Bool.not_true, List.isEmpty_eq_false_iff] at h
    have : litScan s = true := by rw [hsplit, litScan_digits _ _ hds]; rfl
    have hne : s ≠ [] := by rw [hsplit]; simpa using h
    simp [litSafe, this, hne]
  | cons c r =>
    simp only [] at h
    have hne : s ≠ [] := by rw [hsplit]; simp
    by_cases hc : c = '.'
    · simp only [hc, if_true, Bool.and_eq_true] at h
      have hfs : ∀ c ∈ r.takeWhile isDigit, isDigit c = true := fun _ => Util.mem_takeWhile
      have hr : r = r.takeWhile isDigit ++ r.dropWhile isDigit := (List.takeWhile_append_dropWhile).symm
      have h2 := litScan_exp _ h.2
      have : litScan s = true := by
        rw [hsplit, litScan_digits _ _ hds, hc]
        have : litScan ('.' :: r) = litScan r := by simp [litScan]
        rw [this, hr, litScan_digits _ _ hfs]; exact h2
      simp [litSafe, this, hne]
    · simp only [hc, if_false, Bool.and_eq_true] at h
      have h2 := litScan_exp _ h.2
      have : litScan s = true := by rw [hsplit, litScan_digits _ _ hds]; exact h2
      simp [litSafe, this, hne]

end SciVerif.C01
