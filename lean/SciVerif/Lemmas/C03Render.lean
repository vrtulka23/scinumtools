import SciVerif.Lemmas.C03Solve

/-! # C03: renderings of a unit AST with arbitrary blanks; the parenthesis scan and the tokenising
loop (`tok`) over a rendering: `unitSolver T s = evalU T a` for every rendering `s` of `a` -/
namespace SciVerif.C03

/-- the text of a leaf as `AtomParser` gets it; `none` for a product, a quotient, a group -/
def U.leafText : U → Option Str
  | .atom p b x => some (p ++ b ++ x)
  | .sys n x => some (n ++ x)
  | .num t => some t
  | _ => none

def blank (l : Str) : Prop := l.all isSpace = true

/-- `s` is the text of `a` with any blanks around leaves and parentheses; `a.render` is the one without blanks -/
inductive Renders : U → Str → Prop
  | leaf (a : U) (t l r : Str) : a.leafText = some t → blank l → blank r → Renders a (l ++ t ++ r)
  | mul (a b : U) (s1 s2 : Str) : Renders a s1 → Renders b s2 → Renders (.mul a b) (s1 ++ '*' :: s2)
  | div (a b : U) (s1 s2 : Str) : Renders a s1 → Renders b s2 → Renders (.div a b) (s1 ++ '/' :: s2)
  | par (a : U) (s l r : Str) : blank l → blank r → Renders a s →
      Renders (.par a) (l ++ '(' :: s ++ ')' :: r)

theorem blank_nil : blank [] := rfl

theorem renders_render (a : U) : Renders a a.render := by
  induction a with
  | atom p b x =>
    have := Renders.leaf (.atom p b x) (p ++ b ++ x) [] [] rfl blank_nil blank_nil
    simpa [U.render] using this
  | sys n x =>
    have := Renders.leaf (.sys n x) (n ++ x) [] [] rfl blank_nil blank_nil
    simpa [U.render] using this
  | num t =>
    have := Renders.leaf (.num t) t [] [] rfl blank_nil blank_nil
    simpa [U.render] using this
  | mul a b iha ihb => exact Renders.mul a b _ _ iha ihb
  | div a b iha ihb => exact Renders.div a b _ _ iha ihb
  | par a ih =>
    have := Renders.par a _ [] [] blank_nil blank_nil ih
    simpa [U.render] using this

/-- every leaf text is non-empty and free of operators, parentheses, separators and blanks: what
    `denote` being defined gives over a table with fact F7, and what the scans need -/
def U.plainLeaves : U → Prop
  | .mul a b => a.plainLeaves ∧ b.plainLeaves
  | .div a b => a.plainLeaves ∧ b.plainLeaves
  | .par a => a.plainLeaves
  | a => ∃ t, a.leafText = some t ∧ t ≠ [] ∧ t.all isPlainChar = true

theorem plain_of_leafText {a : U} {t : Str} (ht : a.leafText = some t) (hp : a.plainLeaves) :
    t ≠ [] ∧ t.all isPlainChar = true := by
  cases a with
  | mul _ _ => cases ht
  | div _ _ => cases ht
  | par _ => cases ht
  | atom p b x => obtain ⟨t', h1, h2, h3⟩ := hp; rw [ht] at h1; cases h1; exact ⟨h2, h3⟩
  | sys n x => obtain ⟨t', h1, h2, h3⟩ := hp; rw [ht] at h1; cases h1; exact ⟨h2, h3⟩
  | num t0 => obtain ⟨t', h1, h2, h3⟩ := hp; rw [ht] at h1; cases h1; exact ⟨h2, h3⟩

theorem plain_not_special (c : Char) (h : isPlainChar c = true) :
    c ≠ '(' ∧ c ≠ ')' ∧ c ≠ '*' ∧ c ≠ '/' ∧ c ≠ ',' ∧ isSpace c = false := by
  unfold isPlainChar at h
  simp only [Bool.not_eq_true', Bool.or_eq_false_iff, beq_eq_false_iff_ne, ne_eq] at h
  obtain ⟨⟨⟨⟨⟨h1, h2⟩, h3⟩, h4⟩, h5⟩, h6⟩ := h
  exact ⟨h1, h2, h3, h4, h5, h6⟩

theorem space_not_special (c : Char) (h : isSpace c = true) :
    c ≠ '(' ∧ c ≠ ')' ∧ c ≠ '*' ∧ c ≠ '/' ∧ c ≠ ',' := by
  refine ⟨?_, ?_, ?_, ?_, ?_⟩ <;> (intro hc; subst hc; revert h; decide)

theorem blank_iff {l : Str} : blank l ↔ ∀ c ∈ l, isSpace c = true := List.all_eq_true

theorem plain_not_space {t : Str} (hall : t.all isPlainChar = true) (c : Char) (hc : c ∈ t) :
    isSpace c = false := by
  obtain ⟨_, _, _, _, _, h⟩ := plain_not_special c (List.all_eq_true.mp hall c hc)
  exact h

theorem trimmed_of_plain {t : Str} (hall : t.all isPlainChar = true) : Util.Trimmed isSpace t := by
  have h := plain_not_space hall
  exact Util.trimmed_iff.mpr ⟨fun x hx => h x (List.mem_of_mem_head? hx), fun y hy => h y (List.mem_of_mem_getLast? hy)⟩

/-- neither a parenthesis nor the argument separator: what `scanPar` just shifts -/
def scanPlain (w : Str) : Prop := ∀ c ∈ w, c ≠ '(' ∧ c ≠ ')' ∧ c ≠ ','

theorem scanPlain_of_plain (w : Str) (h : w.all isPlainChar = true) : scanPlain w := by
  intro c hc
  rw [List.all_eq_true] at h
  obtain ⟨h1, h2, _, _, h5, _⟩ := plain_not_special c (h c hc)
  exact ⟨h1, h2, h5⟩

theorem scanPlain_of_blank (w : Str) (h : blank w) : scanPlain w := by
  intro c hc
  unfold blank at h
  rw [List.all_eq_true] at h
  obtain ⟨h1, h2, _, _, h5⟩ := space_not_special c (h c hc)
  exact ⟨h1, h2, h5⟩

theorem scanPar_plain (w tail : Str) (d : Nat) (left : Str) (args : List Str) (hw : scanPlain w) :
    scanPar (w ++ tail) d left args = scanPar tail d (w.reverse ++ left) args := by
  induction w generalizing left with
  | nil => rfl
  | cons c t ih =>
    obtain ⟨h1, h2, h3⟩ := hw c (by simp)
    have ht : scanPlain t := fun x hx => hw x (List.mem_cons_of_mem _ hx)
    simp only [List.cons_append, scanPar, h1, h2, h3, false_and, if_false]
    rw [ih _ ht]
    simp

/-- `scanPar`, inside a parenthesis, shifts the whole of `s` onto what it has read -/
def Skips (s : Str) : Prop := ∀ (tail : Str) (d : Nat) (left : Str) (args : List Str), 1 ≤ d →
  scanPar (s ++ tail) d left args = scanPar tail d (s.reverse ++ left) args

theorem Skips.plain {w : Str} (hw : scanPlain w) : Skips w :=
  fun tail d left args _ => scanPar_plain w tail d left args hw

theorem Skips.append {s t : Str} (hs : Skips s) (ht : Skips t) : Skips (s ++ t) := by
  intro tail d left args hd
  rw [List.append_assoc, hs _ d left args hd, ht _ d _ args hd, List.reverse_append, List.append_assoc]

/-- a parenthesised text is skipped when its inside is: the depth goes up by one and comes back -/
theorem Skips.paren {s : Str} (hs : Skips s) : Skips ('(' :: s ++ [')']) := by
  intro tail d left args hd
  simp only [List.cons_append, List.append_assoc, scanPar, if_true]
  rw [hs _ (d + 1) _ args (by omega)]
  have hd1 : ¬ (d + 1 = 1) := by omega
  simp only [List.nil_append, scanPar, show (')' : Char) ≠ '(' by decide,
    show (')' : Char) ≠ ',' by decide, false_and, if_false, if_true, hd1, Nat.add_sub_cancel]
  simp

theorem scanPar_renders {a : U} {s : Str} (h : Renders a s) (hp : a.plainLeaves) : Skips s := by
  induction h with
  | leaf a t l r ht hl hr =>
    exact ((Skips.plain (scanPlain_of_blank l hl)).append
      (.plain (scanPlain_of_plain _ (plain_of_leafText ht hp).2))).append (.plain (scanPlain_of_blank r hr))
  | mul a b s1 s2 _ _ iha ihb =>
    exact (iha hp.1).append (.append (.plain (w := ['*']) (by unfold scanPlain; decide)) (ihb hp.2))
  | div a b s1 s2 _ _ iha ihb =>
    exact (iha hp.1).append (.append (.plain (w := ['/']) (by unfold scanPlain; decide)) (ihb hp.2))
  | par a s l r hl hr _ ih =>
    have e : l ++ '(' :: s ++ ')' :: r = l ++ (('(' :: s ++ [')']) ++ r) := by simp
    exact e ▸ (Skips.plain (scanPlain_of_blank l hl)).append (.append (ih hp).paren (.plain (scanPlain_of_blank r hr)))

theorem scanPar_arg {a : U} {s : Str} (h : Renders a s) (hp : a.plainLeaves) (tail : Str) :
    scanPar (s ++ ')' :: tail) 1 [] [] = .ok ([strip s], tail) := by
  rw [scanPar_renders h hp _ 1 [] [] (Nat.le_refl _), scanPar_close_one, List.append_nil, List.reverse_reverse]
  rfl

theorem dropWhile_blank_prefix (u : Str) (c : Char) (v : Str) (hu : blank u) (hc : isSpace c = false) :
    (u ++ c :: v).dropWhile isSpace = c :: v :=
  Util.dropWhile_append_headNot (blank_iff.mp hu) (.cons hc v)

theorem dropTrail_blank_suffix (v : Str) (c : Char) (u : Str) (hu : blank u) (hc : isSpace c = false) :
    dropTrail isSpace (v ++ c :: u) = v ++ [c] := by
  simpa using (trail_of_append isSpace (v ++ [c]) u c hu (by simp) hc).1

theorem dropWhile_padded {l t : Str} (r : Str) (hl : blank l) (hne : t ≠ [])
    (hall : t.all isPlainChar = true) : (l ++ t ++ r).dropWhile isSpace = t ++ r := by
  rw [List.append_assoc]
  exact Util.dropWhile_append_headNot (blank_iff.mp hl) ((trimmed_of_plain hall).1.append hne r)

theorem dropTrail_padded (l : Str) {t r : Str} (hr : blank r) (hne : t ≠ [])
    (hall : t.all isPlainChar = true) : dropTrail isSpace (l ++ t ++ r) = l ++ t := by
  unfold dropTrail
  rw [List.reverse_append, Util.dropWhile_append_headNot (fun c hc => blank_iff.mp hr c (List.mem_reverse.mp hc))
    (by rw [List.reverse_append]; exact (trimmed_of_plain hall).2.append (by simpa using hne) _),
    List.reverse_reverse]

/-- not blank: stripping one end of `s ++ t` or `t ++ s` stops inside `s` -/
def inked (s : Str) : Prop := ∃ c ∈ s, isSpace c = false

theorem dropTrail_cons_of_inked {s : Str} (h : inked s) (t : Str) (c : Char) :
    dropTrail isSpace (t ++ c :: s) = t ++ c :: dropTrail isSpace s := by
  obtain ⟨x, hx, hn⟩ := h
  unfold dropTrail
  have e : (t ++ c :: s).reverse = s.reverse ++ (c :: t.reverse) := by simp
  rw [e, Util.dropWhile_append_of_exists_neg ⟨x, List.mem_reverse.mpr hx, hn⟩]
  simp

theorem renders_inked {a : U} {s : Str} (h : Renders a s) (hp : a.plainLeaves) : inked s := by
  induction h with
  | leaf a t l r ht hl hr =>
    obtain ⟨hne, hall⟩ := plain_of_leafText ht hp
    obtain ⟨c, hc⟩ := List.exists_mem_of_ne_nil t hne
    exact ⟨c, by simp [hc], plain_not_space hall c hc⟩
  | mul a b s1 s2 _ _ iha _ =>
    obtain ⟨c, hc, hn⟩ := iha hp.1
    exact ⟨c, List.mem_append_left _ hc, hn⟩
  | div a b s1 s2 _ _ iha _ =>
    obtain ⟨c, hc, hn⟩ := iha hp.1
    exact ⟨c, List.mem_append_left _ hc, hn⟩
  | par a s l r hl hr _ _ => exact ⟨'(', by simp, by decide⟩

theorem renders_halfstrip {a : U} {s : Str} (h : Renders a s) (hp : a.plainLeaves) :
    Renders a (s.dropWhile isSpace) ∧ Renders a (dropTrail isSpace s) := by
  induction h with
  | leaf a t l r ht hl hr =>
    obtain ⟨hne, hall⟩ := plain_of_leafText ht hp
    rw [dropWhile_padded r hl hne hall, dropTrail_padded l hr hne hall]
    exact ⟨.leaf a t [] r ht blank_nil hr, by simpa using Renders.leaf a t l [] ht hl blank_nil⟩
  | mul a b s1 s2 h1 h2 iha ihb =>
    rw [Util.dropWhile_append_of_exists_neg (renders_inked h1 hp.1), dropTrail_cons_of_inked (renders_inked h2 hp.2)]
    exact ⟨.mul a b _ _ (iha hp.1).1 h2, .mul a b _ _ h1 (ihb hp.2).2⟩
  | div a b s1 s2 h1 h2 iha ihb =>
    rw [Util.dropWhile_append_of_exists_neg (renders_inked h1 hp.1), dropTrail_cons_of_inked (renders_inked h2 hp.2)]
    exact ⟨.div a b _ _ (iha hp.1).1 h2, .div a b _ _ h1 (ihb hp.2).2⟩
  | par a s l r hl hr h _ =>
    have e1 : (l ++ '(' :: s ++ ')' :: r).dropWhile isSpace = [] ++ '(' :: s ++ ')' :: r := by
      simpa using dropWhile_blank_prefix l '(' (s ++ ')' :: r) hl (by decide)
    have e2 : dropTrail isSpace (l ++ '(' :: s ++ ')' :: r) = l ++ '(' :: s ++ ')' :: [] := by
      simpa using dropTrail_blank_suffix (l ++ '(' :: s) ')' r hr (by decide)
    rw [e1, e2]
    exact ⟨.par a s [] r blank_nil hr h, .par a s l [] hl blank_nil h⟩

theorem renders_strip {a : U} {s : Str} (h : Renders a s) (hp : a.plainLeaves) : Renders a (strip s) :=
  (renders_halfstrip (renders_halfstrip h hp).1 hp).2

/-- value of a leaf text: what `AtomParser` returns (`none`: it raises) -/
def leafVal (T : Tables) (t : Str) : Option Atom :=
  match atomParse T t with
  | .ok v => some v
  | .error _ => none

theorem leafVal_eq_some {T : Tables} {t : Str} {v : Atom} : leafVal T t = some v ↔ atomParse T t = .ok v := by
  unfold leafVal
  cases atomParse T t <;> simp

/-- the AST evaluated with the model's own atom parser and `Atom.__mul__/__truediv__` -/
def evalU (T : Tables) : U → Option Atom
  | .atom p b x => leafVal T (p ++ b ++ x)
  | .sys n x => leafVal T (n ++ x)
  | .num t => leafVal T t
  | .mul a b => match evalU T a, evalU T b with
    | some x, some y => some (x.mul y)
    | _, _ => none
  | .div a b => match evalU T a, evalU T b with
    | some x, some y => x.div y
    | _, _ => none
  | .par a => evalU T a

/-- the token list the tokenising loop produces for the AST -/
def toksOf (T : Tables) : U → List Tok
  | .mul a b => toksOf T a ++ Tok.mul :: toksOf T b
  | .div a b => toksOf T a ++ Tok.div :: toksOf T b
  | .par a => [Tok.par (evalU T a)]
  | a => [Tok.val (evalU T a)]

theorem strip_blank (l : Str) (h : blank l) : strip l = [] :=
  Util.trim_of_all (blank_iff.mp h)

theorem strip_padded (l t r : Str) (hl : blank l) (hr : blank r) (hall : t.all isPlainChar = true) :
    strip (l ++ t ++ r) = t :=
  Util.trim_pad (blank_iff.mp hl) (blank_iff.mp hr) (trimmed_of_plain hall)

/-- characters the tokenising loop just shifts -/
def tokPlain (w : Str) : Prop := ∀ c ∈ w, c ≠ '(' ∧ c ≠ '*' ∧ c ≠ '/'

theorem tokPlain_of_plain (w : Str) (h : w.all isPlainChar = true) : tokPlain w := by
  intro c hc
  rw [List.all_eq_true] at h
  obtain ⟨h1, _, h3, h4, _, _⟩ := plain_not_special c (h c hc)
  exact ⟨h1, h3, h4⟩

theorem tokPlain_of_blank (w : Str) (h : blank w) : tokPlain w := by
  intro c hc
  unfold blank at h
  rw [List.all_eq_true] at h
  obtain ⟨h1, _, h3, h4, _⟩ := space_not_special c (h c hc)
  exact ⟨h1, h3, h4⟩

theorem tok_shift (T : Tables) (w tail left : Str) (toks : List Tok) (hw : tokPlain w) :
    tok T (w ++ tail) left toks = tok T tail (w.reverse ++ left) toks := by
  induction w generalizing left with
  | nil => rfl
  | cons c t ih =>
    obtain ⟨h1, h2, h3⟩ := hw c List.mem_cons_self
    rw [List.cons_append, tok]
    simp only [h1, h2, h3, if_false]
    rw [ih _ fun x hx => hw x (List.mem_cons_of_mem _ hx), List.reverse_cons, List.append_assoc]
    rfl

theorem flushLeft_blank (T : Tables) (l : Str) (toks : List Tok) (h : blank l) :
    flushLeft T l.reverse toks = .ok toks := by
  unfold flushLeft
  simp only [List.reverse_reverse, strip_blank l h, if_true]

theorem flushLeft_text (T : Tables) (l t r : Str) (toks : List Tok) (v : Atom) (hl : blank l) (hr : blank r)
    (hne : t ≠ []) (hall : t.all isPlainChar = true) (hv : atomParse T t = .ok v) :
    flushLeft T (l ++ t ++ r).reverse toks = .ok (toks ++ [.val (some v)]) := by
  unfold flushLeft
  simp only [List.reverse_reverse, strip_padded l t r hl hr hall, hne, if_false, hv]

theorem evalU_par (T : Tables) (a : U) : evalU T (.par a) = evalU T a := rfl

theorem evalU_mul_some {T : Tables} {a b : U} {v : Atom} :
    evalU T (.mul a b) = some v ↔ ∃ x y, evalU T a = some x ∧ evalU T b = some y ∧ x.mul y = v := by
  rw [evalU]
  cases evalU T a <;> cases evalU T b <;> simp

theorem evalU_div_some {T : Tables} {a b : U} {v : Atom} :
    evalU T (.div a b) = some v ↔ ∃ x y, evalU T a = some x ∧ evalU T b = some y ∧ x.div y = some v := by
  rw [evalU]
  cases evalU T a <;> cases evalU T b <;> simp

theorem argsPass_append (a b : List Tok) : argsPass (a ++ b) = argsPass a ++ argsPass b := by
  simp [argsPass]

def isOpTok (t : Tok) : Prop := t = .mul ∨ t = .div

theorem argsPass_op (op : Tok) (hop : isOpTok op) (B : List Tok) :
    argsPass (op :: B) = op :: argsPass B := by
  rcases hop with rfl | rfl <;> simp [argsPass]

theorem argsPass_term (T : Tables) (b : U) (hb : b.isOp = false) :
    argsPass (toksOf T b) = [.val (evalU T b)] := by
  cases b with
  | mul _ _ => cases hb
  | div _ _ => cases hb
  | par a => simp [toksOf, argsPass, evalU_par]
  | atom p q x => simp [toksOf, argsPass]
  | sys n x => simp [toksOf, argsPass]
  | num t => simp [toksOf, argsPass]

theorem binPass_toksOf (T : Tables) (a : U) (hla : a.leftAssoc = true) (v : Atom)
    (hv : evalU T a = some v) (more : List Tok) :
    binPass [] (argsPass (toksOf T a) ++ more) = binPass [.val (some v)] more := by
  induction a generalizing v more with
  | atom p b x => simp [toksOf, argsPass, hv, binPass]
  | sys n x => simp [toksOf, argsPass, hv, binPass]
  | num t => simp [toksOf, argsPass, hv, binPass]
  | par a _ =>
    rw [evalU_par] at hv
    simp [toksOf, argsPass, hv, binPass]
  | mul a b iha _ =>
    simp only [U.leftAssoc, Bool.and_eq_true, Bool.not_eq_true'] at hla
    obtain ⟨x, y, hx, hy, rfl⟩ := evalU_mul_some.mp hv
    simp only [toksOf, argsPass_append, List.append_assoc]
    rw [argsPass_op _ (.inl rfl), argsPass_term T b hla.2, hy, List.cons_append, iha hla.1.1 x hx]
    simp [binPass]
  | div a b iha _ =>
    simp only [U.leftAssoc, Bool.and_eq_true, Bool.not_eq_true'] at hla
    obtain ⟨x, y, hx, hy, hd⟩ := evalU_div_some.mp hv
    simp only [toksOf, argsPass_append, List.append_assoc]
    rw [argsPass_op _ (.inr rfl), argsPass_term T b hla.2, hy, List.cons_append, iha hla.1.1 x hx]
    simp [binPass, hd]

theorem evalToks_toksOf (T : Tables) (a : U) (hla : a.leftAssoc = true) (v : Atom)
    (hv : evalU T a = some v) : evalToks (toksOf T a) = .ok (some v) := by
  have := binPass_toksOf T a hla v hv []
  rw [List.append_nil] at this
  rw [evalToks, this]
  rfl

theorem leaf_eval (T : Tables) {a : U} {t : Str} (ht : a.leafText = some t) :
    evalU T a = leafVal T t ∧ toksOf T a = [.val (evalU T a)] := by
  cases a with
  | mul _ _ => cases ht
  | div _ _ => cases ht
  | par _ => cases ht
  | atom p b x => cases ht; exact ⟨rfl, rfl⟩
  | sys n x => cases ht; exact ⟨rfl, rfl⟩
  | num t0 => cases ht; exact ⟨rfl, rfl⟩

/-- `Reads T s A`: read in front of anything, `s` leaves the tokens `A` pending — behind `s` the loop is in a
    state whose flush gives the tokens it had and then `A`.  Success of the loop on a rendering is composed
    from this: a padded leaf (`tok_leaf`), two readings around an operator sign (`Reads.op`), a group around a
    reading (the `par` case of `tok_renders`). -/
def Reads (T : Tables) (s : Str) (A : List Tok) : Prop :=
  ∀ (tail : Str) (toks : List Tok), ∃ left' toks',
    flushLeft T left' toks' = .ok (toks ++ A) ∧ tok T (s ++ tail) [] toks = tok T tail left' toks'

theorem Reads.solves {T : Tables} {s : Str} {A : List Tok} (h : Reads T s A) : tok T s [] [] = .ok A := by
  obtain ⟨l, t, f, e⟩ := h [] []
  rwa [List.append_nil, tok_nil, f, List.nil_append] at e

theorem Reads.value {T : Tables} {s : Str} {a : U} (h : Reads T s (toksOf T a)) (hla : a.leftAssoc = true)
    {v : Atom} (hv : evalU T a = some v) : sol T s = .ok (some v) := by
  rw [sol, h.solves]
  exact evalToks_toksOf T a hla v hv

theorem Reads.op {T : Tables} {s1 s2 : Str} {A B : List Tok} (h1 : Reads T s1 A) (h2 : Reads T s2 B)
    {c : Char} (hc : isOpChar c) : Reads T (s1 ++ c :: s2) (A ++ opTok c :: B) := by
  intro tail toks
  obtain ⟨l1, t1, f1, e1⟩ := h1 (c :: (s2 ++ tail)) toks
  obtain ⟨l2, t2, f2, e2⟩ := h2 tail (toks ++ A ++ [opTok c])
  refine ⟨l2, t2, by rw [f2]; simp, ?_⟩
  rw [List.append_assoc, List.cons_append, e1, tok_op T c hc, f1]
  exact e2

theorem tok_leaf (T : Tables) {a : U} {s : Str} (h : Renders a s) (hl : ∃ t, a.leafText = some t)
    (hp : a.plainLeaves) {v : Atom} (hv : evalU T a = some v) : Reads T s (toksOf T a) := by
  intro tail toks
  obtain ⟨t0, ht0⟩ := hl
  cases h with
  | leaf _ t l r ht hl hr =>
    obtain ⟨hne, hall⟩ := plain_of_leafText ht hp
    obtain ⟨he, htoks⟩ := leaf_eval T ht
    have hparse : atomParse T t = .ok v := leafVal_eq_some.mp (he ▸ hv)
    have hplain : tokPlain (l ++ t ++ r) := List.forall_mem_append.mpr ⟨List.forall_mem_append.mpr
      ⟨tokPlain_of_blank l hl, tokPlain_of_plain _ hall⟩, tokPlain_of_blank r hr⟩
    refine ⟨_, toks, ?_, tok_shift T _ tail [] toks hplain⟩
    rw [List.append_nil, flushLeft_text T l _ r toks v hl hr hne hall hparse, htoks, hv]
  | mul _ _ _ _ _ _ => cases ht0
  | div _ _ _ _ _ _ => cases ht0
  | par _ _ _ _ _ _ _ => cases ht0

theorem tok_renders (T : Tables) (a : U) :
    ∀ (s : Str), Renders a s → a.plainLeaves → a.leftAssoc = true → (∃ v, evalU T a = some v) →
      Reads T s (toksOf T a) := by
  induction a with
  | mul a b iha ihb =>
    intro s h hp hla ⟨v, hv⟩
    cases h with
    | leaf _ t l r ht _ _ => cases ht
    | mul _ _ s1 s2 h1 h2 =>
      simp only [U.leftAssoc, Bool.and_eq_true] at hla
      obtain ⟨x, y, hx, hy, _⟩ := evalU_mul_some.mp hv
      exact (iha s1 h1 hp.1 hla.1.1 ⟨x, hx⟩).op (ihb s2 h2 hp.2 hla.1.2 ⟨y, hy⟩) (Or.inl rfl)
  | div a b iha ihb =>
    intro s h hp hla ⟨v, hv⟩
    cases h with
    | leaf _ t l r ht _ _ => cases ht
    | div _ _ s1 s2 h1 h2 =>
      simp only [U.leftAssoc, Bool.and_eq_true] at hla
      obtain ⟨x, y, hx, hy, _⟩ := evalU_div_some.mp hv
      exact (iha s1 h1 hp.1 hla.1.1 ⟨x, hx⟩).op (ihb s2 h2 hp.2 hla.1.2 ⟨y, hy⟩) (Or.inr rfl)
  | par a iha =>
    intro s h hp hla ⟨v, hv⟩
    cases h with
    | leaf _ t l r ht _ _ => cases ht
    | par _ s' l r hl hr h' =>
      rw [evalU_par] at hv
      simp only [U.leftAssoc] at hla
      -- the argument the scan cuts out is `strip s'`, again a rendering of `a`
      have hsol := (iha (strip s') (renders_strip h' hp) hp hla ⟨v, hv⟩).value hla hv
      intro tail toks
      refine ⟨r.reverse, toks ++ [.par (some v)], by rw [flushLeft_blank T r _ hr]; simp [toksOf, hv], ?_⟩
      have e : l ++ '(' :: s' ++ ')' :: r ++ tail = l ++ ('(' :: (s' ++ ')' :: (r ++ tail))) := by simp
      rw [e, tok_shift T l _ [] toks (tokPlain_of_blank l hl), List.append_nil, tok_open,
        flushLeft_blank T l toks hl, scanPar_arg h' hp]
      simp only [Except.bind, hsol]
      rw [tok_shift T r tail [] _ (tokPlain_of_blank r hr), List.append_nil]
  | atom p b x => intro s h hp _ ⟨v, hv⟩; exact tok_leaf T h ⟨_, rfl⟩ hp hv
  | sys n x => intro s h hp _ ⟨v, hv⟩; exact tok_leaf T h ⟨_, rfl⟩ hp hv
  | num t0 => intro s h hp _ ⟨v, hv⟩; exact tok_leaf T h ⟨_, rfl⟩ hp hv

/-- the simulation every text-level theorem goes through -/
theorem unitSolver_renders (T : Tables) (a : U) (s : Str) (h : Renders a s) (hp : a.plainLeaves)
    (hla : a.leftAssoc = true) (v : Atom) (hv : evalU T a = some v) : unitSolver T s = .ok v := by
  rw [unitSolver, solve_unitSolver, (tok_renders T a s h hp hla ⟨v, hv⟩).value hla hv]

end SciVerif.C03
