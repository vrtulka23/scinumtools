import SciVerif.Lemmas.C19Values
/-!
# C19 — Bash: quote removal undoes the escaping; scalar, indexed and associative variables; whole files

The conditions on a parameter are `ParamOKBash` (scalars and one-dimensional arrays) and `ParamOKBashAll` (any rank);
the file theorems are `readBash_exportBash`, `readBash_exportBash_fresh` and its corollary `readBash_exportBash_all`.
-/
namespace SciVerif.C19

def bashEscChar (ch : Char) : Str :=
  if ch = '\\' then ['\\', '\\'] else if ch = '"' then ['\\', '"'] else if ch = '$' then ['\\', '$']
  else if ch = '`' then ['\\', '`'] else [ch]

theorem bashEsc_nil : bashEsc [] = [] := rfl

/-- the four sequential `str.replace` calls act character by character -/
theorem bashEsc_cons (ch : Char) (v : Str) : bashEsc (ch :: v) = bashEscChar ch ++ bashEsc v := by
  fun_cases bashEscChar ch <;> simp [bashEsc, replaceChar_cons, *]

theorem bashDq_esc : ∀ (v rest : Str), bashDqGo false (bashEsc v ++ '"' :: rest) = some (v, rest)
  | [], rest => rfl
  | ch :: v, rest => by
    have ih := bashDq_esc v rest
    rw [bashEsc_cons]
    fun_cases bashEscChar ch <;> simp [bashDqGo, bashDqSpecial, *]

theorem bashWordValue_scalar (v : Str) : bashWordValue (bashScalar (.s v)) = some v := by
  have := bashDq_esc v []
  simp [bashWordValue, bashScalar, bashDq, this]

/-- text without any character that is special inside double quotes -/
def dqPlain (t : Str) : Bool := t.all (fun c => c ≠ '"' ∧ c ≠ '\\' ∧ c ≠ '$' ∧ c ≠ '`')

theorem bashDq_plain : ∀ (t rest : Str), dqPlain t = true → bashDqGo false (t ++ '"' :: rest) = some (t, rest)
  | [], rest, _ => by simp only [List.nil_append, bashDqGo, if_true]
  | c :: t, rest, h => by
    obtain ⟨hc, ht⟩ := Bool.and_eq_true_iff.mp (List.all_cons.symm.trans h)
    obtain ⟨h1, h2, h3, h4⟩ := of_decide_eq_true hc
    simp only [List.cons_append, bashDqGo, h1, h2, h3, h4, if_false, or_self, bashDq_plain t rest ht, Option.map_some]

theorem floatChar_bare (ch : Char) (h : floatChar ch = true) : bashSafeBare ch = true := by
  simp only [floatChar, decide_eq_true_eq] at h
  simp only [bashSafeBare, decide_eq_true_eq]
  rcases h with h | h | h | h | h
  · exact Or.inl h
  · subst h; decide
  · subst h; decide
  · subst h; decide
  · subst h; decide

theorem floatChar_dqPlain (t : Str) (h : ∀ ch ∈ t, floatChar ch = true) : dqPlain t = true := by
  simp only [dqPlain, List.all_eq_true]
  intro ch hch
  have := h ch hch
  simp only [decide_eq_true_eq]
  refine ⟨?_, ?_, ?_, ?_⟩ <;> (intro e; subst e; revert this; decide)

theorem bashScalar_cases (k : Kind) (s : Scalar) (hk : ScalarOK k s) : (∃ v, s = .s v) ∨
    ((∀ ch ∈ bashScalar s, floatChar ch = true) ∧ bashScalar s ≠ [] ∧ bashScalar s = bashValueText s ∧
      bashWord (.leaf s) = '"' :: bashScalar s ++ ['"']) := by
  cases s with
  | s v => exact .inl ⟨v, rfl⟩
  | b v => cases v <;> exact .inr ⟨by decide, by decide, rfl, rfl⟩
  | i v => exact .inr ⟨showInt_floatChars v, showInt_ne_nil v, rfl, rfl⟩
  | f t => exact .inr ⟨fun ch hch => List.all_eq_true.mp hk.2.2 ch hch, hk.2.1, rfl, rfl⟩

theorem bashWordValue_bare (t : Str) (hne : t ≠ []) (h : ∀ ch ∈ t, floatChar ch = true) : bashWordValue t = some t := by
  cases t with
  | nil => exact absurd rfl hne
  | cons c cs =>
    unfold bashWordValue
    split
    · rename_i heq
      exact absurd (List.cons.inj heq).1 (Util.ne_of_class (h c List.mem_cons_self) rfl)
    · rw [if_pos (List.all_eq_true.mpr fun ch hch => floatChar_bare ch (h ch hch))]

theorem bashWordValue_bashScalar (k : Kind) (s : Scalar) (hk : ScalarOK k s) :
    bashWordValue (bashScalar s) = some (bashValueText s) := by
  rcases bashScalar_cases k s hk with ⟨v, rfl⟩ | ⟨hc, hne, he, _⟩
  · exact bashWordValue_scalar v
  · exact he ▸ bashWordValue_bare _ hne hc

theorem bashDq_bashWord (k : Kind) (s : Scalar) (hk : ScalarOK k s) (rest : Str) :
    ∃ body, bashWord (.leaf s) = '"' :: body ++ ['"'] ∧
      bashDqGo false (body ++ '"' :: rest) = some (bashValueText s, rest) := by
  rcases bashScalar_cases k s hk with ⟨v, rfl⟩ | ⟨hc, _, he, hw⟩
  · exact ⟨bashEsc v, rfl, bashDq_esc v rest⟩
  · exact ⟨bashScalar s, hw, he ▸ bashDq_plain _ rest (floatChar_dqPlain _ hc)⟩

theorem bashWords_join (k : Kind) : ∀ (ss : List Scalar) (fuel : Nat), ss ≠ [] → ss.length < fuel →
    (∀ s ∈ ss, ScalarOK k s) →
    bashWords fuel (joinWith [' '] ((ss.map Tree.leaf).map bashWord)) = some (ss.map bashValueText)
  | [], _, h, _, _ => absurd rfl h
  | _ :: _, 0, _, hf, _ => nomatch hf
  | [s], f + 1, _, _, hk => by
    obtain ⟨body, hb, hd⟩ := bashDq_bashWord k s (hk s (by simp)) []
    simp only [List.map_cons, List.map_nil, joinWith_singleton, hb, List.cons_append, bashWords, bashDq]
    simp [hd]
  | s :: t :: ss, f + 1, _, hf, hk => by
    have ih := bashWords_join k (t :: ss) f (by simp) (by simp at hf ⊢; omega) (fun x hx => hk x (by simp [hx]))
    obtain ⟨body, hb, hd⟩ := bashDq_bashWord k s (hk s (by simp))
      (' ' :: joinWith [' '] (((t :: ss).map Tree.leaf).map bashWord))
    simp only [List.map_cons, joinWith_cons_cons, hb, List.cons_append, List.append_assoc, List.nil_append, bashWords, bashDq] at ih ⊢
    simp only [List.map_cons] at hd
    rw [hd]
    simp only [ih, Option.map_some]

def exportWord (exp : Bool) : Str := if exp then cs!"export " else []

theorem bashNameChar_ne (ch : Char) (h : bashNameChar ch = true) : ch ≠ '=' ∧ ch ≠ '[' ∧ ch ≠ ' ' := by
  simpa [bashNameChar] using h

/-- a name as the reader takes it: no `=`, `[` or blank -/
def BashName (name : Str) : Prop := ∀ ch ∈ name, bashNameChar ch = true

def Fresh (prev : List BSym) (name : Str) : Prop := ∀ x ∈ prev, x.name ≠ name

/-- the head of a line, once for its forms: `[export ]NAME` followed by `=…`, `[…`, or (exported) nothing -/
theorem readBashLine_head (acc : List BSym) (exp : Bool) (name tail : Str) (hn : BashName name)
    (ht : ∀ x r, tail = x :: r → x = '=' ∨ x = '[') (he : tail = [] → exp = true) :
    readBashLine acc (exportWord exp ++ (name ++ tail)) = readBashTail acc exp name tail := by
  have hspan : (name ++ tail).span bashNameChar = (name, tail) :=
    Util.span_append_headNot hn (fun x r e => by rcases ht x r e with rfl | rfl <;> rfl)
  cases exp with
  | true =>
    have h1 : dropPrefix? (cs!"declare -A ") (cs!"export " ++ (name ++ tail)) = none := rfl
    simp only [readBashLine, exportWord, if_true, h1, bashHead, dropPrefix_append, hspan]
  | false =>
    cases tail with
    | nil => cases he rfl
    | cons x r =>
      have hsp : ∀ ch ∈ name, ch ≠ ' ' := fun ch hch => (bashNameChar_ne ch (hn ch hch)).2.2
      have hx : x ∉ cs!"declare -A " ∧ x ∉ cs!"export " := by rcases ht x r rfl with rfl | rfl <;> decide
      simp only [readBashLine, exportWord, Bool.false_eq_true, if_false, List.nil_append, bashHead, hspan,
        noPrefix' _ name x r hsp (by decide) hx.1, noPrefix' _ name x r hsp (by decide) hx.2]

theorem readBashLine_scalar (acc : List BSym) (exp : Bool) (name : Str) (k : Kind) (s : Scalar)
    (hn : BashName name) (hk : ScalarOK k s) :
    readBashLine acc (exportWord exp ++ (name ++ '=' :: bashScalar s)) =
      some (acc ++ [⟨name, .scalar, exp, [([], bashValueText s)]⟩]) := by
  have hv := bashWordValue_bashScalar k s hk
  have hpar : ∀ r, bashScalar s ≠ '(' :: r := by
    intro r e
    rcases bashScalar_cases k s hk with ⟨v, rfl⟩ | ⟨hc, _⟩
    · cases e
    · exact absurd (hc '(' (e ▸ List.mem_cons_self)) (by decide)
  rw [readBashLine_head acc exp name _ hn (fun _ _ e => .inl (List.cons.inj e).1.symm) (fun e => by cases e), readBashTail]
  unfold readBashValue
  split
  · rename_i r heq; exact absurd heq (hpar r)
  · simp [hv]

theorem bashWord_length (s : Scalar) : 1 ≤ (bashWord (.leaf s)).length := by
  cases s <;> simp [bashWord, bashScalar]

theorem words_length_le : ∀ (l : List Scalar), l.length ≤ (joinWith [' '] ((l.map Tree.leaf).map bashWord)).length
  | [] => by simp
  | [a] => by
    have := bashWord_length a
    simpa [joinWith_singleton] using this
  | a :: c :: l => by
    have ih := words_length_le (c :: l)
    simp only [List.map_cons, joinWith_cons_cons, List.length_append, List.length_cons] at ih ⊢
    omega

theorem readBashLine_array (acc : List BSym) (exp : Bool) (name : Str) (k : Kind) (ss : List Scalar)
    (hn : BashName name) (hne : ss ≠ []) (hk : ∀ s ∈ ss, ScalarOK k s) :
    readBashLine acc (exportWord exp ++ (name ++ '=' :: '(' ::
        (joinWith [' '] ((ss.map Tree.leaf).map bashWord) ++ [')']))) =
      some (acc ++ [⟨name, .indexed, exp, enumFrom 0 (ss.map bashValueText)⟩]) := by
  have hw := bashWords_join k ss ((joinWith [' '] ((ss.map Tree.leaf).map bashWord)).length + 1) hne
    (by have := words_length_le ss; omega) hk
  rw [readBashLine_head acc exp name _ hn (fun _ _ e => .inl (List.cons.inj e).1.symm) (fun e => by cases e)]
  simp only [readBashTail, readBashValue, dropLastChar_snoc, hw, Option.map_some]

/-- scalars and non-empty one-dimensional arrays: the parameters written on one line (arrays of rank two and
    more are written as associative arrays over several lines: `ParamOKBashAll`) -/
def ParamOKBash (ren : Bool) (p : Param) : Prop :=
  (∀ ch ∈ rename ren p.name, bashNameChar ch = true) ∧ clean (rename ren p.name) = true ∧ NoNL p.value ∧
  ((∃ s, p.value = .leaf s ∧ ScalarOK p.kind s) ∨
   (∃ ss : List Scalar, ss ≠ [] ∧ p.value = .arr (ss.map Tree.leaf) ∧ ∀ s ∈ ss, ScalarOK p.kind s))

/-- the one line `ExportConfigBash.parse` writes for such a parameter -/
def lineBash1 (exp ren : Bool) (p : Param) : Str :=
  match p.value with
  | .leaf s => exportWord exp ++ (rename ren p.name ++ '=' :: bashScalar s)
  | .arr vs => exportWord exp ++ (rename ren p.name ++ '=' :: '(' :: (joinWith [' '] (vs.map bashWord) ++ [')']))

/-- the symbol the property demands for a parameter -/
def bashSymOf (exp ren : Bool) (p : Param) : BSym :=
  ⟨rename ren p.name,
   (match shapeOf p.value with
    | some [] => BKind.scalar
    | some [_] => BKind.indexed
    | _ => BKind.assoc), exp, bashItems [] p.value⟩

theorem expectedBash_eq (exp ren : Bool) (data : List Param) :
    expectedBash exp ren data = data.map (bashSymOf exp ren) := rfl

theorem shapeLast_leaves : ∀ ss : List Scalar, ss ≠ [] → shapeLast (ss.map Tree.leaf) = some []
  | [], h => absurd rfl h
  | [s], _ => rfl
  | s :: t :: ss, _ => by
    have ih := shapeLast_leaves (t :: ss) (by simp)
    simpa [shapeLast] using ih

theorem shapeOf_leaves (ss : List Scalar) (h : ss ≠ []) : shapeOf (.arr (ss.map Tree.leaf)) = some [ss.length] := by
  simp [shapeOf, shapeLast_leaves ss h]

theorem bashItemsList_leaves : ∀ (ss : List Scalar) (i : Nat),
    bashItemsList [] i (ss.map Tree.leaf) = enumFrom i (ss.map bashValueText)
  | [], _ => rfl
  | s :: ss, i => by
    simp [bashItemsList, bashItems, enumFrom, bashItemsList_leaves ss (i + 1), commaNats_singleton]

theorem lineBash_flat (exp ren : Bool) (p : Param) (hok : ParamOKBash ren p) :
    lineBash exp ren p = some [lineBash1 exp ren p] := by
  obtain ⟨_, _, _, h | h⟩ := hok
  · obtain ⟨s, hs, _⟩ := h
    simp [lineBash, lineBash1, hs, exportWord]
  · obtain ⟨ss, hne, hs, _⟩ := h
    have hsh := shapeOf_leaves ss hne
    rw [← hs] at hsh
    simp only [lineBash, lineBash1, hs] at hsh ⊢
    simp [hsh, exportWord]

theorem readBashLine_line1 (exp ren : Bool) (p : Param) (hok : ParamOKBash ren p) (acc : List BSym) :
    readBashLine acc (lineBash1 exp ren p) = some (acc ++ [bashSymOf exp ren p]) := by
  obtain ⟨hn, _, _, h | h⟩ := hok
  · obtain ⟨s, hs, hk⟩ := h
    have := readBashLine_scalar acc exp (rename ren p.name) p.kind s hn hk
    simp only [lineBash1, bashSymOf, hs, shapeOf, bashItems, commaNats_nil]
    exact this
  · obtain ⟨ss, hne, hs, hk⟩ := h
    have := readBashLine_array acc exp (rename ren p.name) p.kind ss hn hne hk
    have hsh := shapeOf_leaves ss hne
    simp only [lineBash1, bashSymOf, hs, hsh, bashItems, bashItemsList_leaves]
    exact this

theorem clean_bashEsc (v : Str) (h : clean v = true) : clean (bashEsc v) = true :=
  clean_replaceChar _ _ rfl _ (clean_replaceChar _ _ rfl _ (clean_replaceChar _ _ rfl _ (clean_replaceChar _ _ rfl _ h)))

theorem clean_bashScalar (k : Kind) (s : Scalar) (hk : ScalarOK k s) (hn : NoNL (.leaf s)) :
    clean (bashScalar s) = true := by
  rcases bashScalar_cases k s hk with ⟨v, rfl⟩ | ⟨hc, _⟩
  · have hv : clean v = true := hn
    simp [bashScalar, clean_cons, clean_append, clean_bashEsc v hv, clean_nil]
  · exact clean_of_floatChars _ hc

theorem clean_bashWord (k : Kind) (s : Scalar) (hk : ScalarOK k s) (hn : NoNL (.leaf s)) :
    clean (bashWord (.leaf s)) = true := by
  have := clean_bashScalar k s hk hn
  rcases bashScalar_cases k s hk with ⟨v, rfl⟩ | ⟨_, _, _, hw⟩
  · exact this
  · rw [hw, List.cons_append, clean_cons, clean_append, this]
    rfl

theorem clean_exportWord (exp : Bool) : clean (exportWord exp) = true := by cases exp <;> rfl

theorem assignLine_line (exp : Bool) (name w : Str) (hcn : clean name = true) (hw : clean w = true) :
    Line (exportWord exp ++ (name ++ '=' :: w)) :=
  ⟨by simp only [clean_append, clean_cons, clean_exportWord, hcn, hw]; rfl,
    List.append_ne_nil_of_right_ne_nil _ (List.append_ne_nil_of_right_ne_nil _ (List.cons_ne_nil _ _))⟩

theorem lineBash1_line (exp ren : Bool) (p : Param) (hok : ParamOKBash ren p) : Line (lineBash1 exp ren p) := by
  obtain ⟨_, hcn, hnl, h | h⟩ := hok
  · obtain ⟨s, hs, hk⟩ := h
    rw [hs] at hnl
    rw [lineBash1, hs]
    exact assignLine_line exp _ _ hcn (clean_bashScalar p.kind s hk hnl)
  · obtain ⟨ss, _, hs, hk⟩ := h
    rw [hs] at hnl
    have hl := fun s hs => (noNLs_iff _).mp hnl (.leaf s) (List.mem_map_of_mem hs)
    have hw : clean (joinWith [' '] ((ss.map Tree.leaf).map bashWord)) = true :=
      clean_joinWith _ rfl _ (fun l hl2 => by
        obtain ⟨v, hv, rfl⟩ := List.mem_map.mp hl2
        obtain ⟨s, hs2, rfl⟩ := List.mem_map.mp hv
        exact clean_bashWord p.kind s (hk s hs2) (hl s hs2))
    rw [lineBash1, hs]
    exact assignLine_line exp _ _ hcn (by rw [clean_cons, clean_append, hw]; rfl)

/-- what `foldlM_params` asks of one parameter: its lines exist, add its symbol when read after `acc`, and are lines -/
def LinesOK (exp ren : Bool) (p : Param) (acc : List BSym) : Prop :=
  ∃ ls, lineBash exp ren p = some ls ∧ ls.foldlM readBashLine acc = some (acc ++ [bashSymOf exp ren p]) ∧
    ∀ l ∈ ls, Line l

theorem param_lines_flat (exp ren : Bool) (p : Param) (hok : ParamOKBash ren p) (acc : List BSym) :
    LinesOK exp ren p acc :=
  ⟨[lineBash1 exp ren p], lineBash_flat exp ren p hok,
    by rw [List.foldlM_cons, readBashLine_line1 exp ren p hok acc]; rfl,
    fun l hl => List.mem_singleton.mp hl ▸ lineBash1_line exp ren p hok⟩

/-- the symbol table while an associative array is being filled: earlier symbols, then this one -/
def assocAcc (prev : List BSym) (name : Str) (exp : Bool) (items : List (Str × Str)) : List BSym :=
  prev ++ [⟨name, .assoc, exp, items⟩]

theorem readBashLine_declare (acc : List BSym) (name : Str) :
    readBashLine acc (cs!"declare -A " ++ name) = some (assocAcc acc name false []) := by
  unfold readBashLine
  rw [dropPrefix_append]
  rfl

theorem map_fresh (prev : List BSym) (name : Str) (f : BSym → BSym) (h : Fresh prev name) :
    prev.map (fun s => if s.name = name then f s else s) = prev := by
  induction prev with
  | nil => rfl
  | cons a r ih =>
    have ha : a.name ≠ name := h a (by simp)
    simp [ha, ih (fun s hs => h s (by simp [hs]))]

theorem assocAcc_find (prev : List BSym) (name : Str) (exp : Bool) (items : List (Str × Str))
    (hfresh : Fresh prev name) :
    (assocAcc prev name exp items).find? (fun x => decide (x.name = name ∧ x.kind = .assoc)) =
      some ⟨name, .assoc, exp, items⟩ := by
  have hnone : prev.find? (fun x => decide (x.name = name ∧ x.kind = .assoc)) = none :=
    List.find?_eq_none.mpr fun x hx => by simp [hfresh x hx]
  rw [assocAcc, List.find?_append, hnone]
  simp

theorem assocAcc_map (prev : List BSym) (name : Str) (exp : Bool) (items : List (Str × Str)) (f : BSym → BSym)
    (hfresh : Fresh prev name) :
    (assocAcc prev name exp items).map (fun s => if s.name = name then f s else s) =
      prev ++ [f ⟨name, .assoc, exp, items⟩] := by
  simp [assocAcc, map_fresh prev name f hfresh]

theorem readBashLine_item (prev : List BSym) (name key : Str) (items : List (Str × Str)) (k : Kind) (s : Scalar)
    (hn : BashName name) (hkey : ∀ ch ∈ key, ch ≠ ']') (hk : ScalarOK k s)
    (hfresh : Fresh prev name) :
    readBashLine (assocAcc prev name false items) (name ++ '[' :: (key ++ ']' :: '=' :: bashScalar s)) =
      some (assocAcc prev name false (items ++ [(key, bashValueText s)])) := by
  have h4 := span_stop_cons (fun c => decide (c ≠ ']')) key ']' ('=' :: bashScalar s)
    (fun ch hch => decide_eq_true (hkey ch hch)) rfl
  have h5 := bashWordValue_bashScalar k s hk
  rw [show name ++ '[' :: (key ++ ']' :: '=' :: bashScalar s) =
      exportWord false ++ (name ++ '[' :: (key ++ ']' :: '=' :: bashScalar s)) from rfl,
    readBashLine_head _ false name _ hn (fun _ _ e => .inr (List.cons.inj e).1.symm) (fun e => by cases e)]
  simp only [readBashTail, h4, Bool.false_eq_true, if_false, h5, assocAcc_find prev name false items hfresh,
    assocAcc_map prev name false items _ hfresh]
  rfl

theorem readBashLine_export (prev : List BSym) (name : Str) (items : List (Str × Str))
    (hn : BashName name) (hfresh : Fresh prev name) :
    readBashLine (assocAcc prev name false items) (cs!"export " ++ name) =
      some (assocAcc prev name true items) := by
  have h := readBashLine_head (assocAcc prev name false items) true name [] hn (fun _ _ e => by cases e) (fun _ => rfl)
  rw [List.append_nil] at h
  rw [show cs!"export " = exportWord true from rfl, h]
  simp only [readBashTail, if_true, assocAcc_map prev name false items _ hfresh]
  rfl

mutual
theorem fold_assoc (prev : List BSym) (name : Str) (k : Kind) (hn : BashName name)
    (hfresh : Fresh prev name) : (v : Val) → ValOK k v → ∀ (coord : List Nat) (items : List (Str × Str)),
    (bashAssoc name coord v).foldlM readBashLine (assocAcc prev name false items) =
      some (assocAcc prev name false (items ++ (match v with
        | .leaf _ => []
        | .arr ws => bashItemsList coord 0 ws)))
  | .leaf _, _, coord, items => by simp [bashAssoc]
  | .arr ws, h, coord, items => by
    simp only [bashAssoc]
    exact fold_assocList prev name k hn hfresh ws h coord 0 items
theorem fold_assocList (prev : List BSym) (name : Str) (k : Kind) (hn : ∀ ch ∈ name, bashNameChar ch = true)
    (hfresh : ∀ x ∈ prev, x.name ≠ name) : (vs : List Val) → ValsOK k vs →
    ∀ (coord : List Nat) (i : Nat) (items : List (Str × Str)),
    (bashAssocList name coord i vs).foldlM readBashLine (assocAcc prev name false items) =
      some (assocAcc prev name false (items ++ bashItemsList coord i vs))
  | [], _, coord, i, items => by simp [bashAssocList, bashItemsList]
  | .leaf s :: vs, h, coord, i, items => by
    have hs : ScalarOK k s := h.1
    have hkey := commaNats_no ']' (by decide) (by decide) (coord ++ [i])
    have h1 := readBashLine_item prev name (commaNats (coord ++ [i])) items k s hn hkey hs hfresh
    have ih := fold_assocList prev name k hn hfresh vs h.2 coord (i + 1)
      (items ++ [(commaNats (coord ++ [i]), bashValueText s)])
    simp only [bashAssocList, List.foldlM_cons, bashItemsList, bashItems]
    rw [show (name ++ ['['] ++ commaNats (coord ++ [i]) ++ [']', '='] ++ bashScalar s) =
      (name ++ '[' :: (commaNats (coord ++ [i]) ++ ']' :: '=' :: bashScalar s)) by simp, h1]
    simpa using ih
  | .arr ws :: vs, h, coord, i, items => by
    have h1 := fold_assoc prev name k hn hfresh (.arr ws) h.1 (coord ++ [i]) items
    have ih := fold_assocList prev name k hn hfresh vs h.2 coord (i + 1)
      (items ++ bashItemsList (coord ++ [i]) 0 ws)
    simp only [bashAssoc] at h1
    simp only [bashAssocList, List.foldlM_append, h1, bashItemsList, bashItems]
    simpa using ih
end

def ParamOKBashAll (ren : Bool) (p : Param) : Prop :=
  (∀ ch ∈ rename ren p.name, bashNameChar ch = true) ∧ clean (rename ren p.name) = true ∧ NoNL p.value ∧
  ValOK p.kind p.value ∧ ∃ sh, rectShape p.value = some sh ∧ 0 ∉ sh

theorem leaves_of_children : ∀ vs : List Val, (∀ t ∈ vs, rectShape t = some []) → ∃ ss : List Scalar, vs = ss.map Tree.leaf
  | [], _ => ⟨[], rfl⟩
  | v :: vs, h => by
    obtain ⟨s, rfl⟩ := leaf_of_shape_nil v (h v (by simp))
    obtain ⟨ss, rfl⟩ := leaves_of_children vs (fun t ht => h t (by simp [ht]))
    exact ⟨s :: ss, rfl⟩

theorem flat_of_rank_le_one (ren : Bool) (p : Param) (hok : ParamOKBashAll ren p) (sh : List Nat)
    (hr : rectShape p.value = some sh) (h0 : 0 ∉ sh) (hrank : sh.length ≤ 1) : ParamOKBash ren p := by
  obtain ⟨hn, hcn, hnl, hv, _⟩ := hok
  refine ⟨hn, hcn, hnl, ?_⟩
  cases sh with
  | nil =>
    obtain ⟨s, hs⟩ := leaf_of_shape_nil p.value hr
    exact Or.inl ⟨s, hs, by rw [hs] at hv; exact hv⟩
  | cons n r =>
    match r, hrank with
    | [], _ =>
      obtain ⟨vs, hp, hne, hall⟩ := arr_of_shape_one p.value n hr h0
      obtain ⟨ss, rfl⟩ := leaves_of_children vs hall
      rw [hp] at hv
      exact Or.inr ⟨ss, fun e => hne (e ▸ rfl), hp, fun s hs => (valsOK_iff _ _).mp hv (.leaf s) (List.mem_map_of_mem hs)⟩

mutual
theorem bashAssoc_lines (name : Str) (hcn : clean name = true) (k : Kind) :
    (v : Val) → ValOK k v → NoNL v → ∀ (coord : List Nat), ∀ l ∈ bashAssoc name coord v, Line l
  | .leaf _, _, _, coord, l, hl => nomatch hl
  | .arr ws, hv, hn, coord, l, hl => by
    simp only [bashAssoc] at hl
    exact bashAssocList_lines name hcn k ws hv hn coord 0 l hl
theorem bashAssocList_lines (name : Str) (hcn : clean name = true) (k : Kind) :
    (vs : List Val) → ValsOK k vs → NoNLs vs → ∀ (coord : List Nat) (i : Nat),
      ∀ l ∈ bashAssocList name coord i vs, Line l
  | [], _, _, coord, i, l, hl => by simp [bashAssocList] at hl
  | .leaf s :: vs, hv, hn, coord, i, l, hl => by
    simp only [bashAssocList, List.mem_cons] at hl
    rcases hl with rfl | hl
    · have hs : ScalarOK k s := hv.1
      have := clean_bashScalar k s hs hn.1
      refine ⟨?_, by simp⟩
      simp [clean_append, clean_cons, hcn, clean_commaNats, this]
    · exact bashAssocList_lines name hcn k vs hv.2 hn.2 coord (i + 1) l hl
  | .arr ws :: vs, hv, hn, coord, i, l, hl => by
    simp only [bashAssocList, List.mem_append] at hl
    rcases hl with hl | hl
    · exact bashAssoc_lines name hcn k (.arr ws) hv.1 hn.1 (coord ++ [i]) l (by simpa [bashAssoc] using hl)
    · exact bashAssocList_lines name hcn k vs hv.2 hn.2 coord (i + 1) l hl
end

/-- the lines of an array of rank two and more: the declaration, one line per element, the export line -/
def assocBlock (exp : Bool) (name : Str) (v : Val) : List Str :=
  [cs!"declare -A " ++ name] ++ bashAssoc name [] v ++ (if exp then [cs!"export " ++ name] else [])

/-- `hfresh`: the array is filled by name, so the symbols read before it must have other names -/
theorem assocBlock_fold (prev : List BSym) (name : Str) (k : Kind) (hn : BashName name)
    (hfresh : Fresh prev name) (exp : Bool) (ws : List Val) (hv : ValsOK k ws) :
    (assocBlock exp name (.arr ws)).foldlM readBashLine prev =
      some (prev ++ [⟨name, .assoc, exp, bashItemsList [] 0 ws⟩]) := by
  have hfold := fold_assoc prev name k hn hfresh (.arr ws) hv [] []
  rw [assocBlock, List.foldlM_append, List.foldlM_append]
  simp only [List.foldlM_cons, List.foldlM_nil, readBashLine_declare, Option.bind_eq_bind, Option.bind_some,
    Option.pure_def, hfold, List.nil_append]
  cases exp
  · rfl
  · simp only [if_true, List.foldlM_cons, List.foldlM_nil, readBashLine_export prev name _ hn hfresh, Option.bind_eq_bind,
      Option.bind_some, Option.pure_def]
    rfl

theorem assocBlock_lines (exp : Bool) (name : Str) (hcn : clean name = true) (k : Kind) (v : Val) (hv : ValOK k v)
    (hnl : NoNL v) : ∀ l ∈ assocBlock exp name v, Line l := by
  have hlit : ∀ lit : Str, clean lit = true → lit ≠ [] → clean (lit ++ name) = true ∧ lit ++ name ≠ [] :=
    fun lit h1 h2 => ⟨by rw [clean_append, h1, hcn]; rfl, List.append_ne_nil_of_left_ne_nil h2 _⟩
  refine List.forall_mem_append.mpr ⟨List.forall_mem_append.mpr ⟨List.forall_mem_singleton.mpr (hlit _ rfl nofun),
    bashAssoc_lines name hcn k v hv hnl []⟩, ?_⟩
  cases exp
  · exact List.forall_mem_nil _
  · exact List.forall_mem_singleton.mpr (hlit _ rfl nofun)

theorem param_lines (exp ren : Bool) (p : Param) (hok : ParamOKBashAll ren p) (acc : List BSym)
    (hfresh : ∀ sh, rectShape p.value = some sh → 1 < sh.length → Fresh acc (rename ren p.name)) :
    LinesOK exp ren p acc := by
  obtain ⟨hn, hcn, hnl, hv, sh, hr, h0⟩ := hok
  by_cases hrank : sh.length ≤ 1
  · exact param_lines_flat exp ren p (flat_of_rank_le_one ren p ⟨hn, hcn, hnl, hv, sh, hr, h0⟩ sh hr h0 hrank) acc
  · have hs := shapeOf_of_rect p.value sh hr h0
    match sh, hrank with
    | [], h | [_], h => exact absurd (by simp) h
    | a :: b :: r, _ =>
      obtain ⟨ws, hws⟩ : ∃ ws, p.value = .arr ws := by
        cases hp : p.value with
        | leaf s => rw [hp] at hr; cases hr
        | arr ws => exact ⟨ws, rfl⟩
      refine ⟨assocBlock exp (rename ren p.name) p.value, ?_, ?_, assocBlock_lines exp _ hcn p.kind p.value hv hnl⟩
      · simp only [lineBash, hws] at hs ⊢
        simp [hs, assocBlock]
      · rw [bashSymOf, hs, hws]
        exact assocBlock_fold acc _ p.kind hn (hfresh _ hr (by simp)) exp ws (by rw [hws] at hv; exact hv)

/-- the hypothesis splits `data` as `pre ++ p :: post` so that it can name the symbols read before `p`
    (`hfresh` of `param_lines` needs them) -/
theorem foldlM_params (exp ren : Bool) : ∀ (data : List Param) (acc : List BSym),
    (∀ pre p post, data = pre ++ p :: post → LinesOK exp ren p (acc ++ pre.map (bashSymOf exp ren))) →
    ∃ lss, data.mapM (lineBash exp ren) = some lss ∧
      lss.flatten.foldlM readBashLine acc = some (acc ++ data.map (bashSymOf exp ren)) ∧
      ∀ l ∈ lss.flatten, Line l
  | [], acc, _ => ⟨[], rfl, by simp, by simp⟩
  | p :: ps, acc, h => by
    obtain ⟨ls, h1, h2, h3⟩ := h [] p ps rfl
    obtain ⟨lss, i1, i2, i3⟩ := foldlM_params exp ren ps (acc ++ [bashSymOf exp ren p]) (fun pre q post e => by
      have := h (p :: pre) q post (by rw [e]; rfl)
      rwa [List.map_cons, List.append_cons] at this)
    rw [List.map_nil, List.append_nil] at h2
    refine ⟨ls :: lss, by simp [List.mapM_cons, h1, i1], ?_, ?_⟩
    · rw [List.flatten_cons, List.foldlM_append, h2]
      simp only [Option.bind_eq_bind, Option.bind_some, i2]
      simp
    · intro l hl
      rw [List.flatten_cons, List.mem_append] at hl
      exact hl.elim (h3 l) (i3 l)

theorem readBash_of_lines (exp ren : Bool) (data : List Param) (lss : List (List Str))
    (h1 : data.mapM (lineBash exp ren) = some lss)
    (h2 : lss.flatten.foldlM readBashLine [] = some ([] ++ data.map (bashSymOf exp ren)))
    (h3 : ∀ l ∈ lss.flatten, Line l) :
    (exportBash exp ren data).bind readBash = some (expectedBash exp ren data) := by
  simp only [exportBash, h1, Option.bind_eq_bind, Option.bind_some, expectedBash_eq]
  cases hfl : lss.flatten with
  | nil =>
    rw [hfl] at h2
    simp at h2
    simp [joinWith, readBash, h2]
  | cons l ls =>
    rw [hfl] at h2 h3
    have hne : joinWith ['\n'] (l :: ls) ≠ [] :=
      joinWith_ne_nil _ _ ⟨l, by simp, (h3 l (by simp)).2⟩
    have hl := lines_joinWith (l :: ls) (by simp) (fun x hx => (clean_iff x).mp (h3 x hx).1)
    simp only [readBash, hne, if_false, hl, h2, List.nil_append]

theorem readBash_exportBash (exp ren : Bool) (data : List Param) (hok : ∀ p ∈ data, ParamOKBash ren p) :
    (exportBash exp ren data).bind readBash = some (expectedBash exp ren data) := by
  obtain ⟨lss, h1, h2, h3⟩ := foldlM_params exp ren data [] (fun pre p post e =>
    param_lines_flat exp ren p (hok p (e ▸ List.mem_append_right _ List.mem_cons_self)) _)
  exact readBash_of_lines exp ren data lss h1 h2 h3

theorem readBash_exportBash_fresh (exp ren : Bool) (data : List Param) (hok : ∀ p ∈ data, ParamOKBashAll ren p)
    (hfresh : ∀ pre p post, data = pre ++ p :: post → ∀ sh, rectShape p.value = some sh → 1 < sh.length →
      ∀ q ∈ pre, rename ren q.name ≠ rename ren p.name) :
    (exportBash exp ren data).bind readBash = some (expectedBash exp ren data) := by
  obtain ⟨lss, h1, h2, h3⟩ := foldlM_params exp ren data [] (fun pre p post e => by
    refine param_lines exp ren p (hok p (e ▸ List.mem_append_right _ List.mem_cons_self)) _ (fun sh hr hlen x hx => ?_)
    obtain ⟨q, hq, rfl⟩ := List.mem_map.mp (List.mem_append.mp hx |>.resolve_left (by simp))
    exact hfresh pre p post e sh hr hlen q hq)
  exact readBash_of_lines exp ren data lss h1 h2 h3

theorem readBash_exportBash_all (exp ren : Bool) (data : List Param) (hok : ∀ p ∈ data, ParamOKBashAll ren p)
    (hnd : (data.map (fun p => rename ren p.name)).Nodup) :
    (exportBash exp ren data).bind readBash = some (expectedBash exp ren data) :=
  readBash_exportBash_fresh exp ren data hok (fun pre p post e _ _ _ q hq hname => by
    rw [e, List.map_append, List.map_cons] at hnd
    exact (List.nodup_append.mp hnd).2.2 _ (List.mem_map.mpr ⟨q, hq, rfl⟩) _ List.mem_cons_self hname)

end SciVerif.C19
