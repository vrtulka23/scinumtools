import SciVerif.Lemmas.C07Invariant

/-!
Frames for C07.  `Frame h h' ex`: every object of `h` except the mutable cells `ex` is the same in `h'`.
The frame rule `obs_stable`: what a quantity reports depends only on the cells `mutReach` lists (and on frozen
BaseUnits objects and dicts), so a write outside them is not observed; `WF.separate`: different quantities
have no cell in common.
-/
namespace SciVerif.C07

def Cell.loc : Cell → Loc
  | .q l => l
  | .m l => l
  | .a l => l

def Cell.same (h h' : Heap) : Cell → Prop
  | .q l => h'.q l = h.q l
  | .m l => h'.m l = h.m l
  | .a l => h'.a l = h.a l

/-- BaseUnits objects and dicts are never excepted: they are frozen. -/
structure Frame (h h' : Heap) (ex : List Cell) : Prop where
  n_le : h.n ≤ h'.n
  cell : ∀ c : Cell, c.loc < h.n → c ∉ ex → c.same h h'
  b_eq : ∀ l, l < h.n → h'.b l = h.b l
  d_eq : ∀ l, l < h.n → h'.d l = h.d l

abbrev Ext (h h' : Heap) : Prop := Frame h h' []

theorem Frame.of_eq {h h' : Heap} {ex : List Cell} (hn : h.n ≤ h'.n)
    (hq : ∀ l, l < h.n → .q l ∉ ex → h'.q l = h.q l) (hm : ∀ l, l < h.n → .m l ∉ ex → h'.m l = h.m l)
    (ha : ∀ l, l < h.n → .a l ∉ ex → h'.a l = h.a l) (hb : ∀ l, l < h.n → h'.b l = h.b l)
    (hd : ∀ l, l < h.n → h'.d l = h.d l) : Frame h h' ex :=
  ⟨hn, fun c hl hx => match c with | .q l => hq l hl hx | .m l => hm l hl hx | .a l => ha l hl hx, hb, hd⟩

theorem Frame.refl (h : Heap) : Ext h h :=
  .of_eq (Nat.le_refl _) (fun _ _ _ => rfl) (fun _ _ _ => rfl) (fun _ _ _ => rfl) (fun _ _ => rfl) (fun _ _ => rfl)

theorem Frame.trans {h1 h2 h3 : Heap} {ex1 ex2 : List Cell}
    (f1 : Frame h1 h2 ex1) (f2 : Frame h2 h3 ex2) : Frame h1 h3 (ex1 ++ ex2) := by
  have lt : ∀ {l}, l < h1.n → l < h2.n := fun hl => Nat.lt_of_lt_of_le hl f1.n_le
  refine ⟨Nat.le_trans f1.n_le f2.n_le, fun c hl hx => ?_, fun l hl => (f2.b_eq l (lt hl)).trans (f1.b_eq l hl),
    fun l hl => (f2.d_eq l (lt hl)).trans (f1.d_eq l hl)⟩
  have e1 := f1.cell c hl fun hc => hx (List.mem_append_left _ hc)
  have e2 := f2.cell c (lt hl) fun hc => hx (List.mem_append_right _ hc)
  cases c <;> exact e2.trans e1

theorem Frame.drop_fresh {h h' : Heap} {ex : List Cell} (fr : Frame h h' ex) (hex : ∀ c ∈ ex, h.n ≤ c.loc) :
    Ext h h' :=
  ⟨fr.n_le, fun c hl _ => fr.cell c hl fun hc => Nat.not_lt_of_le (hex c hc) hl, fr.b_eq, fr.d_eq⟩

/-- `h'` arises from `h` by allocating objects other than quantities. -/
structure Grows (h h' : Heap) : Prop where
  wf : WF h'
  ext : Ext h h'
  q_eq : h'.q = h.q

theorem Grows.refl {h : Heap} (w : WF h) : Grows h h := ⟨w, Frame.refl h, rfl⟩

theorem Grows.trans {h1 h2 h3 : Heap} (g1 : Grows h1 h2) (g2 : Grows h2 h3) : Grows h1 h3 :=
  ⟨g2.wf, g1.ext.trans g2.ext, g2.q_eq.trans g1.q_eq⟩

def UnitsFrozen (h h' : Heap) : Prop :=
  (∀ l c, h.b l = some c → h'.b l = some c) ∧ (∀ l c, h.d l = some c → h'.d l = some c)

theorem mem_refCells {c : Cell} {r : Ref} : c ∈ refCells r ↔ ∃ l, r = .arr l ∧ c = .a l := by
  cases r <;> simp [refCells]

theorem mem_mutReach {h : Heap} {x : Loc} {c : Cell} :
    c ∈ mutReach h x ↔ ∃ qc, h.q x = some qc ∧
      (c = .q x ∨ c = .m qc.mag ∨ ∃ mc f r, h.m qc.mag = some mc ∧ mc.field f = .arr r ∧ c = .a r) := by
  unfold mutReach
  cases h.q x with
  | none => simp only [List.not_mem_nil, reduceCtorEq, false_and, exists_false]
  | some qc =>
    cases hm : h.m qc.mag with
    | none =>
      simp only [hm, List.mem_cons, List.not_mem_nil, or_false, Option.some.injEq, exists_eq_left', reduceCtorEq,
        false_and, exists_false]
    | some mc =>
      simp only [hm, List.mem_cons, List.mem_append, mem_refCells, Option.some.injEq, Mag.field, exists_and_left,
        Bool.exists_bool, Bool.false_eq_true, ↓reduceIte, or_comm, exists_eq_left']

theorem WF.separate {h : Heap} (w : WF h) {x y : Loc} (hxy : x ≠ y) :
    ∀ c ∈ mutReach h x, c ∉ mutReach h y := by
  intro c hx hy
  obtain ⟨qx, hqx, hx⟩ := mem_mutReach.1 hx
  obtain ⟨qy, hqy, hy⟩ := mem_mutReach.1 hy
  have hm : qx.mag ≠ qy.mag := fun e => hxy (w.own_mag x y qx qy hqx hqy e)
  rcases hx with rfl | rfl | ⟨mx, fx, r, hmx, hfx, rfl⟩ <;> rcases hy with e | e | ⟨my, fy, r', hmy, hfy, e⟩
  · exact hxy (Cell.q.inj e)
  · cases e
  · cases e
  · cases e
  · exact hm (Cell.m.inj e)
  · cases e
  · cases e
  · cases e
  · cases e
    exact hm (w.own_arr _ _ mx my fx fy r hmx hmy hfx hfy).1

theorem WF.mutReach_lt {h : Heap} (w : WF h) {x : Loc} {c : Cell} (hc : c ∈ mutReach h x) : c.loc < h.n := by
  obtain ⟨qc, hq, hc⟩ := mem_mutReach.1 hc
  rcases hc with rfl | rfl | ⟨mc, f, r, hm, hf, rfl⟩
  · exact w.q_lt x qc hq
  · have ⟨⟨mc, hm⟩, _⟩ := w.q_ok x qc hq
    exact w.m_lt _ mc hm
  · have ⟨t, ht⟩ := w.m_ok _ mc f r hm hf
    exact w.a_lt r t ht

theorem obs_stable {h h' : Heap} {ex : List Cell} (w : WF h) (fr : Frame h h' ex) {x : Loc} {qc : Qty}
    (hq : h.q x = some qc) (hx : ∀ c ∈ mutReach h x, c ∉ ex) : obs h' x = obs h x := by
  have keep : ∀ c ∈ mutReach h x, c.same h h' := fun c hc => fr.cell c (w.mutReach_lt hc) (hx c hc)
  obtain ⟨⟨mc, hmc⟩, ⟨bc, hbc⟩⟩ := w.q_ok x qc hq
  obtain ⟨dc, hdc, _⟩ := w.b_ok _ bc hbc
  have e1 : h'.q x = some qc := (keep (.q x) (mem_mutReach.2 ⟨qc, hq, .inl rfl⟩)).trans hq
  have e2 : h'.m qc.mag = some mc := (keep (.m qc.mag) (mem_mutReach.2 ⟨qc, hq, .inr (.inl rfl)⟩)).trans hmc
  have e3 : h'.b qc.bu = some bc := (fr.b_eq _ (w.b_lt _ bc hbc)).trans hbc
  have e4 : h'.d bc.dict = some dc := (fr.d_eq _ (w.d_lt _ dc hdc)).trans hdc
  have e5 : ∀ f, see h' (mc.field f) = see h (mc.field f) := fun f => by
    cases hf : mc.field f with
    | arr l =>
      exact congrArg (Option.map Seen.array)
        (keep (.a l) (mem_mutReach.2 ⟨qc, hq, .inr (.inr ⟨mc, f, l, hmc, hf, rfl⟩)⟩))
    | _ => rfl
  have e6 : see h' mc.value = see h mc.value := e5 true
  have e7 : see h' mc.error = see h mc.error := e5 false
  simp only [obs, hq, hmc, hbc, hdc, e1, e2, e3, e4, e6, e7]

end SciVerif.C07
