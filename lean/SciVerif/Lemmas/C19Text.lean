import SciVerif.Model.C19Read
import SciVerif.Lemmas.Util.Scan
import SciVerif.Lemmas.Util.MapM
import SciVerif.Lemmas.Util.Join
/-!
# C19 — numerals and text, and what is common to every text that is written and read line by line (`readFramed`)
-/
namespace SciVerif.C19

theorem charDigit_digitChar {d : Nat} (h : d < 10) : charDigit? (digitChar d) = some d :=
  (by decide : ∀ d : Fin 10, charDigit? (digitChar d.val) = some d.val) ⟨d, h⟩

theorem digitsLE_lt (f n : Nat) : ∀ d ∈ digitsLE f n, d < 10 := by
  fun_induction digitsLE f n with
  | case1 => exact fun _ h => nomatch h
  | case2 f n h => exact fun d hd => List.mem_singleton.mp hd ▸ h
  | case3 f n h ih => exact fun d hd => (List.mem_cons.mp hd).elim (· ▸ Nat.mod_lt n (by decide)) (ih d)

theorem valLE_digitsLE : ∀ (f n : Nat), n < f → valLE (digitsLE f n) = n
  | 0, _, h => nomatch h
  | f + 1, n, h => by
    unfold digitsLE
    split
    · exact Nat.add_zero n
    · have hn : 0 < n := Nat.lt_of_lt_of_le (by decide) (Nat.le_of_not_lt ‹¬ n < 10›)
      rw [valLE, valLE_digitsLE f (n / 10) (Nat.lt_of_lt_of_le (Nat.div_lt_self hn (by decide)) (Nat.le_of_lt_succ h)),
        Nat.mod_add_div]

theorem digitsLE_ne_nil (f n : Nat) : digitsLE (f + 1) n ≠ [] := by
  unfold digitsLE; split <;> simp

theorem digitsOf_map : ∀ (l : List Nat), (∀ d ∈ l, d < 10) → digitsOf (l.map digitChar) = some l
  | [], _ => rfl
  | d :: ds, h => by
    have h1 := charDigit_digitChar (h d (by simp))
    have h2 := digitsOf_map ds (fun x hx => h x (by simp [hx]))
    simp [digitsOf, h1, h2]

theorem readNat_showNat (n : Nat) : readNat (showNat n) = some n := by
  unfold readNat showNat
  have hl : ∀ d ∈ (digitsLE (n + 1) n).reverse, d < 10 := by
    intro d hd; exact digitsLE_lt _ _ d (by simpa using hd)
  rw [digitsOf_map _ hl]
  have hne := digitsLE_ne_nil n n
  cases hr : (digitsLE (n + 1) n).reverse with
  | nil => simp at hr; exact absurd hr hne
  | cons d ds =>
    simp only []
    rw [← hr, List.reverse_reverse, valLE_digitsLE _ _ (by omega)]

theorem showNat_ne_nil (n : Nat) : showNat n ≠ [] := by
  simp [showNat, digitsLE_ne_nil]

theorem showNat_digits (n : Nat) : ∀ ch ∈ showNat n, ∃ d : Fin 10, ch = digitChar d.val := by
  intro ch h
  obtain ⟨d, hd, rfl⟩ := List.mem_map.mp h
  exact ⟨⟨d, digitsLE_lt _ _ d (List.mem_reverse.mp hd)⟩, rfl⟩

theorem digitChar_props : ∀ d : Fin 10, floatChar (digitChar d.val) = true ∧ digitChar d.val ≠ '-' := by decide

theorem showNat_floatChars (n : Nat) : ∀ ch ∈ showNat n, floatChar ch = true := fun ch h => by
  obtain ⟨d, rfl⟩ := showNat_digits n ch h
  exact (digitChar_props d).1

theorem showNat_head (n : Nat) : ∃ c cs, showNat n = c :: cs ∧ c ≠ '-' := by
  cases h : showNat n with
  | nil => exact absurd h (showNat_ne_nil n)
  | cons c cs =>
    obtain ⟨d, rfl⟩ := showNat_digits n c (h ▸ List.mem_cons_self)
    exact ⟨_, cs, rfl, (digitChar_props d).2⟩

theorem readInt_showInt (i : Int) : readInt (showInt i) = some i := by
  cases i with
  | ofNat n =>
    obtain ⟨c, cs, hc, hne⟩ := showNat_head n
    have h := readNat_showNat n
    simp only [showInt]
    rw [hc] at h ⊢
    unfold readInt
    split
    · rename_i heq; simp at heq; exact absurd heq.1 hne
    · simp [h]
  | negSucc n =>
    simp only [showInt, readInt, readNat_showNat]
    simp [Int.negSucc_eq]

theorem showInt_floatChars (i : Int) : ∀ ch ∈ showInt i, floatChar ch = true := by
  cases i with
  | ofNat n => exact showNat_floatChars n
  | negSucc n =>
    intro ch h
    simp only [showInt, List.mem_cons] at h
    rcases h with rfl | h
    · decide
    · exact showNat_floatChars _ ch h

theorem showInt_ne_nil (i : Int) : showInt i ≠ [] := by
  cases i with
  | ofNat n => obtain ⟨c, cs, h, _⟩ := showNat_head n; simp [showInt, h]
  | negSucc n => simp [showInt]

theorem showNat_no (n : Nat) (c : Char) (hc : floatChar c = false) : ∀ ch ∈ showNat n, ch ≠ c := by
  intro ch h e
  subst e
  have := showNat_floatChars n ch h
  rw [hc] at this
  cases this

theorem dropPrefix_iff (p s r : Str) : dropPrefix? p s = some r ↔ s = p ++ r := by
  fun_induction dropPrefix? p s <;> simp_all
  exact fun e => absurd e.symm ‹_›

theorem dropPrefix_append (p r : Str) : dropPrefix? p (p ++ r) = some r := (dropPrefix_iff p _ r).mpr rfl

theorem dropLastChar_snoc (c : Char) (s : Str) : dropLastChar? c (s ++ [c]) = some s := by
  simp [dropLastChar?]

theorem span_stop_cons (f : Char → Bool) (a : Str) (x : Char) (r : Str) (ha : ∀ ch ∈ a, f ch = true)
    (hx : f x = false) : (a ++ x :: r).span f = (a, x :: r) :=
  Util.span_append_headNot ha (.cons hx r)

/-- the form for a line template: after `a` comes a literal text `x :: l`, then the rest -/
theorem span_stop_lit (f : Char → Bool) (a : Str) (x : Char) (l r : Str) (ha : ∀ ch ∈ a, f ch = true)
    (hx : f x = false) : (a ++ ((x :: l) ++ r)).span f = (a, (x :: l) ++ r) :=
  span_stop_cons f a x (l ++ r) ha hx

theorem showNat_span (d : Nat) (rest : Str) :
    (showNat d ++ ']' :: rest).span (fun c => decide (c ≠ ']')) = (showNat d, ']' :: rest) :=
  span_stop_cons _ _ ']' rest (fun ch hch => decide_eq_true (showNat_no d ']' rfl ch hch)) rfl

theorem noPrefix' : ∀ (pre name : Str) (c : Char) (w : Str), (∀ ch ∈ name, ch ≠ ' ') → ' ' ∈ pre → c ∉ pre →
    dropPrefix? pre (name ++ c :: w) = none
  | [], _, _, _, _, h, _ => by simp at h
  | a :: pre, [], c, w, _, _, he => by
    have : a ≠ c := fun e => he (by simp [e])
    simp [dropPrefix?, this]
  | a :: pre, x :: name, c, w, hn, hs, he => by
    by_cases e : a = x
    · subst e
      have ha : a ≠ ' ' := hn a (by simp)
      have hs' : ' ' ∈ pre := by
        rcases List.mem_cons.mp hs with h | h
        · exact absurd h.symm ha
        · exact h
      have ih := noPrefix' pre name c w (fun ch hch => hn ch (by simp [hch])) hs' (fun h => he (by simp [h]))
      simpa [dropPrefix?] using ih
    · simp [dropPrefix?, e]

theorem replaceChar_nil (c : Char) (r : Str) : replaceChar c r [] = [] := rfl

theorem replaceChar_cons (c : Char) (r : Str) (x : Char) (s : Str) :
    replaceChar c r (x :: s) = (if x = c then r else [x]) ++ replaceChar c r s := rfl

theorem replaceChar_append (c : Char) (r : Str) (a b : Str) :
    replaceChar c r (a ++ b) = replaceChar c r a ++ replaceChar c r b := by
  simp [replaceChar]

theorem replaceChar_none (c : Char) (r : Str) : ∀ s : Str, (∀ ch ∈ s, ch ≠ c) → replaceChar c r s = s
  | [], _ => rfl
  | x :: s, h => by
    have hx : x ≠ c := h x (by simp)
    have := replaceChar_none c r s (fun ch hch => h ch (by simp [hch]))
    rw [replaceChar_cons, this]
    simp [hx]

theorem replaceChar_replaceChar (c1 c2 : Char) (r1 r2 : Str) (s : Str) :
    replaceChar c2 r2 (replaceChar c1 r1 s) =
      s.flatMap (fun x => if x = c1 then replaceChar c2 r2 r1 else if x = c2 then r2 else [x]) := by
  unfold replaceChar
  rw [List.flatMap_assoc]
  congr 1
  funext x
  split <;> simp

theorem joinWith_singleton (sep a : Str) : joinWith sep [a] = a := rfl

theorem joinWith_cons_cons (sep a b : Str) (r : List Str) :
    joinWith sep (a :: b :: r) = a ++ sep ++ joinWith sep (b :: r) := rfl

theorem joinWith_eq (sep : Str) : ∀ l, joinWith sep l = Util.join sep l
  | [] => rfl
  | [_] => rfl
  | a :: b :: t => by rw [joinWith_cons_cons, joinWith_eq sep (b :: t)]; rfl

theorem splitOn_eq (c : Char) : ∀ s, splitOn c s = Util.split c s
  | [] => rfl
  | x :: xs => by
    rw [splitOn, Util.split, splitOn_eq c xs]
    cases hs : Util.split c xs with
    | nil => exact absurd hs (Util.split_ne_nil c xs)
    | cons a t => by_cases h : x = c <;> simp [h]

theorem splitOn_joinWith (c : Char) (ls : List Str) (hne : ls ≠ []) (h : ∀ l ∈ ls, ∀ ch ∈ l, ch ≠ c) :
    splitOn c (joinWith [c] ls) = ls := by
  rw [splitOn_eq, joinWith_eq]
  exact Util.split_join hne fun l hl hc => h l hl c hc rfl

theorem lines_joinWith (ls : List Str) (hne : ls ≠ []) (h : ∀ l ∈ ls, ∀ ch ∈ l, ch ≠ '\n') :
    lines (joinWith ['\n'] ls) = ls :=
  splitOn_joinWith '\n' ls hne h

theorem joinWith_ne_nil (sep : Str) (ls : List Str) (h : ∃ l ∈ ls, l ≠ []) : joinWith sep ls ≠ [] :=
  joinWith_eq sep ls ▸ Util.join_ne_nil h

theorem joinWith_no (c : Char) (sep : Str) (hs : ∀ ch ∈ sep, ch ≠ c) (ls : List Str)
    (h : ∀ l ∈ ls, ∀ ch ∈ l, ch ≠ c) : ∀ ch ∈ joinWith sep ls, ch ≠ c :=
  joinWith_eq sep ls ▸ Util.forall_mem_join hs h

theorem mapM_lines {α β γ : Type} (line : α → Option β) (read : β → Option γ) (exp : α → Option γ) :
    ∀ data : List α, (∀ p ∈ data, (line p).bind read = exp p) →
      (data.mapM line).bind (fun ls => ls.mapM read) = data.mapM exp
  | [], _ => rfl
  | p :: ps, h => by
    rw [List.mapM_cons, List.mapM_cons, ← h p List.mem_cons_self,
      ← mapM_lines line read exp ps fun q hq => h q (List.mem_cons_of_mem _ hq)]
    cases line p <;> cases ps.mapM line <;> simp [List.mapM_cons]

theorem mapM_map_some {α β : Type} (f : α → β) (g : β → Option α) (h : ∀ a, g (f a) = some a) :
    ∀ l : List α, (l.map f).mapM g = some l
  | [] => rfl
  | a :: l => by simp [List.mapM_cons, h, mapM_map_some f g h l]

theorem forall_mem_wrap {P : Char → Prop} (o c : Char) (x : Str) (ho : P o) (hc : P c) (hx : ∀ ch ∈ x, P ch) :
    ∀ ch ∈ [o] ++ x ++ [c], P ch := by
  intro ch hch
  rcases List.mem_append.mp hch with h | h
  · rcases List.mem_append.mp h with h | h
    · exact List.mem_singleton.mp h ▸ ho
    · exact hx ch h
  · exact List.mem_singleton.mp h ▸ hc

theorem forall_mem_sep {P : Char → Prop} (s : Char) (a b : Str) (hs : P s) (ha : ∀ ch ∈ a, P ch)
    (hb : ∀ ch ∈ b, P ch) : ∀ ch ∈ a ++ [s] ++ b, P ch := by
  intro ch hch
  rcases List.mem_append.mp hch with h | h
  · rcases List.mem_append.mp h with h | h
    · exact ha ch h
    · exact List.mem_singleton.mp h ▸ hs
  · exact hb ch h

/-- newline-free, as a Boolean so that it evaluates on literal texts -/
def clean (s : Str) : Bool := s.all (fun c => c ≠ '\n')

theorem clean_iff (s : Str) : clean s = true ↔ ∀ ch ∈ s, ch ≠ '\n' := by
  simp [clean, List.all_eq_true]

theorem clean_append (a b : Str) : clean (a ++ b) = (clean a && clean b) := by simp [clean, List.all_append]

theorem clean_cons (c : Char) (s : Str) : clean (c :: s) = (decide (c ≠ '\n') && clean s) := rfl

theorem clean_nil : clean [] = true := rfl

/-- `lines_joinWith` with the hypothesis in the form that evaluates on literal lines -/
theorem lines_joinWith_all (ls : List Str) (hne : ls ≠ []) (h : ls.all clean = true) :
    lines (joinWith ['\n'] ls) = ls :=
  lines_joinWith ls hne fun l hl => (clean_iff l).mp (List.all_eq_true.mp h l hl)

theorem clean_of_floatChars (t : Str) (h : ∀ ch ∈ t, floatChar ch = true) : clean t = true :=
  (clean_iff t).mpr (fun ch hch => Util.ne_of_class (h ch hch) rfl)

theorem clean_showNat (n : Nat) : clean (showNat n) = true := clean_of_floatChars _ (showNat_floatChars n)

theorem clean_joinWith (sep : Str) (hs : clean sep = true) (ls : List Str) (h : ∀ l ∈ ls, clean l = true) :
    clean (joinWith sep ls) = true :=
  (clean_iff _).mpr (joinWith_no '\n' sep ((clean_iff sep).mp hs) ls fun l hl => (clean_iff l).mp (h l hl))

theorem clean_flatMap {α : Type} (f : α → Str) (h : ∀ a, clean (f a) = true) (l : List α) : clean (l.flatMap f) = true :=
  (clean_iff _).mpr (List.forall_mem_flatMap.mpr fun a _ => (clean_iff _).mp (h a))

theorem clean_replaceChar (c : Char) (r : Str) (hr : clean r = true) (s : Str) (h : clean s = true) :
    clean (replaceChar c r s) = true :=
  (clean_iff _).mpr (List.forall_mem_flatMap.mpr fun x hx => by
    split
    · exact (clean_iff r).mp hr
    · exact fun ch hch => List.mem_singleton.mp hch ▸ (clean_iff s).mp h x hx)

theorem commaNats_nil : commaNats [] = [] := rfl

theorem commaNats_singleton (d : Nat) : commaNats [d] = showNat d := rfl

theorem commaNats_cons_cons (d e : Nat) (l : List Nat) :
    commaNats (d :: e :: l) = showNat d ++ ',' :: commaNats (e :: l) := by
  rw [commaNats, List.map_cons, List.map_cons, joinWith_cons_cons, List.append_assoc]
  rfl

theorem parseCommaNats_commaNats (sh : List Nat) (h : sh ≠ []) : parseCommaNats (commaNats sh) = some sh := by
  unfold parseCommaNats commaNats
  rw [splitOn_joinWith ',' (sh.map showNat) (by simpa using h) (by
    intro l hl
    obtain ⟨d, _, rfl⟩ := List.mem_map.mp hl
    exact showNat_no d ',' (by decide))]
  exact mapM_map_some showNat readNat readNat_showNat sh

theorem commaNats_no (c : Char) (hc : floatChar c = false) (hcomma : c ≠ ',') (sh : List Nat) :
    ∀ ch ∈ commaNats sh, ch ≠ c :=
  joinWith_no c [','] (fun ch h => List.mem_singleton.mp h ▸ Ne.symm hcomma) (sh.map showNat) (fun l hl => by
    obtain ⟨d, _, rfl⟩ := List.mem_map.mp hl
    exact showNat_no d c hc)

theorem clean_commaNats (sh : List Nat) : clean (commaNats sh) = true :=
  (clean_iff _).mpr (commaNats_no '\n' (by decide) (by decide) sh)

/-- a line of an exported file: no newline, not empty -/
def Line (l : Str) : Prop := clean l = true ∧ l ≠ []

/-- `wrap body` is the exported text and `rd` its reader; that `rd` reads `wrap body` line by line is the caller's `hrd`
    (the frame, if there is one, is dealt with there); both sides are `none` when some datum has no line -/
theorem readFramed {α β : Type} (line : α → Option Str) (read : Str → Option β) (exp : α → Option β) (data : List α)
    (h : ∀ p ∈ data, (line p).bind read = exp p) (wrap : List Str → Str) (rd : Str → Option (List β))
    (hrd : ∀ body, (∀ l ∈ body, ∃ p ∈ data, line p = some l) → rd (wrap body) = body.mapM read) :
    ((data.mapM line).bind fun body => some (wrap body)).bind rd = data.mapM exp := by
  rw [← mapM_lines line read exp data h]
  cases hm : data.mapM line with
  | none => rfl
  | some body => exact hrd body fun _ hl => Util.mem_of_mapM_eq_some hm hl

/-- `readFramed` without a frame; the `if`: an empty text has no line, whereas `lines []` is one empty line -/
theorem readLines_joined {α β : Type} (line : α → Option Str) (read : Str → Option β) (exp : α → Option β)
    (data : List α) (h : ∀ p ∈ data, (line p).bind read = exp p)
    (hc : ∀ p ∈ data, ∀ l, line p = some l → Line l) :
    ((data.mapM line).bind fun body => some (joinWith ['\n'] body)).bind
      (fun text => if text = [] then some [] else (lines text).mapM read) = data.mapM exp := by
  refine readFramed line read exp data h _ _ (fun body hb => ?_)
  have hall : ∀ x ∈ body, Line x := fun x hx => by
    obtain ⟨p, hp, hl⟩ := hb x hx
    exact hc p hp x hl
  cases body with
  | nil => rfl
  | cons l ls =>
    rw [if_neg (joinWith_ne_nil _ _ ⟨l, List.mem_cons_self, (hall l List.mem_cons_self).2⟩),
      lines_joinWith (l :: ls) (List.cons_ne_nil _ _) (fun x hx => (clean_iff x).mp (hall x hx).1)]

end SciVerif.C19
