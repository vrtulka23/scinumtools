import SciVerif.Lemmas.C10Composite
import SciVerif.Lemmas.C10Chars

/-! C10: `ExpressionSolver.solve` on the explicit text of a formula returns `evalF`:
    the `OperatorPar` scan, the tokenizer in continuation form (`TK`), the ARGS / mul / add
    passes on the token list. -/
namespace SciVerif.C10
open Util

/-- what `scanPar` passes over; blanks too, unlike `PlainC` for the tokenizer -/
def ParPlain (c : Char) : Prop := c ≠ '(' ∧ c ≠ ')' ∧ c ≠ ','

instance : DecidablePred ParPlain := fun c => by unfold ParPlain; infer_instance

theorem scanPar_run (w : Str) : ∀ (d : Nat) (acc r : Str), (∀ c ∈ w, ParPlain c) →
    scanPar d acc (w ++ r) = scanPar d (w.reverse ++ acc) r := by
  induction w with
  | nil => intro d acc r _; rfl
  | cons c t ih =>
    intro d acc r h
    have hc := h c List.mem_cons_self
    have := ih d (c :: acc) r (List.forall_mem_cons.mp h).2
    simp only [List.cons_append, scanPar, beq_iff_eq, hc.1, hc.2.1, if_false, List.reverse_cons,
      List.append_assoc]
    simpa [hc.2.2] using this

theorem parPlain_of_plainC {c : Char} (h : PlainC c) : ParPlain c := ⟨h.1, h.2.1, h.2.2.1⟩


theorem scanPar_open (d : Nat) (acc r : Str) : scanPar d acc ('(' :: r) = scanPar (d + 1) ('(' :: acc) r := rfl
theorem scanPar_close (d : Nat) (acc r : Str) : scanPar (d + 2) acc (')' :: r) = scanPar (d + 1) (')' :: acc) r := rfl
theorem scanPar_end (acc r : Str) : scanPar 1 acc (')' :: r) = some (strip acc.reverse, r) := rfl

theorem scanPar_rE (f : F) (hs : f.spAll Plain) : ∀ (d : Nat) (acc r : Str), 1 ≤ d →
    scanPar d acc (renderExplicit f ++ r) = scanPar d ((renderExplicit f).reverse ++ acc) r := by
  induction f with
  | sp s =>
    intro d acc r _
    exact scanPar_run s d acc r (fun c hc => parPlain_of_plainC (hs c hc))
  | count f n ih | mulx f n ih =>
    intro d acc r hd
    simp only [renderExplicit, List.append_assoc]
    rw [ih hs d acc _ hd, scanPar_run symMul _ _ _ (by decide),
      scanPar_run (digitsOf n) _ _ _ (fun c hc => parPlain_of_plainC (digitsOf_plain n c hc))]
    simp only [List.reverse_append, List.append_assoc]
  | group f ih =>
    intro d acc r hd
    obtain ⟨k, rfl⟩ := Nat.exists_eq_add_of_le' hd
    simp only [renderExplicit, List.cons_append, List.append_assoc, List.nil_append, scanPar_open,
      fun acc r => ih hs (k + 1 + 1) acc r (Nat.le_add_left 1 _), scanPar_close, List.reverse_cons,
      List.reverse_append, List.reverse_nil]
  | seq ws a b iha ihb | plus a b iha ihb =>
    intro d acc r hd
    simp only [renderExplicit, List.append_assoc]
    rw [iha hs.1 d acc _ hd, scanPar_run symAdd _ _ _ (by decide), ihb hs.2 d _ r hd]
    simp only [List.reverse_append, List.append_assoc]


/-- `if left := self.expr.pop_left(): self.tokens.append(self.tokens.atom(left))` -/
def flushOf (valid : Str → Bool) (left : Str) (toks : List Tok) : Option (List Tok) :=
  let l := strip left.reverse
  if l.isEmpty then some toks else (atomOf valid l).map fun v => toks ++ [.atom v]

theorem solveAux_nil (valid : Str → Bool) (fuel : Nat) (left : Str) (toks : List Tok) :
    solveAux valid (fuel + 1) left [] toks = (flushOf valid left toks).bind reduce := by
  simp only [solveAux, flushOf]
  generalize (if (strip left.reverse).isEmpty then some toks else _) = o
  cases o <;> rfl

theorem solveAux_char (valid : Str → Bool) (fuel : Nat) (left r : Str) (c : Char) (toks : List Tok)
    (h1 : c ≠ '(') (h2 : c ≠ ' ') :
    solveAux valid (fuel + 1) left (c :: r) toks = solveAux valid fuel (c :: left) r toks := by
  have e1 : symMul.isPrefixOf (c :: r) = false := by
    simp [symMul, List.isPrefixOf, Ne.symm h2]
  have e2 : symAdd.isPrefixOf (c :: r) = false := by
    simp [symAdd, List.isPrefixOf, Ne.symm h2]
  simp only [solveAux, beq_iff_eq, h1, if_false, e1, e2]
  simp

theorem solveAux_op (valid : Str → Bool) (fuel : Nat) (left r : Str) (toks : List Tok) (x : Char) (op : Tok)
    (hx : x = '*' ∧ op = .mul ∨ x = '+' ∧ op = .add) :
    solveAux valid (fuel + 1) left (' ' :: x :: ' ' :: r) toks =
      (flushOf valid left toks).bind fun t => solveAux valid fuel [] r (t ++ [op]) := by
  have e1 : symMul.isPrefixOf (' ' :: '*' :: ' ' :: r) = true := by simp [symMul, List.isPrefixOf]
  have e2 : symAdd.isPrefixOf (' ' :: '+' :: ' ' :: r) = true := by simp [symAdd, List.isPrefixOf]
  have e3 : symMul.isPrefixOf (' ' :: '+' :: ' ' :: r) = false := by simp [symMul, List.isPrefixOf]
  rcases hx with ⟨rfl, rfl⟩ | ⟨rfl, rfl⟩ <;>
  · simp only [solveAux, flushOf, e1, e2, e3]
    generalize (if (strip left.reverse).isEmpty then some toks else _) = o
    cases o <;> rfl

theorem solveAux_par (valid : Str → Bool) (fuel : Nat) (r arg rest : Str) (toks : List Tok) (v : Val)
    (hs : scanPar 1 [] r = some (arg, rest)) (hv : solveAux valid fuel [] arg [] = some v) :
    solveAux valid (fuel + 1) [] ('(' :: r) toks = solveAux valid fuel [] rest (toks ++ [.par v]) := by
  simp [solveAux, strip, hs, hv]


/-- the tokens the tokenizer emits on `renderExplicit f` (`tk_rE`), the groups already solved -/
def toksSpec : F → List Tok
  | .sp s => [.atom (.sub [(s, 1)])]
  | .count f n => toksSpec f ++ [.mul, .atom (.num n)]
  | .mulx f n => toksSpec f ++ [.mul, .atom (.num n)]
  | .group f => [.par (.sub (evalF f))]
  | .seq _ a b => toksSpec a ++ [.add] ++ toksSpec b
  | .plus a b => toksSpec a ++ [.add] ++ toksSpec b

/-- the operands left for the add pass once the mul pass has run (`mulPass_formula`), in order -/
def facts : F → List (Comps Rat)
  | .sp s => [[(s, 1)]]
  | .count f n => [cmul (evalF f) (n : Rat)]
  | .mulx f n => [cmul (evalF f) (n : Rat)]
  | .group f => [evalF f]
  | .seq _ a b => facts a ++ facts b
  | .plus a b => facts a ++ facts b

/-- operands with ` + ` tokens between them -/
def addToks : List (Comps Rat) → List Tok
  | [] => []
  | v :: vs => .atom (.sub v) :: vs.flatMap fun w => [.add, .atom (.sub w)]

theorem facts_ne_nil (f : F) : facts f ≠ [] := by
  induction f <;> simp_all [facts]

theorem facts_nodup (f : F) : ∀ z ∈ facts f, (keys z).Nodup := by
  induction f with
  | sp s => exact List.forall_mem_singleton.mpr (by simp [keys])
  | count f n ih | mulx f n ih => exact List.forall_mem_singleton.mpr (nodup_cmul _ _)
  | group f ih => exact List.forall_mem_singleton.mpr (nodup_evalF f)
  | seq ws a b iha ihb | plus a b iha ihb => exact List.forall_mem_append.mpr ⟨iha, ihb⟩

theorem evalF_sp (s : Str) : (evalF (.sp s) : Comps Rat) = [(s, 1)] := by simp [evalF]

theorem sumFacts_facts (f : F) : sumFacts (facts f) = (evalF f : Comps Rat) := by
  induction f with
  | sp s => simp [facts, sumFacts, evalF]
  | count f n ih | mulx f n ih | group f ih => simp [facts, sumFacts, evalF]
  | seq ws a b iha ihb | plus a b iha ihb =>
    simp only [facts, evalF]
    rw [sumFacts_append _ _ (facts_ne_nil a) (facts_ne_nil b) (facts_nodup a) (facts_nodup b), iha, ihb]

theorem addToks_append (xs ys : List (Comps Rat)) (hx : xs ≠ []) (hy : ys ≠ []) :
    addToks (xs ++ ys) = addToks xs ++ [.add] ++ addToks ys := by
  obtain ⟨x, xs', rfl⟩ := List.exists_cons_of_ne_nil hx
  obtain ⟨y, ys', rfl⟩ := List.exists_cons_of_ne_nil hy
  simp [addToks, List.flatMap_append, List.flatMap_cons]

theorem binPass_nil (isOp : Tok → Bool) (g : Val → Val → Option Val) (L : List Tok) :
    binPass isOp g L [] = some L.reverse := by
  rw [binPass.eq_def]

theorem binPass_push (isOp : Tok → Bool) (g : Val → Val → Option Val) (L R : List Tok) (t : Tok)
    (h : isOp t = false) : binPass isOp g L (t :: R) = binPass isOp g (t :: L) R := by
  conv_lhs => rw [binPass.eq_def]
  simp only [h, Bool.false_eq_true, if_false]

theorem binPass_op (isOp : Tok → Bool) (g : Val → Val → Option Val) (L R : List Tok) (t : Tok)
    (l r v : Val) (h : isOp t = true) (hg : g l r = some v) :
    binPass isOp g (.atom l :: L) (t :: .atom r :: R) = binPass isOp g (.atom v :: L) R := by
  conv_lhs => rw [binPass.eq_def]
  simp only [h, if_true, hg]

theorem binPass_pushAll (isOp : Tok → Bool) (g : Val → Val → Option Val) (ts : List Tok) :
    ∀ (L R : List Tok), (∀ t ∈ ts, isOp t = false) →
      binPass isOp g L (ts ++ R) = binPass isOp g (ts.reverse ++ L) R := by
  induction ts with
  | nil => intro L R _; rfl
  | cons t ts ih =>
    intro L R h
    rw [List.cons_append, binPass_push _ _ _ _ _ (h t List.mem_cons_self), ih _ _ (List.forall_mem_cons.mp h).2]
    simp


/-- the count operand is a species or a group (the shape `F.wf` demands) -/
def F.factorOK : F → Prop
  | .sp _ => True
  | .count (.sp _) _ => True
  | .count (.group g) _ => g.factorOK
  | .count _ _ => False
  | .mulx (.sp _) _ => True
  | .mulx (.group g) _ => g.factorOK
  | .mulx _ _ => False
  | .group g => g.factorOK
  | .seq _ a b => a.factorOK ∧ b.factorOK
  | .plus a b => a.factorOK ∧ b.factorOK

theorem mulPass_times (v : Comps Rat) (n : Nat) (L R : List Tok) :
    binPass (· == Tok.mul) mulVal L (.atom (.sub v) :: .mul :: .atom (.num n) :: R) =
      binPass (· == Tok.mul) mulVal (.atom (.sub (cmul v (n : Rat))) :: L) R := by
  rw [binPass_push _ _ _ _ _ rfl, binPass_op (· == Tok.mul) mulVal L R .mul (.sub v) (.num n) _ (by decide) rfl]

theorem mulPass_formula (f : F) (hf : f.factorOK) : ∀ (L R : List Tok),
    binPass (· == Tok.mul) mulVal L (parPass (toksSpec f) ++ R) =
      binPass (· == Tok.mul) mulVal ((addToks (facts f)).reverse ++ L) R := by
  induction f with
  | sp s | group g ih =>
    intro L R
    simp only [toksSpec, parPass, List.map_cons, List.map_nil, facts, addToks, List.flatMap_nil,
      List.reverse_cons, List.reverse_nil, List.nil_append, List.cons_append]
    exact binPass_push _ _ _ _ _ rfl
  | count g n ih | mulx g n ih =>
    intro L R
    -- what a count applies to, a species or a group, is one operand token once the groups are solved
    have hop : parPass (toksSpec g) = [.atom (.sub (evalF g))] := by
      cases g with
      | sp s => simp only [toksSpec, parPass, List.map_cons, List.map_nil, evalF_sp]
      | group h => rfl
      | count _ _ | mulx _ _ | seq _ _ _ | plus _ _ => exact hf.elim
    simp only [toksSpec, parPass, List.map_append, List.map_cons, List.map_nil, facts, addToks, List.flatMap_nil,
      List.reverse_cons, List.reverse_nil, List.nil_append, List.cons_append] at hop ⊢
    rw [hop]
    exact mulPass_times (evalF g) n L R
  | seq ws a b iha ihb | plus a b iha ihb =>
    intro L R
    simp only [toksSpec, parPass, List.map_append, List.map_cons, List.map_nil, List.append_assoc, facts]
    have ea := iha hf.1
    have eb := ihb hf.2
    simp only [parPass] at ea eb
    rw [ea, List.singleton_append, binPass_push _ _ _ _ _ rfl, eb,
      addToks_append _ _ (facts_ne_nil a) (facts_ne_nil b)]
    simp
theorem addPass_rest (vs : List (Comps Rat)) : ∀ (acc : Comps Rat),
    binPass (· == Tok.add) addVal [.atom (.sub acc)] (vs.flatMap fun w => [.add, .atom (.sub w)]) =
      some [.atom (.sub (vs.foldl cplus acc))] := by
  induction vs with
  | nil => intro acc; simp [binPass_nil]
  | cons v vs ih =>
    intro acc
    simp only [List.flatMap_cons, List.cons_append, List.nil_append, List.foldl_cons]
    rw [binPass_op (· == Tok.add) addVal [] _ .add (.sub acc) (.sub v) (.sub (cplus acc v)) (by decide) rfl]
    exact ih _

theorem reduce_toksSpec (f : F) (hf : f.factorOK) : reduce (toksSpec f) = some (.sub (evalF f)) := by
  have h1 := mulPass_formula f hf [] []
  simp only [List.append_nil, binPass_nil, List.reverse_reverse] at h1
  obtain ⟨v, vs, hv⟩ := List.exists_cons_of_ne_nil (facts_ne_nil f)
  have h2 : binPass (· == Tok.add) addVal [] (addToks (facts f)) = some [.atom (.sub (sumFacts (facts f)))] := by
    rw [hv]
    simp only [addToks, sumFacts]
    rw [binPass_push _ _ _ _ _ rfl]
    exact addPass_rest vs v
  simp only [reduce, h1, h2, sumFacts_facts]


theorem solveAux_run (valid : Str → Bool) (w : Str) : ∀ (fuel : Nat) (left rest : Str) (toks : List Tok),
    Plain w → solveAux valid (fuel + w.length) left (w ++ rest) toks =
      solveAux valid fuel (w.reverse ++ left) rest toks := by
  induction w with
  | nil => intro fuel left rest toks _; rfl
  | cons c t ih =>
    intro fuel left rest toks h
    have hc := h c List.mem_cons_self
    have e : fuel + (c :: t).length = (fuel + t.length) + 1 := by simp; omega
    rw [e, List.cons_append, solveAux_char valid _ left _ c toks hc.1 hc.ne_space,
      ih fuel (c :: left) rest toks (List.forall_mem_cons.mp h).2]
    simp

theorem flushOf_nil (valid : Str → Bool) (toks : List Tok) : flushOf valid [] toks = some toks := by
  simp [flushOf, strip]

theorem flushOf_plain (valid : Str → Bool) (p : Str) (toks : List Tok) (v : Val) (hne : p ≠ [])
    (hp : Plain p) (hv : atomOf valid p = some v) :
    flushOf valid p.reverse toks = some (toks ++ [.atom v]) := by
  have hs : strip p = p := strip_of_edge p (edge_of_plain p hne hp)
  have he : p.isEmpty = false := List.isEmpty_eq_false_iff.mpr hne
  simp [flushOf, hs, he, hv]

theorem atomOf_digitsOf (valid : Str → Bool) (n : Nat) : atomOf valid (digitsOf n) = some (.num n) := by
  cases h : digitsOf n with
  | nil => exact absurd h (digitsOf_ne_nil n)
  | cons c t =>
    have hc : isDig c = true := (digitsOf_all n c (by rw [h]; simp)).1
    rw [← h]
    simp only [atomOf, h, hc, if_true]
    rw [← h, parseFloat_digitsOf]; rfl

/-- `r` is the fuel that has to be left behind the run -/
theorem solveAux_run_le (valid : Str → Bool) (w : Str) (hw : Plain w) (fuel : Nat) (left rest : Str)
    (toks : List Tok) (r : Nat) (h : w.length + r ≤ fuel) :
    ∃ fuel', r ≤ fuel' ∧
      solveAux valid fuel left (w ++ rest) toks = solveAux valid fuel' (w.reverse ++ left) rest toks := by
  obtain ⟨k, rfl⟩ := Nat.exists_eq_add_of_le' (Nat.le_trans (Nat.le_add_right _ r) h)
  exact ⟨k, by omega, solveAux_run valid w k left rest toks hw⟩

/-- The tokenizer started at a token boundary reads `text` and, whatever follows, stops behind it with some
    atom text `p` pending and tokens `em` emitted, such that the next flush (at an operator, a parenthesis or
    the end) completes them to `full`. -/
def TK (valid : Str → Bool) (text : Str) (full : List Tok) : Prop :=
  ∀ (rest : Str) (T : List Tok) (fuel : Nat), text.length + rest.length + 1 ≤ fuel →
    ∃ fuel' p em, rest.length + 1 ≤ fuel' ∧
      solveAux valid fuel [] (text ++ rest) T = solveAux valid fuel' p rest (T ++ em) ∧
      flushOf valid p (T ++ em) = some (T ++ full)

theorem tk_atom (valid : Str → Bool) (s : Str) (v : Val) (hne : s ≠ []) (hp : Plain s)
    (hv : atomOf valid s = some v) : TK valid s [.atom v] := by
  intro rest T fuel hfuel
  obtain ⟨f', hf', e⟩ := solveAux_run_le valid s hp fuel [] rest T (rest.length + 1) hfuel
  exact ⟨f', s.reverse, [], hf', by simpa using e, by simpa using flushOf_plain valid s T v hne hp hv⟩

/-- an operator sign between two token texts: the left text is read, the sign flushes it, the right text is read -/
theorem tk_op (valid : Str → Bool) (x : Char) (op : Tok) (hx : x = '*' ∧ op = .mul ∨ x = '+' ∧ op = .add)
    (ta tb : Str) (fa fb : List Tok) (ha : TK valid ta fa) (hb : TK valid tb fb) :
    TK valid (ta ++ [' ', x, ' '] ++ tb) (fa ++ [op] ++ fb) := by
  intro rest T fuel hfuel
  simp only [List.length_append, List.length_cons, List.length_nil] at hfuel
  obtain ⟨f1, p, em, h1, e1, hfl⟩ := ha (' ' :: x :: ' ' :: (tb ++ rest)) T fuel
    (by simp only [List.length_cons, List.length_append]; omega)
  simp only [List.length_cons, List.length_append] at h1
  obtain ⟨k, rfl⟩ := Nat.exists_eq_add_of_le' (Nat.le_trans (Nat.le_add_left 1 _) h1)
  obtain ⟨f2, p2, em2, h2, e2, hfl2⟩ := hb rest (T ++ fa ++ [op]) k (by omega)
  refine ⟨f2, p2, fa ++ [op] ++ em2, h2, ?_, ?_⟩
  · have : ta ++ [' ', x, ' '] ++ tb ++ rest = ta ++ ' ' :: x :: ' ' :: (tb ++ rest) := by
      simp only [List.append_assoc, List.cons_append, List.nil_append]
    rw [this, e1, solveAux_op valid k p _ _ x op hx, hfl]
    simp only [Option.bind_some]
    rw [e2]
    simp only [List.append_assoc]
  · simpa only [List.append_assoc] using hfl2

/-- a count: ` * ` and the digits, which are an atom -/
theorem tk_mul (valid : Str → Bool) (text : Str) (full : List Tok) (n : Nat) (h : TK valid text full) :
    TK valid (text ++ symMul ++ digitsOf n) (full ++ [.mul, .atom (.num n)]) := by
  simpa only [symMul, List.append_assoc, List.cons_append, List.nil_append] using
    tk_op valid '*' .mul (Or.inl ⟨rfl, rfl⟩) text _ full _ h
      (tk_atom valid _ _ (digitsOf_ne_nil n) (digitsOf_plain n) (atomOf_digitsOf valid n))

theorem tk_group (valid : Str → Bool) (inner : Str) (v : Val) (he : EdgeOK inner)
    (hsc : ∀ (acc r : Str), scanPar 1 acc (inner ++ r) = scanPar 1 (inner.reverse ++ acc) r)
    (hv : ∀ fuel, inner.length + 1 ≤ fuel → solveAux valid fuel [] inner [] = some v) :
    TK valid ('(' :: inner ++ [')']) [.par v] := by
  intro rest T fuel hfuel
  simp only [List.length_cons, List.length_append, List.length_nil] at hfuel
  obtain ⟨k, rfl⟩ := Nat.exists_eq_add_of_le' (Nat.le_trans (Nat.le_add_left 1 _) hfuel)
  refine ⟨k, [], [.par v], by omega, ?_, flushOf_nil valid _⟩
  have hs : scanPar 1 [] (inner ++ ')' :: rest) = some (inner, rest) := by
    rw [hsc [] (')' :: rest), scanPar_end, List.append_nil, List.reverse_reverse, strip_of_edge inner he]
  have := solveAux_par valid k (inner ++ ')' :: rest) inner rest T v hs (hv k (by omega))
  simpa [List.append_assoc] using this

theorem solve_of_tk (valid : Str → Bool) (text : Str) (full : List Tok) (v : Val)
    (h : TK valid text full) (hr : reduce full = some v) :
    ∀ fuel, text.length + 1 ≤ fuel → solveAux valid fuel [] text [] = some v := by
  intro fuel hfuel
  obtain ⟨fuel', p, em, h1, h2, hfl⟩ := h [] [] fuel (by simpa using hfuel)
  rw [List.append_nil] at h2
  obtain ⟨k, rfl⟩ := Nat.exists_eq_add_of_le' (Nat.le_trans (Nat.le_add_left 1 _) h1)
  rw [h2, solveAux_nil, hfl]
  simpa using hr

theorem tk_rE (valid : Str → Bool) (f : F) (hf : f.factorOK) (hs : f.spAll (SpeciesOK valid)) :
    TK valid (renderExplicit f) (toksSpec f) := by
  induction f with
  | sp s =>
    obtain ⟨hne, hp, hd, hv⟩ := hs
    refine tk_atom valid s _ hne hp ?_
    cases s with
    | nil => exact absurd rfl hne
    | cons c t => simp [atomOf, hd c t rfl, hv]
  | count g n ih | mulx g n ih =>
    have hg : g.factorOK := by cases g <;> first | exact hf | exact hf.elim
    exact tk_mul valid _ _ n (ih hg hs)
  | group g ih =>
    have hg : g.factorOK := hf
    exact tk_group valid (renderExplicit g) _ (edge_rE g (spAll_mono (fun s h => ⟨h.1, h.2.1⟩) g hs))
      (fun acc r => scanPar_rE g (spAll_mono (fun s h => h.2.1) g hs) 1 acc r (le_refl 1))
      (solve_of_tk valid _ _ _ (ih hg hs) (reduce_toksSpec g hg))
  | seq ws a b iha ihb | plus a b iha ihb => exact tk_op valid '+' .add (Or.inr ⟨rfl, rfl⟩) _ _ _ _ (iha hf.1 hs.1) (ihb hf.2 hs.2)

theorem solve_explicit (valid : Str → Bool) (f : F) (hf : f.factorOK) (hs : f.spAll (SpeciesOK valid)) :
    ∀ fuel, (renderExplicit f).length + 1 ≤ fuel →
      solveAux valid fuel [] (renderExplicit f) [] = some (.sub (evalF f)) :=
  solve_of_tk valid _ _ _ (tk_rE valid f hf hs) (reduce_toksSpec f hf)

theorem wf_factorOK (f : F) (h : f.wf = true) : f.factorOK := by
  -- the cases of `F.wf`: 1 species; 2, 3, 4 a count on a species, on a group, on anything else; 5, 6, 7 the same for ` * n`;
  -- 8 a group; 9 juxtaposition; 10 ` + `
  fun_induction F.wf f with
  | case1 | case2 | case5 => trivial
  | case3 g n ih | case6 g n ih => exact ih (Bool.and_eq_true _ _ ▸ h).1
  | case4 | case7 => cases h
  | case8 g ih => exact ih h
  | case9 ws a b iha ihb =>
    simp only [Bool.and_eq_true] at h
    exact ⟨iha h.1.1, ihb h.1.2⟩
  | case10 a b iha ihb =>
    simp only [Bool.and_eq_true] at h
    exact ⟨iha h.1, ihb h.2⟩

theorem substanceOf_of_preprocess (valid : Str → Bool) (f : F) (hf : f.factorOK)
    (hs : f.spAll (SpeciesOK valid)) (t : Str) (hne : t ≠ [])
    (hpre : preprocess t = renderExplicit f) :
    substanceOf valid t = some (evalF f) := by
  have he : t.isEmpty = false := List.isEmpty_eq_false_iff.mpr hne
  simp only [substanceOf, he, solveStr, hpre]
  rw [solve_explicit valid f hf hs _ (by omega)]
  simp

end SciVerif.C10
