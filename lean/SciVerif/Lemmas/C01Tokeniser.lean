import SciVerif.Facts.C01Sym

/-!
# C01, character level: one stretch of the tokeniser loop at a time, for the default table -- blanks, a
  literal, an operator symbol as rules "what holds at the rest holds here" (`at_blanks`, `at_lit`, `at_op`),
  a call as the equation of its one iteration (`tokLoop_call`); `findOp` on the forms of text that occur.
-/
namespace SciVerif.C01
open SciVerif.C01.Gen

variable {A : Type} (alg : AtomAlg A) (lit : List Char → A)

theorem rowFact_elim {tbl : Table} {name : String} {sym : List Char} {par : Option ParSpec}
    (h : rowFact tbl name sym par = true) :
    ∃ row, tbl.rows[idxOf tbl name]? = some row ∧ row.symbol = sym ∧ row.par = par ∧
      earlierOK (tbl.rows.take (idxOf tbl name)) sym = true ∧
      ∀ c ∈ clashChars (tbl.rows.take (idxOf tbl name)) sym, c = '*' ∨ c = '=' := by
  unfold rowFact at h
  split at h
  · rename_i row hr
    simp only [Bool.and_eq_true, beq_iff_eq, List.all_eq_true, Bool.or_eq_true] at h
    exact ⟨row, hr, h.1.1.1, h.1.1.2, h.1.2, h.2⟩
  · cases h

/-- the text after an operator symbol does not continue it to an earlier-listed symbol: `*` and `=` are
    the only continuations the live table has (checked by `rowFact`) -/
def SafeHead (r : List Char) : Prop := r.head? ≠ some '*' ∧ r.head? ≠ some '='

instance (r : List Char) : Decidable (SafeHead r) := by unfold SafeHead; infer_instance

theorem findOp_row {tbl : Table} {name : String} {sym : List Char} {par : Option ParSpec}
    (h : rowFact tbl name sym par = true) (r : List Char)
    (hs : SafeHead r ∨ clashChars (tbl.rows.take (idxOf tbl name)) sym = []) :
    ∃ row, findOp tbl (sym ++ r) = some (idxOf tbl name, row) ∧ row.symbol = sym ∧ row.par = par := by
  obtain ⟨row, hr, rfl, hp, he, hc⟩ := rowFact_elim h
  refine ⟨row, ?_, rfl, hp⟩
  have := findOpFrom_first tbl.rows (idxOf tbl name) 0 row r hr he (fun c hcm => by
    rcases hs with hs | hs
    · rcases hc c hcm with rfl | rfl
      · exact hs.1
      · exact hs.2
    · rw [hs] at hcm; cases hcm)
  simpa [findOp] using this

/-- the text starts like the inside of a literal: with a digit, `.` or blank, or with `e` and a digit -/
def startsLit : List Char → Bool
  | c :: r => plain c || (c == 'e' && (match r with | d :: _ => isDigit d | [] => false))
  | [] => false

theorem symStart_not_prefix (row : OpRow) (s : List Char) (h : symStartOK row = true)
    (hs : startsLit s = true) : row.symbol.isPrefixOf s = false := by
  unfold symStartOK at h
  cases hsym : row.symbol with
  | nil => rw [hsym] at h; cases h
  | cons c' cs =>
    rw [hsym] at h
    cases s with
    | nil => rfl
    | cons c r =>
      simp only [List.isPrefixOf, Bool.and_eq_false_imp, beq_iff_eq]
      rintro rfl
      simp only [Bool.and_eq_true, Bool.not_eq_eq_eq_not, Bool.not_true, Bool.or_eq_true, bne_iff_ne,
        ne_eq] at h
      simp only [startsLit, h.1, Bool.false_or, Bool.and_eq_true, beq_iff_eq] at hs
      obtain ⟨rfl, hd⟩ := hs
      rcases h.2 with h2 | h2
      · exact absurd rfl h2
      · cases cs with
        | nil => cases h2
        | cons d' ds =>
          cases r with
          | nil => cases hd
          | cons d r' =>
            simp only [List.isPrefixOf, Bool.and_eq_false_imp, beq_iff_eq]
            rintro rfl
            simp only [Bool.not_eq_eq_eq_not, Bool.not_true] at h2
            have hd' : isDigit d' = true := hd
            rw [h2] at hd'; cases hd'

theorem findOp_lit (s : List Char) (hs : startsLit s = true) : findOp dflt s = none :=
  findOpFrom_eq_none.mpr fun row hrow =>
    symStart_not_prefix row s (List.all_eq_true.mp fact_sym_start row hrow) hs

theorem litScan_starts (c : Char) (t r : List Char) (h : litScan (c :: t) = true) :
    startsLit (c :: (t ++ r)) = true ∧ litScan t = true := by
  simp only [litScan] at h
  by_cases hce : c = 'e'
  · subst hce
    simp only [if_true, Bool.and_eq_true] at h
    cases t with
    | nil => simp at h
    | cons d t' => exact ⟨by simp [startsLit, h.1], h.2⟩
  · simp only [hce, if_false, Bool.and_eq_true] at h
    exact ⟨by simp [startsLit, plain, h.1], h.2⟩

variable (sa : Bufs A → List Char → Bufs A × Except String (Tok A))

theorem tokLoop_shift {tbl : Table} (m : Nat) (lw : List Char) (c : Char) (r : List Char) (b : Bufs A)
    (h : findOp tbl (c :: r) = none) :
    tokLoop tbl alg sa (m + 1) ⟨lw, c :: r⟩ b = tokLoop tbl alg sa m ⟨lw ++ [c], r⟩ b := by
  simp [tokLoop, h, Ex.shift]

/-! The loop over a piece of text, as rules: what holds of the loop at the rest of the
    text with more fuel than text left holds here with more fuel than text left. -/

section rules
variable {P : M A (Bufs A) → Prop} {lw r : List Char} {b : Bufs A}

theorem at_blanks (j : Nat)
    (h : ∀ m, r.length + 1 ≤ m → P (tokLoop dflt alg sa m ⟨lw ++ blanks j, r⟩ b)) :
    ∀ n, (blanks j ++ r).length + 1 ≤ n → P (tokLoop dflt alg sa n ⟨lw, blanks j ++ r⟩ b) := by
  induction j generalizing lw with
  | zero => simpa [blanks_zero] using h
  | succ j ih =>
    intro n hn
    cases n with
    | zero => cases hn
    | succ n =>
      rw [blanks_succ, List.cons_append, tokLoop_shift alg sa _ _ _ _ _ (findOp_lit (' ' :: _) rfl)]
      exact ih (by simpa [blanks_succ] using h) n (Nat.le_of_succ_le_succ hn)

theorem at_lit (t : List Char) (ht : litScan t = true)
    (h : ∀ m, r.length + 1 ≤ m → P (tokLoop dflt alg sa m ⟨lw ++ t, r⟩ b)) :
    ∀ n, (t ++ r).length + 1 ≤ n → P (tokLoop dflt alg sa n ⟨lw, t ++ r⟩ b) := by
  induction t generalizing lw with
  | nil => simpa using h
  | cons c t ih =>
    intro n hn
    obtain ⟨hs, ht'⟩ := litScan_starts c t r ht
    cases n with
    | zero => cases hn
    | succ n =>
      rw [List.cons_append, tokLoop_shift alg sa _ _ _ _ _ (findOp_lit _ hs)]
      exact ih ht' (by simpa using h) n (Nat.le_of_succ_le_succ hn)

theorem at_op {name : String} {sym : List Char} (hf : rowFact dflt name sym none = true)
    (hne : sym ≠ []) {b1 : Bufs A} (hs : SafeHead r) (hp : pushAtom alg (strip lw) b = .ok b1)
    (h : ∀ m, r.length + 1 ≤ m →
      P (tokLoop dflt alg sa m ⟨[], r⟩ (append b1 (.op (idxOf dflt name) [])))) :
    ∀ n, (sym ++ r).length + 1 ≤ n → P (tokLoop dflt alg sa n ⟨lw, sym ++ r⟩ b) := by
  intro n hn
  obtain ⟨row, hfo, hsym, hpar⟩ := findOp_row hf r (Or.inl hs)
  have hemp : (sym ++ r).isEmpty = false := by
    cases sym with
    | nil => exact absurd rfl hne
    | cons c cs => rfl
  cases n with
  | zero => cases hn
  | succ m =>
    have e : tokLoop dflt alg sa (m + 1) ⟨lw, sym ++ r⟩ b
        = tokLoop dflt alg sa m ⟨[], r⟩ (append b1 (.op (idxOf dflt name) [])) := by
      simp [tokLoop, hemp, hfo, Ex.popLeft, hp, hpar, Ex.remove, hsym]
    rw [e]
    exact h m (by have := List.length_pos_iff.mpr hne; rw [List.length_append] at hn; omega)

end rules

theorem tokLoop_end {tbl : Table} (m : Nat) (lw : List Char) (b : Bufs A) :
    tokLoop tbl alg sa (m + 1) ⟨lw, []⟩ b = pushAtom alg (strip lw) b := by
  simp [tokLoop, Ex.popLeft]

theorem tokLoop_call {tbl : Table} {name : String} {sym : List Char} {narg : Nat}
    (h : rowFact tbl name sym (some (stdPar narg)) = true) (hne : sym ≠ []) (m : Nat)
    (lw r : List Char) (b b1 : Bufs A) (e3 : Ex) (args : List (List Char))
    (hs : SafeHead r ∨ clashChars (tbl.rows.take (idxOf tbl name)) sym = [])
    (hp : pushAtom alg (strip lw) b = .ok b1)
    (hscan : parScan (stdPar narg) (r.length + 1) 1 ⟨[], r⟩ [] = some (e3, args)) :
    (args.length ≠ narg → tokLoop tbl alg sa (m + 1) ⟨lw, sym ++ r⟩ b = .error (b1, "arity")) ∧
    (args.length = narg → ∀ msg, solveArgs sa ⟨[], []⟩ args = .error msg →
      tokLoop tbl alg sa (m + 1) ⟨lw, sym ++ r⟩ b = .error (b1, msg)) ∧
    (args.length = narg → ∀ vals, solveArgs sa ⟨[], []⟩ args = .ok vals →
      tokLoop tbl alg sa (m + 1) ⟨lw, sym ++ r⟩ b
        = tokLoop tbl alg sa m e3 (append b1 (.op (idxOf tbl name) vals))) := by
  obtain ⟨row, hf, hsym, hpar⟩ := findOp_row h r hs
  have hemp : (sym ++ r).isEmpty = false := by
    cases sym with
    | nil => exact absurd rfl hne
    | cons c cs => rfl
  have hn : (stdPar narg).narg = narg := rfl
  refine ⟨fun hl => ?_, fun hl msg ha => ?_, fun hl vals ha => ?_⟩
  · simp [tokLoop, hemp, hf, Ex.popLeft, hp, hpar, Ex.remove, hsym, hscan, hn, hl]
  · simp [tokLoop, hemp, hf, Ex.popLeft, hp, hpar, Ex.remove, hsym, hscan, hn, hl, ha]
  · simp [tokLoop, hemp, hf, Ex.popLeft, hp, hpar, Ex.remove, hsym, hscan, hn, hl, ha]

theorem litScan_chars (t : List Char) (h : litScan t = true) :
    ∀ c ∈ t, isDigit c = true ∨ c = '.' ∨ c = 'e' := by
  fun_induction litScan t <;> simp_all

theorem litChar_props (c : Char) (h : isDigit c = true ∨ c = '.' ∨ c = 'e') :
    isWs c = false ∧ Neutral c ∧ c ≠ '*' ∧ c ≠ '=' := by
  rcases h with h | rfl | rfl
  · refine ⟨?_, ⟨?_, ?_, ?_⟩, ?_, ?_⟩
    · cases hw : isWs c with
      | false => rfl
      | true =>
        exfalso
        simp only [isWs, Bool.or_eq_true, beq_iff_eq] at hw
        rcases hw with ((((rfl | rfl) | rfl) | rfl) | rfl) | rfl <;> revert h <;> decide
    all_goals (rintro rfl; revert h; decide)
  · exact ⟨by decide, ⟨by decide, by decide, by decide⟩, by decide, by decide⟩
  · exact ⟨by decide, ⟨by decide, by decide, by decide⟩, by decide, by decide⟩

theorem litSafe_good (t : List Char) (h : litSafe t = true) :
    GoodLex t ∧ (∀ c ∈ t, Neutral c) ∧ litScan t = true ∧ SafeHead t := by
  simp only [litSafe, Bool.and_eq_true, Bool.not_eq_eq_eq_not, Bool.not_true, List.isEmpty_eq_false_iff] at h
  obtain ⟨hne, hs⟩ := h
  have hc := litScan_chars t hs
  refine ⟨⟨hne, fun c hm => (litChar_props c (hc c hm)).1⟩, fun c hm => (litChar_props c (hc c hm)).2.1, hs, ?_⟩
  cases t with
  | nil => exact absurd rfl hne
  | cons c t' =>
    have := litChar_props c (hc c (by simp))
    exact ⟨by simpa using this.2.2.1, by simpa using this.2.2.2⟩

end SciVerif.C01
