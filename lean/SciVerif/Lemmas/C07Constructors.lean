import SciVerif.Lemmas.C07Frames
import SciVerif.Lemmas.C07Validity

/-!
The constructors of C07: a new scalar / array, `Magnitude.__init__`, `BaseUnits.__init__`, and assignment to
an attribute of a Magnitude.  Each keeps the invariant and writes no object that existed before
(`Grows`), except the one Magnitude an attribute assignment is made to.
-/
namespace SciVerif.C07

/-- `p` is a reference together with the heap after producing it: the reference is `None`, a scalar, or an
    array allocated on the way; apart from that array and the counter the heap is as before. -/
structure NewRef (h : Heap) (p : Ref × Heap) : Prop where
  wf : WF p.2
  q_eq : p.2.q = h.q
  m_eq : p.2.m = h.m
  b_eq : p.2.b = h.b
  d_eq : p.2.d = h.d
  n_le : h.n ≤ p.2.n
  a_eq : ∀ l, l < h.n → p.2.a l = h.a l
  fresh : ∀ l, p.1 = .arr l → h.n ≤ l ∧ ∃ t, p.2.a l = some t

theorem NewRef.grows {h : Heap} {p : Ref × Heap} (n : NewRef h p) : Grows h p.2 :=
  ⟨n.wf, .of_eq n.n_le (fun _ _ _ => congrFun n.q_eq _) (fun _ _ _ => congrFun n.m_eq _) (fun l hl _ => n.a_eq l hl)
    (fun _ _ => congrFun n.b_eq _) (fun _ _ => congrFun n.d_eq _), n.q_eq⟩

theorem NewRef.unref {h : Heap} {p : Ref × Heap} (w : WF h) (n : NewRef h p) {l : Loc} (e : p.1 = .arr l) :
    (∃ t, p.2.a l = some t) ∧ Unref p.2 l := by
  refine ⟨(n.fresh l e).2, fun l' c f hm hf => ?_⟩
  have ⟨t, ht⟩ := w.m_ok l' c f l (n.m_eq ▸ hm) hf
  exact Nat.not_lt_of_le (n.fresh l e).1 (w.a_lt l t ht)

theorem allocRef_false (h : Heap) : allocRef h false = (.scalar h.n, { h with n := h.n + 1 }) := rfl

theorem allocRef_true (h : Heap) :
    allocRef h true = (.arr h.n, { h with a := upd h.a h.n h.n, n := h.n + 1 }) := rfl

theorem allocRef_isArr (h : Heap) (isArr : Bool) : (allocRef h isArr).1.isArr = isArr := by
  cases isArr <;> rfl

theorem allocRef_newRef {h : Heap} (w : WF h) (isArr : Bool) : NewRef h (allocRef h isArr) := by
  have wb := w.bump (Nat.le_succ h.n)
  cases isArr
  · exact ⟨wb, rfl, rfl, rfl, rfl, Nat.le_succ _, fun _ _ => rfl, fun _ e => Ref.noConfusion e⟩
  · exact ⟨wb.upd_a (Nat.lt_succ_self _) _, rfl, rfl, rfl, rfl, Nat.le_succ _,
      fun l hl => upd_ne _ _ _ _ (Nat.ne_of_lt hl),
      fun l e => by cases e; exact ⟨Nat.le_refl _, _, upd_same _ _ _⟩⟩

/-- the error attribute: by validity an existing array is never stored as passed -/
theorem errRef_newRef {h : Heap} (w : WF h) (isArr : Bool) (e : ErrArg)
    (hv : MagSpec.valid ⟨isArr, e⟩ = true) {p : Ref × Heap} (hp : errRef h isArr e = p) :
    NewRef h p ∧ (p.1.isArr = true → isArr = true) := by
  subst hp
  have hv := MagSpec.valid_iff.1 hv
  have keep : ∀ r : Ref, r.isArr = false → NewRef h (r, h) ∧ (r.isArr = true → isArr = true) := fun r hr =>
    have no : ∀ {P : Prop}, r.isArr = true → P := fun hr' => Bool.noConfusion (hr.symm.trans hr')
    ⟨⟨w, rfl, rfl, rfl, rfl, Nat.le_refl _, fun _ _ => rfl,
      fun l (e : r = .arr l) => no (congrArg Ref.isArr e)⟩, no⟩
  -- branches of `errRef`: none, a fresh object, `None` / a scalar / an array passed on (copied when the value is an array)
  fun_cases errRef h isArr e with
  | case1 => exact keep .none rfl
  | case2 arrLike =>
    exact ⟨allocRef_newRef w _, fun hr => (Bool.or_eq_true_iff.1 ((allocRef_isArr h _).symm.trans hr)).elim id hv⟩
  | case3 => exact keep .none rfl
  | case4 t ha => exact ⟨allocRef_newRef w true, fun _ => ha⟩
  | case5 t ha => exact keep (.scalar t) rfl
  | case6 l ha => exact ⟨allocRef_newRef w true, fun _ => ha⟩
  | case7 l ha => exact absurd (hv rfl) ha


theorem newMag_spec {h : Heap} (w : WF h) (s : MagSpec) (hv : s.valid = true) {p : Loc × Heap}
    (hp : newMag h s = p) :
    Grows h p.2 ∧ h.n ≤ p.1 ∧
    ∃ c, p.2.m p.1 = some c ∧ c.value.isArr = s.isArr ∧ ∀ l, c.value = .arr l → h.n ≤ l := by
  subst hp
  have nA := allocRef_newRef w s.isArr
  have sA := allocRef_isArr h s.isArr
  obtain ⟨nE, sE⟩ := errRef_newRef nA.wf s.isArr s.err hv rfl
  simp only [newMag]
  generalize allocRef h s.isArr = A at *
  generalize errRef A.2 s.isArr s.err = E at *
  have wf : WF { E.2 with m := upd E.2.m E.2.n ⟨A.1, E.1⟩, n := E.2.n + 1 } := by
    refine (nE.wf.bump (Nat.le_succ _)).upd_m (Nat.lt_succ_self _) _ (fun f r hf => ?_) (fun r hA hE => ?_)
      (fun r hE => ?_)
    · -- both arrays are new and nobody refers to them
      have : (∃ t, E.2.a r = some t) ∧ Unref E.2 r := by
        cases f
        · exact nE.unref nA.wf hf
        · have ⟨⟨t, ht⟩, hu⟩ := nA.unref w hf
          exact ⟨⟨t, (nE.a_eq r (nA.wf.a_lt r t ht)).trans ht⟩, fun l' c f' hm => hu l' c f' (nE.m_eq ▸ hm)⟩
      exact ⟨this.1, fun l' c' f' hm hf' => absurd hf' (this.2 l' c' f' hm)⟩
    · -- the value array was allocated before the error array
      have ⟨t, ht⟩ := (nA.fresh r hA).2
      exact Nat.not_lt_of_le (nE.fresh r hE).1 (nA.wf.a_lt r t ht)
    · exact sA.trans (sE (congrArg Ref.isArr hE))
  have g := nA.grows.trans nE.grows
  refine ⟨g.trans ⟨wf, ?_, rfl⟩, g.ext.n_le, ⟨A.1, E.1⟩, upd_same _ _ _, sA,
    fun l hl => (nA.fresh l hl).1⟩
  exact .of_eq (Nat.le_succ _) (fun _ _ _ => rfl) (fun l hl _ => upd_ne _ _ _ _ (Nat.ne_of_lt hl))
    (fun _ _ _ => rfl) (fun _ _ => rfl) (fun _ _ => rfl)

theorem newMags_spec (l : List MagSpec) : ∀ {h : Heap}, WF h → (∀ s ∈ l, s.valid = true) →
    Grows h (newMags h l) := by
  induction l with
  | nil => exact fun w _ => .refl w
  | cons s ss ih =>
    intro h w hv
    have ⟨hs, hss⟩ := List.forall_mem_cons.1 hv
    have g := (newMag_spec w s hs rfl).1
    exact g.trans (ih g.wf hss)

theorem BUSpec.ok_mono {h h' : Heap} (w : WF h) (x : Ext h h') {s : BUSpec} (hs : s.ok h) : s.ok h' := by
  have keep : ∀ b, (∃ bc, h.b b = some bc) → ∃ bc, h'.b b = some bc :=
    fun b ⟨bc, hb⟩ => ⟨bc, (x.b_eq b (w.b_lt b bc hb)).trans hb⟩
  cases s with
  | fresh => trivial
  | aliasDict b => exact keep b hs
  | share b => exact keep b hs

/-- writing (or creating) a dict that no object of `h0` can see, and taking fresh locations -/
theorem Grows.write_d {h0 h : Heap} (g : Grows h0 h) {l n : Loc} (hl : l < n) (hn : h.n ≤ n) (hge : h0.n ≤ l)
    (dc : DictC) (hd : dc.normalised = true ∨ ∀ bl bc, h.b bl = some bc → bc.dict ≠ l) :
    Grows h0 { h with d := upd h.d l dc, n := n } :=
  ⟨(g.wf.bump hn).upd_d hl dc hd, ⟨Nat.le_trans g.ext.n_le hn, g.ext.cell, g.ext.b_eq, fun i hi =>
    (upd_ne _ _ _ _ (Nat.ne_of_lt (Nat.lt_of_lt_of_le hi hge))).trans (g.ext.d_eq i hi)⟩, g.q_eq⟩

theorem buOver_spec {h0 h : Heap} (g : Grows h0 h) {dl : Loc} {dc : DictC} (hd : h.d dl = some dc)
    (hdl : dc.normalised = true ∨ h0.n ≤ dl) {p : Loc × Heap} (hp : buOver h dl = p) :
    Grows h0 p.2 ∧ ∃ bc, p.2.b p.1 = some bc := by
  subst hp
  -- the constructor loop leaves a heap `h1` in which the dict is normalised
  obtain ⟨h1, e, g1, hd1⟩ : ∃ h1, buOver h dl =
      (h1.n + 1, { h1 with b := upd h1.b (h1.n + 1) ⟨dl, h1.n⟩, n := h1.n + 2 }) ∧ Grows h0 h1 ∧
      ∃ dc1, h1.d dl = some dc1 ∧ dc1.normalised = true := by
    cases hnorm : dc.normalised
    · -- it rewrites the dict, which no object of `h0` can see
      have hge : h0.n ≤ dl := hdl.resolve_left (by rw [hnorm]; exact Bool.noConfusion)
      exact ⟨{ h with d := upd h.d dl ⟨h.n, true⟩, n := h.n + 1 }, by simp [buOver, hd, hnorm],
        g.write_d (Nat.lt_succ_of_lt (g.wf.d_lt dl dc hd)) (Nat.le_succ _) hge _ (.inl rfl),
        _, upd_same _ _ _, rfl⟩
    · exact ⟨h, by simp [buOver, hd, hnorm], g, dc, hd, hnorm⟩
  rw [e]
  refine ⟨g1.trans ⟨(g1.wf.bump (Nat.le_add_right _ 2)).upd_b (Nat.lt_succ_self _) _ hd1, ?_, rfl⟩,
    _, upd_same _ _ _⟩
  exact .of_eq (Nat.le_add_right _ 2) (fun _ _ _ => rfl) (fun _ _ _ => rfl) (fun _ _ _ => rfl)
    (fun l hl => upd_ne _ _ _ _ (Nat.ne_of_lt (Nat.lt_succ_of_lt hl))) (fun _ _ => rfl)

theorem newBU_spec {h : Heap} (w : WF h) (s : BUSpec) (hs : s.ok h) {p : Loc × Heap} (hp : newBU h s = p) :
    Grows h p.2 ∧ ∃ bc, p.2.b p.1 = some bc := by
  subst hp
  cases s with
  | share b => exact ⟨.refl w, hs⟩
  | aliasDict b =>
    obtain ⟨bc, hb⟩ := hs
    obtain ⟨dc, hd, hnorm⟩ := w.b_ok b bc hb
    exact buOver_spec (.refl w) hd (.inl hnorm) (by simp [newBU, hb])
  | fresh =>
    -- a new dict, not yet normalised and not yet under any BaseUnits object; then the constructor
    have g0 := (Grows.refl w).write_d (Nat.lt_succ_self h.n) (Nat.le_succ _) (Nat.le_refl _) ⟨h.n, false⟩ <|
      .inr fun bl bc hb hdl =>
        have ⟨dc, hd, _⟩ := w.b_ok bl bc hb
        Nat.lt_irrefl _ (hdl ▸ w.d_lt _ dc hd)
    exact buOver_spec g0 (upd_same _ _ _) (.inr (Nat.le_refl _)) rfl

theorem newBUs_spec (l : List BUSpec) : ∀ {h : Heap}, WF h → (∀ s ∈ l, s.ok h) → Grows h (newBUs h l) := by
  induction l with
  | nil => exact fun w _ => .refl w
  | cons s ss ih =>
    intro h w hv
    have ⟨hs, hss⟩ := List.forall_mem_cons.1 hv
    have g := (newBU_spec w s hs rfl).1
    exact g.trans (ih g.wf fun t ht => BUSpec.ok_mono w g.ext (hss t ht))

/-- the record `setField` stores, as a function of the field written, so that `field` of it computes -/
def Mag.withField (c : Mag) (f : Bool) (r : Ref) : Mag :=
  if f then { c with value := r } else { c with error := r }

theorem Mag.withField_same (c : Mag) (f : Bool) (r : Ref) : (c.withField f r).field f = r := by
  cases f <;> rfl

theorem Mag.withField_other (c : Mag) {f g : Bool} (r : Ref) (h : g ≠ f) :
    (c.withField f r).field g = c.field g := by
  cases f <;> cases g <;> first | rfl | exact absurd rfl h

/-- `mag.<f> = <new object>` yields `h'`; an error array is only assigned beside a value array -/
theorem setField_spec {h : Heap} (w : WF h) {ml : Loc} {c : Mag} (hm : h.m ml = some c) (f isArr : Bool)
    (hshape : (f = true → c.value.isArr = isArr) ∧ (f = false → isArr = true → c.value.isArr = true))
    {h' : Heap} (hh : setField h ml c f isArr = h') :
    WF h' ∧ Frame h h' [.m ml] ∧ h'.q = h.q ∧ ∃ c', h'.m ml = some c' := by
  subst hh
  have nA := allocRef_newRef w isArr
  have sA := allocRef_isArr h isArr
  have e : setField h ml c f isArr = { (allocRef h isArr).2 with
      m := upd (allocRef h isArr).2.m ml (c.withField f (allocRef h isArr).1) } := by
    cases f <;> rfl
  rw [e]
  generalize allocRef h isArr = A at *
  have hmA : A.2.m ml = some c := nA.m_eq ▸ hm
  refine ⟨nA.wf.upd_m (nA.wf.m_lt ml c hmA) _ (fun g r hg => ?_) (fun r hv he => ?_) (fun r he => ?_), ?_,
    nA.q_eq, _, upd_same _ _ _⟩
  · by_cases hgf : g = f
    · -- the new object: nobody refers to it
      subst hgf
      rw [Mag.withField_same] at hg
      have ⟨ha, hu⟩ := nA.unref w hg
      exact ⟨ha, fun l' c' f' hm' hf' => absurd hf' (hu l' c' f' hm')⟩
    · -- the attribute that stays: this Magnitude is its only holder
      rw [Mag.withField_other c _ hgf] at hg
      exact ⟨nA.wf.m_ok ml c g r hmA hg, fun l' c' f' hm' hf' =>
        (nA.wf.own_arr l' ml c' c f' g r hm' hmA hf' hg).1⟩
  · -- one of the two arrays is new, the other was there before
    cases f
    · exact (nA.unref w he).2 ml c true hmA hv
    · exact (nA.unref w hv).2 ml c false hmA he
  · cases f
    · exact hshape.2 rfl (sA ▸ (show A.1 = .arr r from he) ▸ rfl)
    · exact (sA.trans (hshape.1 rfl).symm).trans (w.shaped ml c r hm he)
  · exact .of_eq nA.n_le (fun l _ _ => congrFun nA.q_eq l)
      (fun l _ hx =>
        (upd_ne _ _ _ _ fun e => hx (List.mem_singleton.2 (congrArg Cell.m e))).trans (congrFun nA.m_eq l))
      (fun l hl _ => nA.a_eq l hl) (fun l _ => congrFun nA.b_eq l) (fun l _ => congrFun nA.d_eq l)

end SciVerif.C07
