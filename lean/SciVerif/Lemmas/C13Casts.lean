import SciVerif.Model.C13Cast
import SciVerif.Lemmas.C13ScanType
/-!
Casts of scalar literals: the value stored is the number denoted by the text (`castInt_lit`, `castFloat_lit` on a
float literal as written, `FloatD`); the characters number words are made of (`NumCh`) and what they exclude; at the
end `cast_value` itself on a scalar and on an array text (`castText_scalar`, `castText_array`).
-/
namespace SciVerif.C13
open SciVerif.Util

/-- an optional sign as written: none, `+` (`some false`) or `-` (`some true`) -/
def signText : Option Bool → Str
  | none => []
  | some false => ['+']
  | some true => ['-']

def signNeg : Option Bool → Bool
  | some true => true
  | _ => false

theorem digit_plain {c : Char} (h : c.isDigit = true) :
    (c == '_' || isWs c) = false ∧ c ≠ '+' ∧ c ≠ '-' ∧ c ≠ '.' ∧ c ≠ 'e' ∧ c ≠ 'E' := by
  refine ⟨?_, ne_of_class h (by decide), ne_of_class h (by decide), ne_of_class h (by decide),
    ne_of_class h (by decide), ne_of_class h (by decide)⟩
  rw [Bool.or_eq_false_iff, beq_eq_false_iff_ne]
  exact ⟨ne_of_class h (by decide), not_isWs_of_class h (by decide)⟩
theorem allDigits_iff {d : Str} (h : allDigits d = true) : d ≠ [] ∧ ∀ c ∈ d, c.isDigit = true := by
  simp only [allDigits, Bool.and_eq_true, List.all_eq_true] at h
  refine ⟨?_, h.2⟩
  intro e; rw [e] at h; simp at h

theorem splitSign_sign (sg : Option Bool) (d : Str) (hd : HeadNot (fun c => c == '+' || c == '-') d) :
    splitSign (signText sg ++ d) = (signNeg sg, d) := by
  cases sg with
  | none =>
    simp only [signText, List.nil_append, signNeg]
    unfold splitSign
    split
    · exact absurd (hd _ _ rfl) (by decide)
    · exact absurd (hd _ _ rfl) (by decide)
    · rfl
  | some b => cases b <;> rfl

theorem hasOdd_append (a b : Str) : hasOdd (a ++ b) = (hasOdd a || hasOdd b) := by simp [hasOdd]

theorem digits_nosign (d : Str) (h : ∀ c ∈ d, c.isDigit = true) : HeadNot (fun c => c == '+' || c == '-') d := by
  cases d with
  | nil => exact .nil
  | cons c r =>
    have := digit_plain (h c (by simp))
    exact .cons (by simp [this.2.1, this.2.2.1]) r

def NumCh (c : Char) : Prop := c.isDigit = true ∨ c = '-' ∨ c = '+' ∨ c = '.' ∨ c = 'e' ∨ c = 'E'

/-- a number character means nothing to the lexer, the escape marks or the array reader -/
theorem numCh_plain {c : Char} (h : NumCh c) :
    c ≠ '{' ∧ c ≠ '(' ∧ c ≠ '"' ∧ c ≠ '\'' ∧ c ≠ '#' ∧ isWs c = false ∧ c ≠ '\\' ∧ c ≠ '\n' ∧ c ≠ '$' ∧
    isDelim c = false ∧ c ≠ '_' := by
  rcases h with hd | rfl | rfl | rfl | rfl | rfl
  · have hw : isWs c = false := not_isWs_of_class hd (by decide)
    refine ⟨ne_of_class hd (by decide), ne_of_class hd (by decide), ne_of_class hd (by decide),
      ne_of_class hd (by decide), ne_of_class hd (by decide), hw, ne_of_class hd (by decide),
      ne_of_class hd (by decide), ne_of_class hd (by decide), ?_, ne_of_class hd (by decide)⟩
    simp [isDelim, hw, ne_of_class hd (d := ',') (by decide), ne_of_class hd (d := ']') (by decide),
      ne_of_class hd (d := '[') (by decide)]
  all_goals decide

theorem numCh_first {c : Char} (h : NumCh c) : c ≠ '{' ∧ c ≠ '(' ∧ c ≠ '"' ∧ c ≠ '\'' :=
  ⟨(numCh_plain h).1, (numCh_plain h).2.1, (numCh_plain h).2.2.1, (numCh_plain h).2.2.2.1⟩
theorem numCh_word {c : Char} (h : NumCh c) : c ≠ '#' ∧ isWs c = false :=
  ⟨(numCh_plain h).2.2.2.2.1, (numCh_plain h).2.2.2.2.2.1⟩
theorem numCh_noEsc {c : Char} (h : NumCh c) : c ≠ '\\' ∧ c ≠ '\n' :=
  ⟨(numCh_plain h).2.2.2.2.2.2.1, (numCh_plain h).2.2.2.2.2.2.2.1⟩
theorem numCh_noDollar {c : Char} (h : NumCh c) : c ≠ '$' := (numCh_plain h).2.2.2.2.2.2.2.2.1
theorem numCh_noDelim {c : Char} (h : NumCh c) : isDelim c = false := (numCh_plain h).2.2.2.2.2.2.2.2.2.1
theorem numCh_noUnderscore {c : Char} (h : NumCh c) : c ≠ '_' := (numCh_plain h).2.2.2.2.2.2.2.2.2.2

theorem hasOdd_numWord (s : Str) (h : ∀ c ∈ s, NumCh c) : hasOdd s = false := by
  simp only [hasOdd, List.any_eq_false]
  intro c hc
  simp [(numCh_word (h c hc)).2, numCh_noUnderscore (h c hc)]

theorem signText_chars (sg : Option Bool) : ∀ c ∈ signText sg, c = '-' ∨ c = '+' := by
  intro c hc
  cases sg with
  | none => simp [signText] at hc
  | some b => cases b <;> simp [signText] at hc <;> simp [hc]

theorem intLit_chars (sg : Option Bool) (d : Str) (h : ∀ c ∈ d, c.isDigit = true) : ∀ c ∈ signText sg ++ d, NumCh c := by
  intro c hc
  rcases List.mem_append.mp hc with hs | hd
  · rcases signText_chars sg c hs with rfl | rfl <;> simp [NumCh]
  · exact .inl (h c hd)

theorem castInt_lit (sg : Option Bool) (d : Str) (hd : allDigits d = true) :
    castInt (signText sg ++ d) =
      .ok (if signNeg sg then -(digitsToNat d : Int) else (digitsToNat d : Int)) := by
  obtain ⟨hne, hall⟩ := allDigits_iff hd
  have hodd : hasOdd (signText sg ++ d) = false := hasOdd_numWord _ (intLit_chars sg d hall)
  have hhead := digits_nosign d hall
  simp only [castInt, hodd, Bool.false_eq_true, if_false, splitSign_sign sg d hhead, hd, if_true]

/-- a float literal as written -/
structure FloatD where
  sg : Option Bool := none
  ip : Str                                   -- digits before the point (may be empty: `.5`)
  fp : Option Str := none                    -- `some f`: a point followed by the digits `f` (may be empty: `5.`)
  ex : Option (Bool × Option Bool × Str) := none   -- capital `E`?, sign, digits of the exponent

def FloatD.mantText (f : FloatD) : Str := f.ip ++ (match f.fp with | some x => '.' :: x | none => [])

def FloatD.expText (f : FloatD) : Str :=
  match f.ex with
  | some (cap, es, ed) => (if cap then 'E' else 'e') :: (signText es ++ ed)
  | none => []

def FloatD.render (f : FloatD) : Str := signText f.sg ++ (f.mantText ++ f.expText)

/-- digits where digits are expected, at least one digit in the mantissa, exponent digits non-empty and at most
    400 (the range the model of `float()` covers) -/
def FloatD.Ok (f : FloatD) : Prop :=
  (∀ c ∈ f.ip, c.isDigit = true) ∧ (∀ x, f.fp = some x → ∀ c ∈ x, c.isDigit = true) ∧
  (f.ip ≠ [] ∨ ∃ x, f.fp = some x ∧ x ≠ []) ∧
  (∀ cap es ed, f.ex = some (cap, es, ed) → allDigits ed = true ∧ digitsToNat ed ≤ 400)

def FloatD.value (f : FloatD) : Rat :=
  let m : Rat := (digitsToNat f.ip : Rat) +
    (match f.fp with | some x => (digitsToNat x : Rat) / pow10 x.length | none => 0)
  let signed : Rat := if signNeg f.sg then -m else m
  match f.ex with
  | some (_, es, ed) => if signNeg es then signed / pow10 (digitsToNat ed) else signed * pow10 (digitsToNat ed)
  | none => signed

theorem expText_head (f : FloatD) : HeadIn ['e', 'E'] f.expText := by
  unfold FloatD.expText
  cases f.ex with
  | none => exact .nil
  | some t => obtain ⟨cap, es, ed⟩ := t; cases cap <;> exact .cons (by decide) _

theorem mantText_chars (f : FloatD) (hf : f.Ok) : ∀ c ∈ f.mantText, c.isDigit = true ∨ c = '.' := by
  intro c hc
  simp only [FloatD.mantText, List.mem_append] at hc
  rcases hc with h | h
  · exact .inl (hf.1 c h)
  · cases hfpc : f.fp with
    | none => rw [hfpc] at h; cases h
    | some x =>
      rw [hfpc] at h
      rcases List.mem_cons.mp h with rfl | h
      · exact .inr rfl
      · exact .inl (hf.2.1 x hfpc c h)

theorem floatD_chars (f : FloatD) (hf : f.Ok) : ∀ c ∈ f.render, NumCh c := by
  have hsign : ∀ (sg : Option Bool) (c : Char), c ∈ signText sg → NumCh c := by
    intro sg c hc
    rcases signText_chars sg c hc with h | h
    · exact .inr (.inl h)
    · exact .inr (.inr (.inl h))
  intro c hc
  simp only [FloatD.render, FloatD.expText, List.mem_append] at hc
  rcases hc with hc | hc | hc
  · exact hsign _ c hc
  · exact (mantText_chars f hf c hc).imp id fun h => .inr (.inr (.inl h))
  · cases hexc : f.ex with
    | none => rw [hexc] at hc; simp at hc
    | some p =>
      obtain ⟨cap, es, ed⟩ := p
      rw [hexc] at hc
      simp only [List.mem_cons, List.mem_append] at hc
      rcases hc with rfl | hc | hc
      · cases cap
        · exact .inr (.inr (.inr (.inr (.inl rfl))))
        · exact .inr (.inr (.inr (.inr (.inr rfl))))
      · exact hsign _ c hc
      · exact .inl ((allDigits_iff (hf.2.2.2 cap es ed hexc).1).2 c hc)

theorem parseMantissa_lit (f : FloatD) (hf : f.Ok) :
    parseMantissa f.mantText =
      some ((digitsToNat f.ip : Rat) + (match f.fp with | some x => (digitsToNat x : Rat) / pow10 x.length | none => 0)) := by
  obtain ⟨hip, hfp, hne, _⟩ := hf
  cases hfpc : f.fp with
  | none =>
    have hipne : f.ip ≠ [] := by
      rcases hne with h | ⟨x, hx, _⟩
      · exact h
      · rw [hfpc] at hx; cases hx
    simp only [FloatD.mantText, hfpc, List.append_nil, parseMantissa]
    have htw : f.ip.takeWhile Char.isDigit = f.ip := by simpa using takeWhile_append_headNot hip .nil
    have hdw : f.ip.dropWhile Char.isDigit = [] := dropWhile_of_all hip
    rw [htw, hdw]
    simp only [List.isEmpty_eq_false_iff.mpr hipne, Bool.false_eq_true, if_false, Option.some.injEq]
    exact (Rat.add_zero _).symm
  | some x =>
    have hx := hfp x hfpc
    simp only [FloatD.mantText, hfpc, parseMantissa]
    rw [takeWhile_append_headNot (b := '.' :: x) hip (.cons (by decide) x),
      dropWhile_append_headNot (b := '.' :: x) hip (.cons (by decide) x)]
    have hall : x.all Char.isDigit = true := List.all_eq_true.mpr hx
    have hnb : (f.ip.isEmpty && x.isEmpty) = false := by
      rcases hne with h | ⟨y, hy, hyne⟩
      · rw [List.isEmpty_eq_false_iff.mpr h]; rfl
      · rw [hfpc] at hy; cases hy
        rw [List.isEmpty_eq_false_iff.mpr hyne, Bool.and_false]
    simp [hall, hnb]

theorem castFloat_lit (f : FloatD) (hf : f.Ok) : castFloat f.render = .ok f.value := by
  -- a character of the mantissa is neither an exponent letter nor a sign
  have hm : ∀ c ∈ f.mantText, (c != 'e' && c != 'E') = true ∧ (c == '+' || c == '-') = false := by
    intro c hc
    rcases mantText_chars f hf c hc with h | rfl
    · have := digit_plain h; simp [this.2.1, this.2.2.1, this.2.2.2.2.1, this.2.2.2.2.2]
    · decide
  have hp : ∀ c ∈ f.mantText, (fun c : Char => c != 'e' && c != 'E') c = true := fun c hc => (hm c hc).1
  have hexp_head : HeadNot (fun c : Char => c != 'e' && c != 'E') f.expText := (expText_head f).headNot (by decide)
  have hodd : hasOdd f.render = false := hasOdd_numWord _ (floatD_chars f hf)
  have hhead : HeadNot (fun c => c == '+' || c == '-') (f.mantText ++ f.expText) :=
    .append_of_all (fun c hc => (hm c hc).2) ((expText_head f).headNot (by decide))
  unfold castFloat
  simp only [hodd, Bool.false_eq_true, if_false]
  simp only [FloatD.render, splitSign_sign f.sg _ hhead,
    takeWhile_append_headNot hp hexp_head, dropWhile_append_headNot hp hexp_head, parseMantissa_lit f hf]
  simp only [FloatD.expText, FloatD.value]
  cases hexc : f.ex with
  | none => rfl
  | some t =>
    obtain ⟨cap, es, ed⟩ := t
    obtain ⟨hed, h400⟩ := hf.2.2.2 cap es ed hexc
    have hedh := digits_nosign ed (allDigits_iff hed).2
    have hng : ¬ digitsToNat ed > 400 := by omega
    simp only [splitSign_sign es ed hedh, hed, if_true, hng, if_false]

theorem ne_of_head (s w : Str) (c : Char) (hw : w.head? = some c) (h : s.head? ≠ some c) : (s == w) = false := by
  rw [Bool.eq_false_iff]
  intro he
  have e := eq_of_beq he
  subst e
  exact h hw

theorem ne_none_of_head (s : Str) (h : s.head? ≠ some 'n') : (s == "none".toList) = false :=
  ne_of_head s _ 'n' (by rw [kw_none]; rfl) h

/-- none of the keywords starts with a number character -/
theorem numWord_not_keyword (s : Str) (hne : s ≠ []) (h : ∀ c ∈ s, NumCh c) :
    (s == "none".toList) = false ∧ (s == "true".toList) = false ∧ (s == "false".toList) = false ∧
    (s == "null".toList) = false := by
  obtain ⟨c, r, rfl⟩ := List.exists_cons_of_ne_nil hne
  have hc := h c (by simp)
  have nc : ∀ x : Char, x = 'n' ∨ x = 't' ∨ x = 'f' → (c :: r).head? ≠ some x := by
    rintro x hx he
    obtain rfl : c = x := by simpa using he
    rcases hx with rfl | rfl | rfl <;> rcases hc with h | h | h | h | h | h <;> exact absurd h (by decide)
  rw [kw_none, kw_true, kw_false, kw_null]
  exact ⟨ne_of_head _ _ 'n' rfl (nc _ (.inl rfl)), ne_of_head _ _ 't' rfl (nc _ (.inr (.inl rfl))),
    ne_of_head _ _ 'f' rfl (nc _ (.inr (.inr rfl))), ne_of_head _ _ 'n' rfl (nc _ (.inl rfl))⟩

theorem floatD_render_ne (f : FloatD) (hf : f.Ok) : f.render ≠ [] := by
  -- `castFloat` fails on the empty text, and succeeds on the rendering
  intro h
  have := castFloat_lit f hf
  rw [h] at this
  simp [castFloat, hasOdd, splitSign, parseMantissa, lower] at this

theorem castText_scalar {ty : Ty} {s : Str} (hnone : (s == "none".toList) = false) :
    castText ty none s = castScalar ty s := by
  simp only [castText, hnone, Bool.false_eq_true, if_false]

theorem castText_array {ty : Ty} {ds : List Dim} {s : Str} {sh : List Nat} {toks : List Tok} {atoms : List Atom}
    (hnone : (s == "none".toList) = false) (hp : parseJson s = .ok (sh, toks))
    (hel : toks.mapM (tokAtom ty) = .ok atoms) (hd : checkDims ds sh = true) :
    castText ty (some ds) s = .ok (.array sh atoms) := by
  simp only [castText, hnone, Bool.false_eq_true, if_false, hp, bind, Except.bind, hel, hd, if_true]

end SciVerif.C13
