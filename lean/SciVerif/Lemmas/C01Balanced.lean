import SciVerif.Lemmas.C01Text
import SciVerif.Generated.C01Tables

/-!
# C01 helper lemmas: whatever `solve` accepts has balanced parentheses.  A `(` is always taken by
  some operator, whose scanner accepts balanced arguments only; a `)` outside a call ends up in
  the text of an atom, which the atom class refuses (`ParenFree`).
-/
namespace SciVerif.C01
open SciVerif.C01.Gen

variable {A : Type} (alg : AtomAlg A)

/-- a row either scans no arguments and its symbol leaves the depth alone, or it scans with
    `(` `,` `)` and its symbol opens exactly one parenthesis -/
def parShapeOK (r : OpRow) : Bool :=
  match r.par with
  | none => bal r.symbol 0 == some 0
  | some p => p == stdPar p.narg && bal r.symbol 0 == some 1

theorem fact_par_shape : dflt.rows.all parShapeOK = true := by decide

theorem fact_open_taken : dflt.rows.any (fun r => r.symbol == ['(']) = true := by decide

theorem findOp_open (r : List Char) : findOp dflt ('(' :: r) ≠ none := by
  obtain ⟨row, hm, hs⟩ := List.any_eq_true.mp fact_open_taken
  simp only [beq_iff_eq] at hs
  intro h
  have := findOpFrom_eq_none.mp h row hm
  rw [hs] at this; cases this

theorem parScan_sound (narg : Nat) :
    ∀ (n d : Nat) (l r : List Char) (args : List (List Char)) (e' : Ex) (args' : List (List Char)),
      parScan (stdPar narg) n (d + 1) ⟨l, r⟩ args = some (e', args') →
      ∃ w, r = w ++ ')' :: e'.right ∧ bal w d = some 0 := by
  intro n
  induction n with
  | zero => intro d l r args e' args' h; simp [parScan] at h
  | succ n ih =>
    intro d l r args e' args' h
    cases r with
    | nil => simp [parScan] at h
    | cons c r1 =>
      rw [parScan_cons] at h
      cases hs : depthStep true c d with
      | some k1 =>
        -- the character belongs to the argument text
        rw [hs] at h
        obtain ⟨w, e1, e2⟩ := ih k1 _ r1 args e' args' h
        exact ⟨c :: w, by rw [e1]; rfl, by rw [bal_cons, depthStep_weaken c d k1 hs]; exact e2⟩
      | none =>
        rw [hs] at h
        obtain ⟨rfl, rfl | rfl⟩ := depthStep_none c d hs
        · -- the closing parenthesis of the call
          cases h
          exact ⟨[], rfl, rfl⟩
        · -- a separator of the call: the next argument starts
          obtain ⟨w, e1, e2⟩ := ih 0 _ r1 _ e' args' h
          exact ⟨',' :: w, by rw [e1]; rfl, by rw [bal_cons]; exact e2⟩

theorem any_dropWhile (l : List Char) (h : l.any isParen = true) : (l.dropWhile isWs).any isParen = true := by
  induction l with
  | nil => simp at h
  | cons c cs ih =>
    by_cases hw : isWs c = true
    · have hc : isParen c = false := by
        simp only [isWs, Bool.or_eq_true, beq_iff_eq] at hw
        rcases hw with ((((rfl | rfl) | rfl) | rfl) | rfl) | rfl <;> decide
      simp only [List.any_cons, hc, Bool.false_or] at h
      simp [hw, ih h]
    · simp only [List.dropWhile_cons, hw, Bool.false_eq_true, if_false]; exact h

theorem any_strip (l : List Char) (h : l.any isParen = true) : (strip l).any isParen = true := by
  unfold strip
  rw [List.any_reverse]
  apply any_dropWhile
  rw [List.any_reverse]
  exact any_dropWhile l h

theorem pushAtom_paren (hpf : ParenFree alg) (l : List Char) (h : l.any isParen = true) (b : Bufs A) :
    pushAtom alg (strip l) b = .error (b, "atom") := by
  have hs := any_strip l h
  have hne : (strip l).isEmpty = false := by
    cases hh : strip l with
    | nil => rw [hh] at hs; simp at hs
    | cons _ _ => rfl
  simp [pushAtom, hne, hpf _ hs]

variable (sa : Bufs A → List Char → Bufs A × Except String (Tok A))

theorem findOp_split {s : List Char} {i : Nat} {row : OpRow} (hf : findOp dflt s = some (i, row)) :
    s = row.symbol ++ s.drop row.symbol.length ∧ parShapeOK row = true := by
  obtain ⟨k, _, hrow, hpre, _⟩ := findOpFrom_eq_some.mp hf
  exact ⟨(List.prefix_iff_eq_append.mp (List.isPrefixOf_iff_prefix.mp hpre)).symm,
    List.all_eq_true.mp fact_par_shape row (List.mem_of_getElem? hrow)⟩

theorem tokLoop_paren_left (hpf : ParenFree alg) (n : Nat) (e : Ex) (b : Bufs A) :
    e.left.any isParen = true → ∃ err, tokLoop dflt alg sa n e b = .error err := by
  -- the branches of `tokLoop`: 1 no fuel; 2 end of text; 3 no symbol here, shift; at a symbol: 4 the pending text
  -- is no atom, 5 plain operator, 6 call unclosed, 7 wrong arity, 8 an argument fails, 9 call accepted
  fun_induction tokLoop dflt alg sa n e b with
  | case1 => exact fun _ => ⟨_, rfl⟩
  | case2 n e b he => exact fun h => ⟨_, pushAtom_paren alg hpf e.left h b⟩
  | case3 n e b hne hf ih => exact fun h => ih (by simp [Ex.shift, h])
  | case4 => exact fun _ => ⟨_, rfl⟩
  | case5 n e b _ _ _ _ _ hp | case6 n e b _ _ _ _ _ hp | case7 n e b _ _ _ _ _ hp
  | case8 n e b _ _ _ _ _ hp | case9 n e b _ _ _ _ _ hp =>
    -- the text collected on the left cannot be turned into an atom
    intro h
    rw [show e.popLeft.1 = strip e.left from rfl, pushAtom_paren alg hpf e.left h b] at hp; cases hp

theorem tokLoop_balanced (hpf : ParenFree alg) (n : Nat) (e : Ex) (b b' : Bufs A) :
    tokLoop dflt alg sa n e b = .ok b' → bal e.right 0 = some 0 := by
  -- branches numbered as in `tokLoop_paren_left`
  fun_induction tokLoop dflt alg sa n e b with
  | case1 => exact nofun
  | case2 n e b he => exact fun _ => by rw [List.isEmpty_iff.mp he]; rfl
  | case3 n e b hne hf ih =>
    intro h
    obtain ⟨lw, s⟩ := e
    cases s with
    | nil => exact absurd rfl hne
    | cons c s' =>
      have h1 : c ≠ '(' := by rintro rfl; exact findOp_open s' hf
      have h2 : c ≠ ')' := by
        rintro rfl
        obtain ⟨err, he⟩ := tokLoop_paren_left alg sa hpf n ⟨lw ++ [')'], s'⟩ b (by simp [isParen])
        rw [show Ex.shift ⟨lw, ')' :: s'⟩ = ⟨lw ++ [')'], s'⟩ from rfl, he] at h; cases h
      simp only [bal, h1, h2, if_false]
      exact ih h
  | case4 | case6 | case7 | case8 => exact nofun
  | case5 n e b hne i row hf b1 hp e2 hpar ih =>
    intro h
    obtain ⟨hs, hshape⟩ := findOp_split hf
    rw [parShapeOK, hpar] at hshape
    rw [hs, bal_append, beq_iff_eq.mp hshape]
    exact ih h
  | case9 n e b hne i row hf b1 hp e2 p hpar e3 args hscan hlen vs hsa ih =>
    intro h
    obtain ⟨hs, hshape⟩ := findOp_split hf
    rw [parShapeOK, hpar] at hshape
    simp only [Bool.and_eq_true, beq_iff_eq] at hshape
    rw [hshape.1] at hscan
    obtain ⟨w, e1, e2'⟩ := parScan_sound p.narg _ 0 _ _ _ _ _ hscan
    rw [hs, bal_append, hshape.2, Option.bind_some,
      show e.right.drop row.symbol.length = w ++ ')' :: e3.right from e1, bal_append,
      bal_shift w 0 0 1 e2']
    simpa [bal] using ih h

theorem solve_ok_balanced (hpf : ParenFree alg) (s : List Char) (t : Tok A)
    (h : solve dflt alg dfltSteps s = .ok t) : Balanced s := by
  unfold solve solveI solveFrom resetBufs at h
  simp only [solveFromF] at h
  cases ht : tokLoop dflt alg (fun st a => solveFromF dflt alg dfltSteps s.length (resetBufs st) a)
      (s.length + 1) ⟨[], s⟩ ⟨[], []⟩ with
  | error e => rw [ht] at h; obtain ⟨b, m⟩ := e; simp at h
  | ok b1 => exact tokLoop_balanced alg _ hpf _ _ _ _ ht

end SciVerif.C01
