import SciVerif.Lemmas.C07Constructors

/-!
One whole operation of C07, specified by `StepSpec`: the invariant is kept, only cells of the target are
written, what is returned is the target or new.  `exec_spec` shows this of a valid description, `step_spec` of
every operation of the library; `StepSpec.ok` derives from it, by the frame rule and separation, that no other
quantity reports anything different (`StepOK`); `WF.run` and `run_stable` carry this over to finite programs.
-/
namespace SciVerif.C07

theorem rewriteStep_spec {h0 h : Heap} (g : Grows h0 h) {ml : Loc} {c : Mag} (hm : h.m ml = some c)
    (isArr on : Bool) (hs : c.value.isArr = isArr) (hge : h0.n ≤ ml) :
    Grows h0 (rewriteStep h ml isArr on) ∧ ∃ c', (rewriteStep h ml isArr on).m ml = some c' := by
  cases on
  · exact ⟨g, c, hm⟩
  · have ⟨w', fr, q', hc'⟩ := setField_spec g.wf hm true isArr ⟨fun _ => hs, Bool.noConfusion⟩
      (show _ = rewriteStep h ml isArr true by simp only [rewriteStep, if_true, hm])
    -- the write is to a Magnitude that no object of `h0` can see
    exact ⟨⟨w', (g.ext.trans fr).drop_fresh (List.forall_mem_singleton.2 hge), q'.trans g.q_eq⟩, hc'⟩

/-- The last step of `exec`: the quantity at `x` — a new one, or an old one that `ex` lists — gets a Magnitude
    made after `h`. -/
theorem attach_spec {h hb : Heap} (w : WF h) (g : Grows h hb) {x n : Loc} (hx : x < n) (hn : hb.n ≤ n)
    (qc : Qty) (hm : ∃ c, hb.m qc.mag = some c) (hbu : ∃ c, hb.b qc.bu = some c) (hge : h.n ≤ qc.mag)
    {ex : List Cell} (hex : h.n ≤ x ∨ .q x ∈ ex) :
    WF { hb with q := upd hb.q x qc, n := n } ∧ Frame h { hb with q := upd hb.q x qc, n := n } ex := by
  have x0 := g.ext
  -- no quantity owns the Magnitude: the quantities are those of `h`, whose Magnitudes lie below `h.n`
  have hu : Unowned hb qc.mag := fun y c hq he =>
    have ⟨⟨mc, hmc⟩, _⟩ := w.q_ok y c (g.q_eq ▸ hq)
    Nat.not_lt_of_le hge (he ▸ w.m_lt _ mc hmc)
  refine ⟨(g.wf.bump hn).upd_q hx qc hm hbu hu, .of_eq (Nat.le_trans x0.n_le hn)
    (fun l hl hl' => ?_) (fun l hl _ => x0.cell (.m l) hl List.not_mem_nil)
    (fun l hl _ => x0.cell (.a l) hl List.not_mem_nil) x0.b_eq x0.d_eq⟩
  refine (upd_ne _ _ _ _ fun e => ?_).trans (x0.cell (.q l) hl List.not_mem_nil)
  subst e
  exact hex.elim (Nat.not_le_of_lt hl) hl'

/-- `ex` are the cells written, all of them cells of the quantity `t`; a quantity that is returned is `t` or
    new, an array that is returned is new.  A clause that holds because nothing is written, or nothing of
    that shape is returned, need not be given. -/
structure StepSpec (h : Heap) (t : Option Loc) (p : Heap × Res) (ex : List Cell) : Prop where
  wf : WF p.1
  frame : Frame h p.1 ex
  own : ∀ c ∈ ex, ∃ a, t = some a ∧ c ∈ mutReach h a := by exact List.forall_mem_nil _
  qty : ∀ x, p.2 = .qty x → t = some x ∨ h.n ≤ x := by exact fun _ e => Res.noConfusion e
  arr : ∀ l, p.2 = .val (.arr l) → h.n ≤ l := by exact fun _ e => Res.noConfusion e

theorem exec_spec {h : Heap} (w : WF h) {t : Option Loc} (s : Spec) (hv : s.valid h t) :
    StepSpec h t (exec h s) s.kind.writes := by
  have g1 := newMags_spec s.temps w hv.temps
  have g2 := g1.trans (newBUs_spec s.tempBUs g1.wf fun b hb => BUSpec.ok_mono w g1.ext (hv.tempBUs b hb))
  simp only [exec]
  generalize newBUs (newMags h s.temps) s.tempBUs = h2 at *
  obtain ⟨g3, ge3, c3, hc3, sh3, fr3⟩ := newMag_spec g2.wf s.final hv.final rfl
  have g3 := g2.trans g3
  have ge3 := Nat.le_trans g2.ext.n_le ge3
  generalize newMag h2 s.final = M at *
  cases hk : s.kind with
  | nothing => exact { wf := g2.wf, frame := g2.ext }
  | valueOf =>
    refine { wf := g3.wf, frame := g3.ext, arr := fun l hl => ?_ }
    simp only [hc3, Res.val.injEq] at hl
    exact Nat.le_trans g2.ext.n_le (fr3 l hl)
  | construct =>
    dsimp only
    obtain ⟨g4, c4, hc4⟩ := rewriteStep_spec g3 hc3 s.final.isArr s.rewriteValue sh3 ge3
    generalize rewriteStep M.2 M.1 s.final.isArr s.rewriteValue = h3 at *
    obtain ⟨g5, hb⟩ := newBU_spec g4.wf s.bu (BUSpec.ok_mono w g4.ext hv.bu) rfl
    have hm := (g5.ext.cell (.m M.1) (g4.wf.m_lt M.1 c4 hc4) List.not_mem_nil).trans hc4
    have g5 := g4.trans g5
    have ⟨w6, fr⟩ := attach_spec w g5 (Nat.lt_succ_self _) (Nat.le_succ _) ⟨M.1, _⟩ ⟨c4, hm⟩ hb ge3
      (ex := []) (.inl g5.ext.n_le)
    exact { wf := w6, frame := fr, qty := fun x hx => .inr (by cases hx; exact g5.ext.n_le) }
  | assign x =>
    dsimp only
    -- by validity `x` is the live target
    have mem : Cell.q x ∈ [Cell.q x] := List.mem_singleton.2 rfl
    obtain ⟨_, cx, e, ht, hcx⟩ := hv.writes (.q x) (hk ▸ mem)
    cases e
    obtain ⟨g5, hb⟩ := newBU_spec g3.wf s.bu (BUSpec.ok_mono w g3.ext hv.bu) rfl
    have hm := (g5.ext.cell (.m M.1) (g3.wf.m_lt M.1 c3 hc3) List.not_mem_nil).trans hc3
    have g5 := g3.trans g5
    have hq : (newBU M.2 s.bu).2.q x = some cx := g5.q_eq ▸ hcx
    have ⟨w6, fr⟩ :=
      attach_spec w g5 (g5.wf.q_lt x cx hq) (Nat.le_refl _) ⟨M.1, _⟩ ⟨c3, hm⟩ hb ge3 (.inr mem)
    exact { wf := w6, frame := fr, qty := fun y hy => .inl (by cases hy; exact ht),
            own := List.forall_mem_singleton.2 ⟨x, ht, mem_mutReach.2 ⟨cx, hcx, .inl rfl⟩⟩ }

/-- What C07 asks of one operation, in the terms of what quantities report; `StepSpec` says it in cells. -/
structure StepOK (h : Heap) (op : Op) (h' : Heap) : Prop where
  wf : WF h'
  stable : ∀ x qc, h.q x = some qc → some x ≠ target op → obs h' x = obs h x
  frozen : UnitsFrozen h h'
  n_le : h.n ≤ h'.n
  q_keep : ∀ x qc, h.q x = some qc → some x ≠ target op → h'.q x = some qc

theorem StepSpec.ok {h : Heap} {op : Op} {p : Heap × Res} {ex : List Cell} (w : WF h)
    (sp : StepSpec h (target op) p ex) : StepOK h op p.1 := by
  have fr := sp.frame
  have disj : ∀ x, some x ≠ target op → ∀ c ∈ mutReach h x, c ∉ ex := fun x hx c hc hex =>
    have ⟨a, ha, hca⟩ := sp.own c hex
    w.separate (fun e => hx ((congrArg some e).trans ha.symm)) c hc hca
  refine ⟨sp.wf, fun x qc hq hx => obs_stable w fr hq (disj x hx), ⟨fun l c hb => ?_, fun l c hd => ?_⟩,
    fr.n_le, fun x qc hq hx => ?_⟩
  · exact (fr.b_eq l (w.b_lt l c hb)).trans hb
  · exact (fr.d_eq l (w.d_lt l c hd)).trans hd
  · exact (fr.cell (.q x) (w.q_lt x qc hq) (disj x hx _ (mem_mutReach.2 ⟨qc, hq, .inl rfl⟩))).trans hq

theorem StepSpec.idle {h : Heap} (w : WF h) (t : Option Loc) {r : Res} (hr : r = .invalid ∨ r = .nothing) :
    StepSpec h t (h, r) [] :=
  { wf := w, frame := Frame.refl h, qty := fun x e => by subst e; cases hr <;> contradiction,
    arr := fun l e => by subst e; cases hr <;> contradiction }

/-- `a.abse(number)` / `a.rele(number)`: the error attribute of `a`'s Magnitude is assigned to -/
theorem setErr_spec {h : Heap} (w : WF h) {a ml : Loc} {c : Mag} (hm : magOf h a = some (ml, c))
    (isArr : Bool) (hs : isArr = true → c.value.isArr = true) :
    StepSpec h (some a) (setField h ml c false isArr, .qty a) [.m ml] := by
  obtain ⟨qa, hqa, hml, hmc⟩ := magOf_some hm
  have ⟨w', fr, _, _⟩ := setField_spec w hmc false isArr ⟨Bool.noConfusion, fun _ => hs⟩ rfl
  exact { wf := w', frame := fr, qty := fun x e => .inl (by cases e; rfl),
          own := List.forall_mem_singleton.2 ⟨a, rfl, hml ▸ mem_mutReach.2 ⟨qa, hqa, .inr (.inl rfl)⟩⟩ }

/-- The cells `ex` written: the quantity cell of the target (`to`, `rebase`), the target's Magnitude (`abse`,
    `rele`), one of the target's arrays (in-place array write), and none for every other operation. -/
theorem step_spec {h : Heap} (w : WF h) (op : Op) : ∃ ex, StepSpec h (target op) (step h op) ex := by
  -- branches of `step`: abse, rele (each on a live / dead quantity), poke (an array / a scalar / dead), then `compile`
  fun_cases step h op with
  | case1 a ml c hm => exact ⟨_, setErr_spec w hm false Bool.noConfusion⟩
  | case2 => exact ⟨_, .idle w _ (.inl rfl)⟩
  | case3 a ml c hm => exact ⟨_, setErr_spec w hm _ id⟩
  | case4 => exact ⟨_, .idle w _ (.inl rfl)⟩
  | case5 a err ml c hm l hf =>
    obtain ⟨qa, hqa, hml, hmc⟩ := magOf_some hm
    have ⟨t, ht⟩ := w.m_ok _ c (!err) l hmc hf
    have w' := (w.bump (Nat.le_succ _)).upd_a (Nat.lt_succ_of_lt (w.a_lt l t ht)) h.n
    have own := mem_mutReach.2 ⟨qa, hqa, .inr (.inr ⟨c, !err, l, hml ▸ hmc, hf, rfl⟩)⟩
    refine ⟨[.a l], { wf := w', frame := ?_, own := List.forall_mem_singleton.2 ⟨a, rfl, own⟩ }⟩
    exact .of_eq (Nat.le_succ _) (fun _ _ _ => rfl) (fun _ _ _ => rfl)
      (fun l' _ hx => upd_ne _ _ _ _ fun e => hx (List.mem_singleton.2 (congrArg Cell.a e)))
      (fun _ _ => rfl) (fun _ _ => rfl)
  | case6 => exact ⟨_, .idle w _ (.inr rfl)⟩
  | case7 => exact ⟨_, .idle w _ (.inl rfl)⟩
  | case8 op _ _ _ s hc => exact ⟨_, exec_spec w s (compile_valid w op s hc)⟩
  | case9 => exact ⟨_, .idle w _ (.inl rfl)⟩


theorem step_ok {h : Heap} (w : WF h) (op : Op) : StepOK h op (step h op).1 :=
  have ⟨_, sp⟩ := step_spec w op
  sp.ok w

theorem WF.run {h : Heap} (w : WF h) (ops : List Op) : WF (run h ops) := by
  induction ops generalizing h with
  | nil => exact w
  | cons op ops ih => exact ih (step_ok w op).wf

theorem run_stable {h : Heap} (w : WF h) {x : Loc} {qc : Qty} (hq : h.q x = some qc) (ops : List Op)
    (hnt : ∀ op ∈ ops, some x ≠ target op) : obs (run h ops) x = obs h x := by
  induction ops generalizing h with
  | nil => rfl
  | cons op ops ih =>
    have ⟨hop, hops⟩ := List.forall_mem_cons.1 hnt
    have ok := step_ok w op
    exact (ih ok.wf (ok.q_keep x qc hq hop) hops).trans (ok.stable x qc hq hop)

end SciVerif.C07
