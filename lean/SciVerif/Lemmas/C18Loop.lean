import SciVerif.Model.C18Str

/-!
String level (C18): the side conditions on a text (`Quiet`, `HitsOp`) and the two basic
moves of the tokenisation loop of `ExpressionSolver.solve` — shifting through a segment inside which
no operator symbol starts (`Stops.quiet`), and reading an operator symbol that is the first table
entry matching at its position (`Stops.sym`) — stated relative to what the loop does on the text
that follows (`Starts`, `Stops`).
-/
namespace SciVerif.C18

variable {Q : Type}

/-- symbol of the operator with key `k` (`[]` for a key the table does not have) -/
def symOf (table : List OpDef) (k : String) : List Char :=
  ((table.find? (fun d => d.key == k)).map (·.sym)).getD []

/-- the first operator (in dict order) whose symbol prefixes the text -/
def hits (table : List OpDef) (right : List Char) : Option OpDef :=
  table.find? (fun d => d.sym.isPrefixOf right)

/-- no table entry matches at any position inside `a` when `rest` follows: the loop shifts through
    `a` character by character -/
def Quiet (table : List OpDef) (a rest : List Char) : Prop :=
  ∀ u v, a = u ++ v → v ≠ [] → hits table (v ++ rest) = none

/-- at its position before `rest` the symbol of `k` is found as the entry of `k` itself (no earlier
    entry of the dict matches there), and that entry is not of parenthesis type -/
def HitsOp (table : List OpDef) (k : String) (rest : List Char) : Prop :=
  ∃ d, hits table (symOf table k ++ rest) = some d ∧ d.key = k ∧ d.sym = symOf table k ∧
    d.isPar = false ∧ d.sym ≠ []

/-- What the loop does with the pending text `expr.left` when it meets an operator symbol or the end
    of the text: blanks are dropped, anything else becomes an atom. -/
def flush (atom : List Char → Option Q) (left : List Char) (toks : Toks Q) : Option (Toks Q) :=
  if (strip left.reverse).isEmpty then some toks
  else (atom (strip left.reverse)).map fun q => toks ++ [.atom q]

theorem flush_atom {atom : List Char → Option Q} {a : List Char} {q : Q} (hne : strip a ≠ [])
    (ha : atom (strip a) = some q) (toks : Toks Q) :
    flush atom a.reverse toks = some (toks ++ [.atom q]) := by
  rw [flush, List.reverse_reverse, if_neg (by simpa using hne), ha]; rfl

section
variable (S : Sem Q) (table : List OpDef) (steps : List Step) (atom : List Char → Option Q) (fuel : Nat)

/-- With nothing pending and more iterations `m` than characters left, the loop on `rest` goes on as
    `K` (a function of the tokens so far).  In `solveStr.loop S table steps atom fuel m left right toks`
    `fuel` is what the enclosing `solveStr` has left for the recursive solves of arguments, `m` the
    iterations of this loop; `m` is only ever "enough", so no statement counts iterations. -/
def Starts (rest : List Char) (K : Toks Q → Option (Toks Q)) : Prop :=
  ∀ m toks, rest.length < m → solveStr.loop S table steps atom fuel m [] rest toks = K toks

/-- Arriving at `rest` with any pending text, the loop flushes it and goes on as `K`: the end of the
    text and every operator symbol are such places. -/
def Stops (rest : List Char) (K : Toks Q → Option (Toks Q)) : Prop :=
  ∀ m left toks, rest.length < m →
    solveStr.loop S table steps atom fuel m left rest toks = (flush atom left toks).bind K
end

section
variable {S : Sem Q} {table : List OpDef} {steps : List Step} {atom : List Char → Option Q} {fuel : Nat}
  {rest : List Char} {K : Toks Q → Option (Toks Q)}

theorem Stops.nil : Stops S table steps atom fuel [] some := by
  intro m left toks hm
  cases m with
  | zero => cases hm
  | succ n => rw [solveStr.loop]; cases h : flush atom left toks <;> exact h

theorem Stops.starts (hK : Stops S table steps atom fuel rest K) : Starts S table steps atom fuel rest K :=
  fun m toks hm => (hK m [] toks hm).trans rfl

theorem Stops.quiet {a : List Char} (h : Quiet table a rest) (hK : Stops S table steps atom fuel rest K) :
    ∀ m left toks, (a ++ rest).length < m →
      solveStr.loop S table steps atom fuel m left (a ++ rest) toks =
        (flush atom (a.reverse ++ left) toks).bind K := by
  induction a with
  | nil => exact hK
  | cons c a ih =>
    intro m left toks hm
    cases m with
    | zero => cases hm
    | succ n =>
      have h0 : hits table ((c :: a) ++ rest) = none := h [] (c :: a) rfl (List.cons_ne_nil _ _)
      rw [List.cons_append, solveStr.loop]
      simp only [hits, List.cons_append] at h0
      simp only [h0]
      rw [ih (fun u v e hv => h (c :: u) v (by rw [e]; rfl) hv) n (c :: left) toks
        (Nat.lt_of_succ_lt_succ hm), List.reverse_cons, List.append_assoc]
      rfl

theorem Starts.lit {a : List Char} {q : Q} (hne : strip a ≠ []) (ha : atom (strip a) = some q)
    (h : Quiet table a rest) (hK : Stops S table steps atom fuel rest K) :
    Starts S table steps atom fuel (a ++ rest) fun toks => K (toks ++ [.atom q]) := by
  intro m toks hm
  rw [hK.quiet h m [] toks hm, List.append_nil, flush_atom hne ha]; rfl

/-- what one iteration of `solveStr.loop` looks at when a table entry is found at the head of the text -/
theorem hits_sym {d : OpDef} {R : List Char} (hd : hits table (d.sym ++ R) = some d) (hne : d.sym ≠ []) :
    ∃ c cs, d.sym ++ R = c :: cs ∧ R.length ≤ cs.length ∧
      table.find? (fun d => d.sym.isPrefixOf (c :: cs)) = some d ∧ (c :: cs).drop d.sym.length = R := by
  cases hsym : d.sym with
  | nil => exact absurd hsym hne
  | cons c cs =>
    refine ⟨c, cs ++ R, rfl, by simp, ?_, ?_⟩
    · rw [hsym] at hd; exact hd
    · exact List.drop_left' (l₁ := c :: cs) (l₂ := R) rfl

theorem Stops.sym {k : String} (h : HitsOp table k rest) (hK : Starts S table steps atom fuel rest K) :
    Stops S table steps atom fuel (symOf table k ++ rest) fun t1 => K (t1 ++ [.op k]) := by
  intro m left toks hm
  obtain ⟨d, hd, hk, hs, hp, hne⟩ := h
  rw [← hs] at hd hm ⊢
  obtain ⟨c, cs, e, hl, hf, hdrop⟩ := hits_sym hd hne
  rw [e] at hm ⊢
  cases m with
  | zero => cases hm
  | succ n =>
    rw [solveStr.loop]
    simp only [hf, hp, hk, hdrop, Bool.false_eq_true, if_false,
      hK n _ (Nat.lt_of_le_of_lt hl (Nat.lt_of_succ_lt_succ hm))]
    cases h : flush atom left toks <;> simp only [flush] at h <;> simp only [h] <;> rfl

end

variable (table : List OpDef)

/-- Boolean check of `Quiet` -/
def quietB (a rest : List Char) : Bool :=
  (List.range a.length).all (fun i => (hits table (a.drop i ++ rest)).isNone)

theorem quietB_iff (a rest : List Char) : quietB table a rest = true ↔ Quiet table a rest := by
  rw [quietB, List.all_eq_true]
  constructor
  · intro h u v e hv
    have hlt : u.length < a.length := by
      rw [e, List.length_append]
      exact Nat.lt_add_of_pos_right (List.length_pos_iff.2 hv)
    have := h u.length (List.mem_range.mpr hlt)
    rw [show a.drop u.length = v by rw [e]; exact List.drop_left' rfl] at this
    exact Option.isNone_iff_eq_none.1 this
  · intro h i hi
    rw [h (a.take i) (a.drop i) (List.take_append_drop i a).symm
      fun e => absurd (List.drop_eq_nil_iff.1 e) (Nat.not_le_of_lt (List.mem_range.1 hi))]
    rfl

end SciVerif.C18
