import SciVerif.Lemmas.C01StepLoop

/-!
# C01, token level: the pass that finds an operator without its operand raises -- a binary operator after
  or before an expression (`trailing`, `leading`), a trailing sign (kept by the sign pass, applied to a
  stored `None` by the additive pass).
-/
namespace SciVerif.C01
open SciVerif.C01.Gen

variable {A : Type} (alg : AtomAlg A) (lit : List Char → A)

/-- `o.level ≠ 4`: `+` and `-` are picked up by the sign pass as well. -/
theorem tokB_pass (o : B2) (ho : o.level ≠ 4) :
    ∃ hk : o.level < passes.length, passes[o.level].2 = .binary ∧
      isInst dflt passes[o.level].1 (idxOf dflt o.name) = true ∧
      ∀ k (h : k < passes.length), k ≠ o.level → isInst dflt passes[k].1 (idxOf dflt o.name) = false := by
  obtain ⟨h2, h6, hk⟩ := o.level_range
  refine ⟨hk, pass_binary _ hk h2 h6, by rw [inst_binary]; simp, fun k h hne => ?_⟩
  rw [inst_binary]
  simp only [decide_eq_false_iff_not]
  omega

theorem step_binary_missing (P : List Nat) (o : B2) (l : List (Tok A)) (v : A)
    (hi : isInst dflt P (idxOf dflt o.name) = true) :
    step dflt alg P .binary ⟨.atom v :: l, [tokB o]⟩ = .error (⟨l, []⟩, "operand") := by
  obtain ⟨row, hr, hb⟩ := binary_rows o
  simp [step, tokB, hi, dispatch, hr, hb, runSimple, getLeft, getRight, runPuts, putTok, evalTm, tokAtom]

/-- A binary operator after an expression: the pass skips it, or, if it is the operator's own pass, raises for want
    of a right operand.  `hp` is what `pass_step .. [] .. [tokB o]` gives (`Moves` at that one `rest`, hence the `++ []`). -/
theorem trailing (P : List Nat) (ot : Otype) (k : Nat) (e : E) (o : B2)
    (hp : ∃ c, c ≤ (flat alg lit k e).length ∧
      StepsTo (step dflt alg P ot) c ⟨[], flat alg lit k e ++ [tokB o]⟩
        ⟨(flat alg lit (k + 1) e).reverse ++ [], [tokB o]⟩) :
    (isInst dflt P (idxOf dflt o.name) = false →
      operate dflt alg P ot ⟨[], flat alg lit k e ++ [tokB o]⟩
        = .ok ⟨[], flat alg lit (k + 1) e ++ [tokB o]⟩) ∧
    (isInst dflt P (idxOf dflt o.name) = true → ot = .binary →
      ∃ b, operate dflt alg P ot ⟨[], flat alg lit k e ++ [tokB o]⟩ = .error (b, "operand")) := by
  constructor
  · intro hi
    have := pass_framed alg lit P ot k e [] [tokB o] (fun t ht => by cases ht) (fun t ht => by
        simp only [List.mem_singleton] at ht; subst ht; exact hi) (by simpa using hp)
    simpa using this
  · intro hi hot
    subst hot
    obtain ⟨c, hc, st⟩ := hp
    obtain ⟨pre, v, hl⟩ := flat_last alg lit (k + 1) (by omega) e
    rw [hl] at st
    exact ⟨_, operate_error_after dflt alg P .binary _ _ _ _ c _ (by simp; omega) (by simpa using st)
      (step_binary_missing alg P o pre.reverse v hi)⟩

theorem step_binary_noleft (P : List Nat) (o : B2) (r : List (Tok A))
    (hi : isInst dflt P (idxOf dflt o.name) = true) :
    ∃ b, step dflt alg P .binary ⟨[], tokB o :: r⟩ = .error (b, "operand") := by
  obtain ⟨row, hr, hb⟩ := binary_rows o
  cases r with
  | nil =>
    exact ⟨⟨[], []⟩, by simp [step, tokB, hi, dispatch, hr, hb, runSimple, getLeft, getRight, runPuts,
      putTok, evalTm, tokAtom]⟩
  | cons x xs =>
    exact ⟨⟨[], xs⟩, by simp [step, tokB, hi, dispatch, hr, hb, runSimple, getLeft, getRight, runPuts,
      putTok, evalTm, tokAtom]⟩

/-- The same for a binary operator before an expression (`hp`: `pass_step .. [tokB o] .. []`); its own pass finds no
    left operand. -/
theorem leading (P : List Nat) (ot : Otype) (k : Nat) (e : E) (o : B2)
    (hp : ∃ c, c ≤ (flat alg lit k e).length ∧
      StepsTo (step dflt alg P ot) c ⟨[tokB o], flat alg lit k e ++ []⟩
        ⟨(flat alg lit (k + 1) e).reverse ++ [tokB o], []⟩) :
    (isInst dflt P (idxOf dflt o.name) = false →
      operate dflt alg P ot ⟨[], tokB o :: flat alg lit k e⟩
        = .ok ⟨[], tokB o :: flat alg lit (k + 1) e⟩) ∧
    (isInst dflt P (idxOf dflt o.name) = true → ot = .binary →
      ∃ b, operate dflt alg P ot ⟨[], tokB o :: flat alg lit k e⟩ = .error (b, "operand")) := by
  constructor
  · intro hi
    have := pass_framed alg lit P ot k e [tokB o] [] (fun t ht => by
        simp only [List.mem_singleton] at ht; subst ht; exact hi) (fun t ht => by cases ht)
      (by simpa using hp)
    simpa using this
  · intro hi hot
    subst hot
    obtain ⟨b, hb⟩ := step_binary_noleft alg P o (flat alg lit k e) hi
    exact ⟨b, operate_error_after dflt alg P .binary _ [] _ _ 0 _ (by omega) (StepsTo.refl _ _) hb⟩

theorem step_sign_binary_none (s : Bool) (l r : List (Tok A)) (v : A) :
    step dflt alg signOps .binary ⟨.atom v :: l, tokS s :: .none :: r⟩ = .error (⟨l, r⟩, "operand") := by
  cases s <;> rfl

theorem skipped_sign (s : Bool) (k : Nat) (hk : k < passes.length) (h1 : k ≠ 1) (h4 : k ≠ 4) :
    Skipped (A := A) dflt passes[k].1 (tokS s) := by
  show isInst dflt passes[k].1 (idxOf dflt (if s then "sub" else "add")) = false
  rw [inst_sign]
  simp [h1, h4]

/-- the sign pass on `flat 1 e ++ [±]`: the trailing sign finds an atom on its left and nothing on
    its right, stays as an operator and stores the `None` it fetched -/
theorem sign_pass_trailing (hn : NegNeg alg) (e : E) (hwf : e.WF) (s : Bool) :
    operate dflt alg signOps .unary ⟨[], flat alg lit 1 e ++ [tokS s]⟩
      = .ok ⟨[], flat alg lit 2 e ++ [tokS s, .none]⟩ := by
  obtain ⟨c, hc, st⟩ : ∃ c, c ≤ (flat alg lit 1 e).length ∧ StepsTo (step dflt alg signOps .unary) c
      ⟨[], flat alg lit 1 e ++ [tokS s]⟩ ⟨(flat alg lit 2 e).reverse ++ [], [tokS s]⟩ :=
    pass_step alg lit hn e hwf 1 (by decide) [] (fun _ _ => trivial) [tokS s]
  obtain ⟨pre, v, hl⟩ := flat_last alg lit 2 (by omega) e
  have s1 : StepsTo (step dflt alg signOps .unary) 1 ⟨(flat alg lit 2 e).reverse ++ [], [tokS s]⟩
      ⟨tokS s :: (flat alg lit 2 e).reverse, [.none]⟩ := by
    rw [hl]
    simpa using StepsTo.one (step_binary_sign alg s pre.reverse [] v)
  have s2 : StepsTo (step dflt alg signOps .unary) 1 ⟨tokS s :: (flat alg lit 2 e).reverse, [.none]⟩
      ⟨.none :: tokS s :: (flat alg lit 2 e).reverse, []⟩ := StepsTo.one rfl
  have := StepsTo.trans (StepsTo.trans st s1) s2
  exact operate_of_steps dflt alg signOps .unary _ _ (c + 1 + 1) (by simp; omega) (by simpa using this)

/-- the additive pass on `flat 4 e ++ [±, None]` applies the sign operator to the stored `None` -/
theorem additive_pass_none (hn : NegNeg alg) (e : E) (hwf : e.WF) (s : Bool) :
    ∃ b, operate dflt alg signOps .binary ⟨[], flat alg lit 4 e ++ [tokS s, .none]⟩
      = .error (b, "operand") := by
  obtain ⟨c, hc, st⟩ : ∃ c, c ≤ (flat alg lit 4 e).length ∧ StepsTo (step dflt alg signOps .binary) c
      ⟨[], flat alg lit 4 e ++ [tokS s, .none]⟩ ⟨(flat alg lit 5 e).reverse ++ [], [tokS s, .none]⟩ :=
    pass_step alg lit hn e hwf 4 (by decide) [] (fun h => absurd h (by decide)) [tokS s, .none]
  obtain ⟨pre, v, hl⟩ := flat_last alg lit 5 (by omega) e
  rw [hl] at st
  exact ⟨_, operate_error_after dflt alg signOps .binary _ _ _ _ c _ (by simp; omega) (by simpa using st)
    (step_sign_binary_none alg s pre.reverse [] v)⟩

end SciVerif.C01
