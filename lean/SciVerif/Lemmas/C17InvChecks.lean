import SciVerif.Lemmas.C17Abstraction

/-! Refinement (C17): the invariants `Inv` / `InvD` as computations (`invB` / `invDB`), sound and
    complete.  `Val` is a nested inductive without derived `DecidableEq`; equality of values is
    decided by the structural test `valEqB` / `valsEqB`. -/
namespace SciVerif.C17

mutual
def valEqB : Val → Val → Bool
  | .num a, .num b => decide (a = b)
  | .bool a, .bool b => decide (a = b)
  | .str a, .str b => decide (a = b)
  | .arr a, .arr b => valsEqB a b
  | _, _ => false
def valsEqB : List Val → List Val → Bool
  | [], [] => true
  | x :: t, y :: u => valEqB x y && valsEqB t u
  | _, _ => false
end

theorem valsEqB_iff_of {l : List Val} (ih : ∀ x ∈ l, ∀ y, valEqB x y = true ↔ x = y) :
    ∀ m, valsEqB l m = true ↔ l = m := by
  induction l with
  | nil => intro m; cases m <;> simp [valsEqB]
  | cons x t iht =>
    intro m
    cases m with
    | nil => simp [valsEqB]
    | cons y u => simp [valsEqB, ih x (by simp) y, iht (fun z hz => ih z (by simp [hz])) u]

theorem valEqB_iff (a : Val) : ∀ b, valEqB a b = true ↔ a = b := by
  induction a using val_ind with
  | ha l ih => intro b; cases b <;> simp [valEqB, valsEqB_iff_of ih]
  | _ => intro b; cases b <;> simp [valEqB]

theorem valsEqB_iff : ∀ a b : List Val, valsEqB a b = true ↔ a = b :=
  fun _ => valsEqB_iff_of (fun x _ => valEqB_iff x)

def confB (kw : Kw) (dims : List Dim) (v : Val) : Bool :=
  match conforms kw dims v with
  | none => false
  | some w => valEqB w v

theorem confB_iff (kw : Kw) (dims : List Dim) (v : Val) :
    confB kw dims v = true ↔ conforms kw dims v = some v := by
  unfold confB
  cases conforms kw dims v with
  | none => simp
  | some w => simp [valEqB_iff]

theorem intB_iff (kw : Kw) (unit : Option Str) :
    (decide (kw ≠ .int) || unit.isNone) = true ↔ (kw = .int → unit = none) := by
  by_cases hk : kw = .int <;> simp [hk]

def goodB (tbl : UnitTable) (n : Node) : Bool :=
  isTyped n.kw &&
  (match n.value with
   | none => false
   | some v => confB n.kw n.dims v) &&
  n.slice.isEmpty && unitOk tbl n.kw n.unitsRaw && (decide (n.kw ≠ .int) || n.unitsRaw.isNone)

/-- `goodB` and `goodDB` (and `Good`, `GoodD`) differ in the clause on the value only: with that clause `b` deciding
    `P`, the rest of the test decides the rest of the predicate -/
theorem good_shape_iff (tbl : UnitTable) (n : Node) {b : Bool} {P : Prop} (h : b = true ↔ P) :
    (isTyped n.kw && b && n.slice.isEmpty && unitOk tbl n.kw n.unitsRaw &&
      (decide (n.kw ≠ .int) || n.unitsRaw.isNone)) = true ↔
    isTyped n.kw = true ∧ P ∧ n.slice = [] ∧ unitOk tbl n.kw n.unitsRaw = true ∧ (n.kw = .int → n.unitsRaw = none) := by
  simp only [Bool.and_eq_true, h, intB_iff, List.isEmpty_iff, and_assoc]

theorem goodB_iff (tbl : UnitTable) (n : Node) : goodB tbl n = true ↔ Good tbl n :=
  good_shape_iff tbl n (by cases n.value <;> simp [confB_iff])

def goodDB (tbl : UnitTable) (n : Node) : Bool :=
  isTyped n.kw &&
  (match n.value with
   | none => true
   | some v => confB n.kw n.dims v) &&
  n.slice.isEmpty && unitOk tbl n.kw n.unitsRaw && (decide (n.kw ≠ .int) || n.unitsRaw.isNone)

theorem goodDB_iff (tbl : UnitTable) (n : Node) : goodDB tbl n = true ↔ GoodD tbl n :=
  good_shape_iff tbl n (by cases n.value <;> simp [confB_iff])

def invB (tbl : UnitTable) (env : Env) : Bool :=
  env.nodes.all (goodB tbl) && env.sources.all (fun s => s.2.all (goodB tbl))

theorem invB_iff (tbl : UnitTable) (env : Env) : invB tbl env = true ↔ Inv tbl env := by
  simp [invB, Inv, goodB_iff]

def invDB (tbl : UnitTable) (env : Env) : Bool :=
  env.nodes.all (goodDB tbl) && env.sources.all (fun s => s.2.all (goodB tbl))

theorem invDB_iff (tbl : UnitTable) (env : Env) : invDB tbl env = true ↔ InvD tbl env := by
  simp [invDB, InvD, goodDB_iff, goodB_iff]

end SciVerif.C17
