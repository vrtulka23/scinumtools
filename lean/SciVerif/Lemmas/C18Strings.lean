import SciVerif.Lemmas.C18Machine
import SciVerif.Lemmas.C18Loop
import SciVerif.Lemmas.C18ArgScan

/-!
String level with parentheses and functions (C18): the tokenisation loop, the argument scanner and
the recursive solves turn the text of a nested tree into the tree's token list.  The main induction
`loop_text` is in continuation form (`Starts`, `Stops` of `Lemmas/C18Loop.lean`): what the loop does on
`t.text ++ rest` in terms of what it does at `rest`; the fuel of the recursive solves is indexed by
the nesting depth, as for the C01 tokeniser.  Then: parenthesis-free texts (`E.Flat`, `E.flatText`,
`E.QuietIn`) as the trees of depth 0 (`T.ofFlat`, `solveStr_flat`), and the Boolean check `T.quietNB`
of the side conditions, which decides them exactly (`T.quietNB_iff`).
-/
namespace SciVerif.C18

variable {Q : Type}

/-- Text trees: like `E`, with the optional blanks written out.  An atom is its text with the blanks
    around it; a parenthesis-type node `f( … )` (`f = "par"` for plain parentheses) carries the
    blanks before the symbol, inside the parentheses around each argument and after `)`. -/
inductive T where
  | lit (a : List Char)
  | bin (o : String) (l r : T)
  | pre (u : String) (e : T)
  | par (f : String) (k1 i : Nat) (e : T) (j k2 : Nat)
  | par2 (f : String) (k1 i : Nat) (a : T) (j m1 : Nat) (b : T) (m2 k2 : Nat)

/-- `"par"` is the dict key of `OperatorPar` in the regenerated tables (plain parentheses); any other
    key of a one-argument node is a function. -/
def T.toE : T → E (List Char)
  | .lit a => .lit a
  | .bin o l r => .bin o l.toE r.toE
  | .pre u e => .pre u e.toE
  | .par f _ _ e _ _ => if f = "par" then .par e.toE else .fn1 f e.toE
  | .par2 f _ _ a _ _ b _ _ => .fn2 f a.toE b.toE

def T.text (table : List OpDef) : T → List Char
  | .lit a => a
  | .bin o l r => l.text table ++ (symOf table o ++ r.text table)
  | .pre u e => symOf table u ++ e.text table
  | .par f k1 i e j k2 =>
      blanks k1 ++ (symOf table f ++ (blanks i ++ (e.text table ++ (blanks j ++ (')' :: blanks k2)))))
  | .par2 f k1 i a j m1 b m2 k2 =>
      blanks k1 ++ (symOf table f ++ (blanks i ++ (a.text table ++ (blanks j ++ (',' ::
        (blanks m1 ++ (b.text table ++ (blanks m2 ++ (')' :: blanks k2)))))))))

def T.depth : T → Nat
  | .lit _ => 0
  | .bin _ l r => max l.depth r.depth
  | .pre _ e => e.depth
  | .par _ _ _ e _ _ => e.depth + 1
  | .par2 _ _ _ a _ _ b _ _ => max a.depth b.depth + 1

/-- as `HitsOp`, for an entry of parenthesis type with `narg` arguments -/
def HitsPar (table : List OpDef) (f : String) (narg : Nat) (rest : List Char) : Prop :=
  ∃ d, hits table (symOf table f ++ rest) = some d ∧ d.key = f ∧ d.sym = symOf table f ∧
    d.isPar = true ∧ d.narg = narg ∧ d.sym ≠ []

/-- side conditions, relative to the text that follows the tree (all decidable for a concrete text):
    no operator symbol starts inside an atom or a run of blanks, every symbol is the first match at
    its position, every argument is balanced and starts / ends with a non-blank character, and the
    same conditions hold for every argument read as a text of its own. -/
def T.QuietN (table : List OpDef) : T → List Char → Prop
  | .lit a, rest => strip a ≠ [] ∧ Quiet table a rest
  | .bin o l r, rest => HitsOp table o (r.text table ++ rest) ∧
      l.QuietN table (symOf table o ++ (r.text table ++ rest)) ∧ r.QuietN table rest
  | .pre u e, rest => HitsOp table u (e.text table ++ rest) ∧ e.QuietN table rest
  | .par f k1 i e j k2, rest =>
      Quiet table (blanks k1) (symOf table f ++ (blanks i ++ (e.text table ++ (blanks j ++ (')' :: (blanks k2 ++ rest)))))) ∧
      HitsPar table f 1 (blanks i ++ (e.text table ++ (blanks j ++ (')' :: (blanks k2 ++ rest))))) ∧
      Quiet table (blanks k2) rest ∧ Stripped (e.text table) ∧ nest (e.text table) 0 = some 0 ∧
      e.QuietN table []
  | .par2 f k1 i a j m1 b m2 k2, rest =>
      Quiet table (blanks k1) (symOf table f ++ (blanks i ++ (a.text table ++ (blanks j ++ (',' ::
        (blanks m1 ++ (b.text table ++ (blanks m2 ++ (')' :: (blanks k2 ++ rest)))))))))) ∧
      HitsPar table f 2 (blanks i ++ (a.text table ++ (blanks j ++ (',' ::
        (blanks m1 ++ (b.text table ++ (blanks m2 ++ (')' :: (blanks k2 ++ rest))))))))) ∧
      Quiet table (blanks k2) rest ∧ Stripped (a.text table) ∧ nest (a.text table) 0 = some 0 ∧
      Stripped (b.text table) ∧ nest (b.text table) 0 = some 0 ∧
      a.QuietN table [] ∧ b.QuietN table []

/-- the atom constructor accepts every atom; `atom` sees the stripped text, the valuation `av` is
    indexed by the atom's text with its blanks -/
def T.AtomsOK (atom : List Char → Option Q) (av : List Char → Q) : T → Prop
  | .lit a => atom (strip a) = some (av a)
  | .bin _ l r => l.AtomsOK atom av ∧ r.AtomsOK atom av
  | .pre _ e => e.AtomsOK atom av
  | .par _ _ _ e _ _ => e.AtomsOK atom av
  | .par2 _ _ _ a _ _ b _ _ => a.AtomsOK atom av ∧ b.AtomsOK atom av

/-- `List.Forall₂`, which core does not have -/
inductive AllSolved {α β : Type} (R : α → β → Prop) : List α → List β → Prop where
  | nil : AllSolved R [] []
  | cons {a b l m} : R a b → AllSolved R l m → AllSolved R (a :: l) (b :: m)

theorem mapM_allSolved {α β : Type} (R : α → β → Prop) (F : α → Option β) (l : List α) (m : List β)
    (h : AllSolved R l m) (hF : ∀ a q, R a q → F a = some q) : List.mapM F l = some m := by
  induction h with
  | nil => rfl
  | cons h _ ih => simp [List.mapM_cons, hF _ _ h, ih]

section
variable {S : Sem Q} {table : List OpDef} {steps : List Step} {atom : List Char → Option Q} {fuel : Nat}
  {rest : List Char} {K : Toks Q → Option (Toks Q)}

theorem flush_blanks (atom : List Char → Option Q) (k : Nat) (toks : Toks Q) :
    flush atom (blanks k).reverse toks = some toks := by
  rw [flush, List.reverse_reverse, strip_blanks]; rfl

/-- a run of blanks before a place where the loop flushes is dropped by that flush -/
theorem Starts.pad {k : Nat} (h : Quiet table (blanks k) rest) (hK : Stops S table steps atom fuel rest K) :
    Starts S table steps atom fuel (blanks k ++ rest) K := by
  intro m toks hm
  rw [hK.quiet h m [] toks hm, List.append_nil, flush_blanks]; rfl

/-- reading a parenthesis-type symbol: the pending text is flushed, the arguments are scanned and
    solved recursively, the operator token is appended and the loop goes on behind `)` -/
theorem Stops.parsym {f : String} {R right2 : List Char} {args : List (List Char)} {vals : List Q}
    (hscan : scanArgs (R.length + 1) 1 [] R [] = some (args, right2))
    (h : HitsPar table f args.length R)
    (hsolve : AllSolved (fun a q => solveStr S table steps atom fuel a = some (.atom q)) args vals)
    (hlen : right2.length ≤ R.length) (hK : Starts S table steps atom fuel right2 K) :
    Stops S table steps atom fuel (symOf table f ++ R) fun t1 => K (t1 ++ [.par f vals]) := by
  intro m left toks hm
  obtain ⟨d, hd, hk, hs, hp, hn, hne⟩ := h
  rw [← hs] at hd hm ⊢
  obtain ⟨c, cs, e, hl, hf, hdrop⟩ := hits_sym hd hne
  rw [e] at hm ⊢
  cases m with
  | zero => cases hm
  | succ n =>
    rw [solveStr.loop]
    simp only [hf, hp, hk, hdrop, if_true, hscan, hn, ne_eq, not_true_eq_false, if_false]
    rw [mapM_allSolved _ _ _ _ hsolve (by intro a q h; simp [h])]
    simp only [hK n _ (Nat.lt_of_le_of_lt (Nat.le_trans hlen hl) (Nat.lt_of_succ_lt_succ hm))]
    cases h : flush atom left toks <;> simp only [flush] at h <;> simp only [h] <;> rfl

/-- the `if f = "par"` of `T.toE`: either way the argument is well-formed and the node is one
    parenthesis-type token -/
theorem T.toE_par {G : Grammar} (f : String) (k1 i : Nat) (e : T) (j k2 : Nat)
    (hw : (T.par f k1 i e j k2).toE.WF G) :
    e.toE.WF G ∧ ∀ (sub : E (List Char) → Q) av,
      (T.par f k1 i e j k2).toE.toks sub av = [.par f [sub e.toE]] := by
  simp only [T.toE] at hw ⊢
  split at hw
  · rename_i h; subst h; exact ⟨hw, fun _ _ => rfl⟩
  · rename_i h; rw [if_neg h]; exact ⟨hw.2, fun _ _ => rfl⟩

variable {G : Grammar} {binSem : String → Q → Q → Q} {preSem : String → Q → Q} {av : List Char → Q}

/-- from the loop on a whole text to `solveStr`; `loop_text` uses it on the arguments of a node inside
    its own induction, at `rest := []` (hence `++ []`) -/
theorem solve_of_starts {t : T}
    (hL : Starts S table steps atom fuel (t.text table ++ []) fun toks =>
      some (toks ++ t.toE.toks (fun x => x.eval S binSem preSem av) av)) :
    solveStr S table steps atom (fuel + 1) (t.text table) =
      machine S (table.map (·.key)) steps (t.toE.toks (fun x => x.eval S binSem preSem av) av) := by
  rw [List.append_nil] at hL
  rw [solveStr, hL _ [] (Nat.lt_succ_self _)]
  rfl

variable (hm : Solves S binSem preSem av G (table.map (·.key)) steps)
include hm

/-- Main induction: reading the text of a tree, with nothing pending, up to the next place where
    the loop flushes appends the tree's tokens (the last atom by that flush).  An argument of a
    parenthesis-type node is solved as a text of its own, with one unit of fuel less, to the value
    the machine gives its tokens. -/
theorem loop_text (t : T) :
    ∀ fuel, t.depth ≤ fuel → ∀ (rest : List Char) (K : Toks Q → Option (Toks Q)),
      Stops S table steps atom fuel rest K →
      t.toE.WF G → t.QuietN table rest → t.AtomsOK atom av →
      Starts S table steps atom fuel (t.text table ++ rest) fun toks =>
        K (toks ++ t.toE.toks (fun x => x.eval S binSem preSem av) av) := by
  induction t with
  | lit a => exact fun fuel _ rest K hK _ hq ha => Starts.lit hq.1 ha hq.2 hK
  | pre u e ih =>
    intro fuel hdep rest K hK hw hq ha
    simpa only [T.text, T.toE, E.toks, List.append_assoc, List.cons_append, List.nil_append] using
      (Stops.sym hq.1 (ih fuel hdep rest K hK hw.2.2.2 hq.2 ha)).starts
  | bin o l r ihl ihr =>
    intro fuel hdep rest K hK hw hq ha
    simpa only [T.text, T.toE, E.toks, List.append_assoc, List.cons_append, List.nil_append] using
      ihl fuel (Nat.le_trans (Nat.le_max_left _ _) hdep) _ _
        (Stops.sym hq.1 (ihr fuel (Nat.le_trans (Nat.le_max_right _ _) hdep) rest K hK
          hw.2.2.2.2.2 hq.2.2 ha.2)) hw.2.2.2.2.1 hq.2.1 ha.1
  | par f k1 i e j k2 ih =>
    intro fuel hdep rest K hK hw hq ha
    obtain ⟨hq1, hhit, hq2, hstr, hnest, hqe⟩ := hq
    obtain ⟨hwe, htoks⟩ := T.toE_par (Q := Q) f k1 i e j k2 hw
    cases fuel with
    | zero => cases hdep
    | succ f' =>
      have hW := solve_of_starts (ih f' (Nat.le_of_succ_le_succ hdep) [] some Stops.nil hwe hqe ha)
      have hscan := ScansArgs.last i j (R := blanks k2 ++ rest) hstr hnest _ [] (Nat.lt_succ_self _)
      have := Starts.pad hq1 (Stops.parsym hscan hhit
        (.cons (hW.trans (hm _ hwe)) .nil) (by simp only [List.length_append, List.length_cons]; omega)
        (Starts.pad hq2 hK))
      rw [htoks]
      simpa only [T.text, List.append_assoc, List.cons_append, List.nil_append] using this
  | par2 f k1 i a j m1 b m2 k2 iha ihb =>
    intro fuel hdep rest K hK hw hq ha
    obtain ⟨hq1, hhit, hq2, hsa, hna, hsb, hnb, hqa, hqb⟩ := hq
    cases fuel with
    | zero => cases hdep
    | succ f' =>
      have hd := Nat.le_of_succ_le_succ hdep
      have hWa := solve_of_starts
        (iha f' (Nat.le_trans (Nat.le_max_left _ _) hd) [] some Stops.nil hw.2.1 hqa ha.1)
      have hWb := solve_of_starts
        (ihb f' (Nat.le_trans (Nat.le_max_right _ _) hd) [] some Stops.nil hw.2.2 hqb ha.2)
      have hscan := ScansArgs.cons i j hsa hna (ScansArgs.last m1 m2 (R := blanks k2 ++ rest) hsb hnb)
        _ [] (Nat.lt_succ_self _)
      have := Starts.pad hq1 (Stops.parsym hscan hhit
        (.cons (hWa.trans (hm _ hw.2.1)) (.cons (hWb.trans (hm _ hw.2.2)) .nil))
        (by simp only [List.length_append, List.length_cons]; omega) (Starts.pad hq2 hK))
      simpa only [T.text, T.toE, E.toks, List.append_assoc, List.cons_append, List.nil_append] using this

/-- String level for every table whose machine `Solves` well-formed trees (any fuel from the nesting
    depth on). -/
theorem solveStr_tree (t : T) (fuel : Nat) (hdep : t.depth ≤ fuel) (hw : t.toE.WF G)
    (hq : t.QuietN table []) (ha : t.AtomsOK atom av) :
    solveStr S table steps atom (fuel + 1) (t.text table) =
      some (.atom (t.toE.eval S binSem preSem av)) :=
  (solve_of_starts (loop_text hm t fuel hdep [] some Stops.nil hw hq ha)).trans (hm _ hw)

end

variable {S : Sem Q} (table : List OpDef) {steps : List Step} {atom : List Char → Option Q}

theorem T.depth_le_length (t : T) : t.depth ≤ (t.text table).length := by
  induction t with
  | lit a => exact Nat.zero_le _
  | bin o l r ihl ihr => simp only [T.depth, T.text, List.length_append]; omega
  | pre u e ih => simp only [T.depth, T.text, List.length_append]; omega
  | par f k1 i e j k2 ih => simp only [T.depth, T.text, List.length_append, List.length_cons]; omega
  | par2 f k1 i a j m1 b m2 k2 iha ihb =>
    simp only [T.depth, T.text, List.length_append, List.length_cons]; omega

/-! Parenthesis-free trees over `E` itself, with their text and side conditions: the lit / bin / pre
    arms of `T.text`, `T.QuietN`, `T.AtomsOK`. -/

def E.Flat : E (List Char) → Prop
  | .lit _ => True
  | .bin _ l r => l.Flat ∧ r.Flat
  | .pre _ e => e.Flat
  | _ => False

/-- Text of a flat tree; an atom is its text *with* the blanks around it (any number). -/
def E.flatText (table : List OpDef) : E (List Char) → List Char
  | .lit a => a
  | .bin o l r => l.flatText table ++ (symOf table o ++ r.flatText table)
  | .pre u e => symOf table u ++ e.flatText table
  | _ => []

/-- the side conditions of the flat theorem, relative to the text that follows the tree -/
def E.QuietIn (table : List OpDef) : E (List Char) → List Char → Prop
  | .lit a, rest => strip a ≠ [] ∧ Quiet table a rest
  | .bin o l r, rest => HitsOp table o (r.flatText table ++ rest) ∧
      l.QuietIn table (symOf table o ++ (r.flatText table ++ rest)) ∧ r.QuietIn table rest
  | .pre u e, rest => HitsOp table u (e.flatText table ++ rest) ∧ e.QuietIn table rest
  | _, _ => False

def E.AtomsOK (atom : List Char → Option Q) (av : List Char → Q) : E (List Char) → Prop
  | .lit a => atom (strip a) = some (av a)
  | .bin _ l r => l.AtomsOK atom av ∧ r.AtomsOK atom av
  | .pre _ e => e.AtomsOK atom av
  | _ => False

def T.ofFlat : E (List Char) → T
  | .lit a => .lit a
  | .bin o l r => .bin o (T.ofFlat l) (T.ofFlat r)
  | .pre u e => .pre u (T.ofFlat e)
  | _ => .lit []

theorem T.depth_ofFlat (e : E (List Char)) : (T.ofFlat e).depth = 0 := by
  induction e with
  | bin o l r ihl ihr => simp only [T.ofFlat, T.depth, ihl, ihr, Nat.max_self]
  | pre u e ih => exact ih
  | _ => rfl

theorem T.toE_ofFlat (e : E (List Char)) (hf : e.Flat) : (T.ofFlat e).toE = e := by
  induction e with
  | lit a => rfl
  | bin o l r ihl ihr => simp only [T.ofFlat, T.toE, ihl hf.1, ihr hf.2]
  | pre u e ih => simp only [T.ofFlat, T.toE, ih hf]
  | _ => exact hf.elim

theorem T.text_ofFlat (e : E (List Char)) : (T.ofFlat e).text table = e.flatText table := by
  induction e with
  | bin o l r ihl ihr => simp only [T.ofFlat, T.text, E.flatText, ihl, ihr]
  | pre u e ih => simp only [T.ofFlat, T.text, E.flatText, ih]
  | _ => rfl

/-- also for trees that are not flat: both sides are then false -/
theorem T.quietN_ofFlat (e : E (List Char)) :
    ∀ rest, (T.ofFlat e).QuietN table rest ↔ e.QuietIn table rest := by
  induction e with
  | lit a => exact fun _ => Iff.rfl
  | bin o l r ihl ihr =>
    intro rest
    simp only [T.ofFlat, T.QuietN, E.QuietIn, T.text_ofFlat, ihl, ihr]
  | pre u e ih =>
    intro rest
    simp only [T.ofFlat, T.QuietN, E.QuietIn, T.text_ofFlat, ih]
  | _ => exact fun _ => ⟨fun h => h.1 rfl, False.elim⟩

theorem T.atomsOK_ofFlat (av : List Char → Q) (e : E (List Char)) (ha : e.AtomsOK atom av) :
    (T.ofFlat e).AtomsOK atom av := by
  induction e with
  | lit a => exact ha
  | bin o l r ihl ihr => exact ⟨ihl ha.1, ihr ha.2⟩
  | pre u e ih => exact ih ha
  | _ => exact ha.elim

/-- The parenthesis-free case: the text of a flat tree is tokenised by the loop alone (no argument
    scanning, no recursive solve), so any fuel suffices. -/
theorem solveStr_flat {G : Grammar} {binSem : String → Q → Q → Q}
    {preSem : String → Q → Q} {av : List Char → Q}
    (hm : Solves S binSem preSem av G (table.map (·.key)) steps)
    (e : E (List Char)) (fuel : Nat) (hf : e.Flat) (hw : e.WF G) (hq : e.QuietIn table [])
    (ha : e.AtomsOK atom av) :
    solveStr S table steps atom (fuel + 1) (e.flatText table) =
      some (.atom (e.eval S binSem preSem av)) := by
  have h := solveStr_tree hm (T.ofFlat e) fuel
    (by rw [T.depth_ofFlat]; exact Nat.zero_le _) (by rw [T.toE_ofFlat e hf]; exact hw)
    ((T.quietN_ofFlat table e []).2 hq) (T.atomsOK_ofFlat av e ha)
  rwa [T.text_ofFlat table e, T.toE_ofFlat e hf] at h

def hitsOpB (k : String) (rest : List Char) : Bool :=
  match hits table (symOf table k ++ rest) with
  | some d => d.key == k && d.sym == symOf table k && !d.isPar && !d.sym.isEmpty
  | none => false

def hitsParB (f : String) (narg : Nat) (rest : List Char) : Bool :=
  match hits table (symOf table f ++ rest) with
  | some d => d.key == f && d.sym == symOf table f && d.isPar && d.narg == narg && !d.sym.isEmpty
  | none => false

def strippedB (c : List Char) : Bool :=
  (match c.head? with | some x => !isWs x | none => false) &&
  (match c.getLast? with | some y => !isWs y | none => false)

def T.quietNB : T → List Char → Bool
  | .lit a, rest => !(strip a).isEmpty && quietB table a rest
  | .bin o l r, rest => hitsOpB table o (r.text table ++ rest) &&
      l.quietNB (symOf table o ++ (r.text table ++ rest)) && r.quietNB rest
  | .pre u e, rest => hitsOpB table u (e.text table ++ rest) && e.quietNB rest
  | .par f k1 i e j k2, rest =>
      quietB table (blanks k1) (symOf table f ++ (blanks i ++ (e.text table ++ (blanks j ++ (')' :: (blanks k2 ++ rest)))))) &&
      hitsParB table f 1 (blanks i ++ (e.text table ++ (blanks j ++ (')' :: (blanks k2 ++ rest))))) &&
      quietB table (blanks k2) rest && strippedB (e.text table) && (nest (e.text table) 0 == some 0) &&
      e.quietNB []
  | .par2 f k1 i a j m1 b m2 k2, rest =>
      quietB table (blanks k1) (symOf table f ++ (blanks i ++ (a.text table ++ (blanks j ++ (',' ::
        (blanks m1 ++ (b.text table ++ (blanks m2 ++ (')' :: (blanks k2 ++ rest)))))))))) &&
      hitsParB table f 2 (blanks i ++ (a.text table ++ (blanks j ++ (',' ::
        (blanks m1 ++ (b.text table ++ (blanks m2 ++ (')' :: (blanks k2 ++ rest))))))))) &&
      quietB table (blanks k2) rest && strippedB (a.text table) && (nest (a.text table) 0 == some 0) &&
      strippedB (b.text table) && (nest (b.text table) 0 == some 0) &&
      a.quietNB [] && b.quietNB []

theorem hitsOpB_iff (k : String) (rest : List Char) : hitsOpB table k rest = true ↔ HitsOp table k rest := by
  unfold hitsOpB HitsOp
  split
  · rename_i d hd
    simp only [Bool.and_eq_true, beq_iff_eq, Bool.not_eq_true', List.isEmpty_eq_false_iff, and_assoc]
    exact ⟨fun h => ⟨d, hd, h⟩, fun ⟨d', e, h⟩ => by rw [hd] at e; cases e; exact h⟩
  · rename_i hn
    exact ⟨fun h => (by cases h), fun ⟨d, e, _⟩ => by rw [hn] at e; cases e⟩

theorem hitsParB_iff (f : String) (narg : Nat) (rest : List Char) :
    hitsParB table f narg rest = true ↔ HitsPar table f narg rest := by
  unfold hitsParB HitsPar
  split
  · rename_i d hd
    simp only [Bool.and_eq_true, beq_iff_eq, Bool.not_eq_true', List.isEmpty_eq_false_iff, and_assoc]
    exact ⟨fun h => ⟨d, hd, h⟩, fun ⟨d', e, h⟩ => by rw [hd] at e; cases e; exact h⟩
  · rename_i hn
    exact ⟨fun h => (by cases h), fun ⟨d, e, _⟩ => by rw [hn] at e; cases e⟩

theorem strippedB_iff (c : List Char) : strippedB c = true ↔ Stripped c := by
  unfold strippedB Stripped
  cases c.head? <;> cases c.getLast? <;> simp

/-- the Boolean check is exactly the side condition: checker and predicate have the same shape, and
    their leaves agree -/
theorem T.quietNB_iff (t : T) : ∀ rest, t.quietNB table rest = true ↔ t.QuietN table rest := by
  induction t <;> intro rest <;>
    simp only [T.quietNB, T.QuietN, Bool.and_eq_true, Bool.not_eq_true', List.isEmpty_eq_false_iff,
      quietB_iff, hitsOpB_iff, hitsParB_iff, strippedB_iff, beq_iff_eq, and_assoc, *]

theorem T.quietN_of_B (t : T) : ∀ rest, t.quietNB table rest = true → t.QuietN table rest :=
  fun rest => (T.quietNB_iff table t rest).1

end SciVerif.C18
