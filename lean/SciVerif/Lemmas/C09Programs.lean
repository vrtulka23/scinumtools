import SciVerif.Lemmas.C09Registration

/-!
Programs of C09: every program gives back the globals it started from, no `__exit__` raises, and a symbol
that resolved when the program started resolves at every `use` during the run.
-/
namespace SciVerif.C09

theorem resolves_iff {g : Globals} {s : Sym} :
    resolves g s = true ↔ s ∈ g.std.keys ∧ (C20.dget g.std.data s).isSome = true := by
  rw [resolves, Bool.and_eq_true, decide_eq_true_eq]

theorem resolves_ext {g g' : Globals} (h : Ext g g') (s : Sym) (hr : resolves g s = true) :
    resolves g' s = true := by
  rw [resolves_iff] at hr ⊢
  refine ⟨h.1 s hr.1, ?_⟩
  obtain ⟨v, hv⟩ := Option.isSome_iff_exists.mp hr.2
  rw [h.2 s v hv]; rfl

/-- What C09 asks of one event of a run started in `g`: `__exit__` did not raise, and a symbol
    that resolved in `g` resolved when used. -/
def okEv (g : Globals) : Ev → Prop
  | .exited ok _ => ok = true
  | .used s ok => resolves g s = true → ok = true
  | _ => True

theorem okEv_of_ext {g g' : Globals} (h : Ext g g') : ∀ ev, okEv g' ev → okEv g ev
  | .used s _, hev => fun hr => hev (resolves_ext h s hr)
  | .exited _ _, hev => hev
  | .entered _ _, _ => trivial
  | .raised, _ => trivial
  | .caught, _ => trivial

theorem run_restored (p : Prog) (g : Globals) (w : WF g) :
    (run p g).1 = g ∧ ∀ ev ∈ (run p g).2.2, okEv g ev := by
  -- branches of `run`: skip, raise, use, seq (left completed / not), scope (`__init__` raised / completed), attempt (twice)
  fun_induction run p g with
  | case1 g => exact ⟨rfl, fun _ h => nomatch h⟩
  | case2 g => exact ⟨rfl, fun ev h => List.mem_singleton.mp h ▸ trivial⟩
  | case3 s g => exact ⟨rfl, fun ev h => List.mem_singleton.mp h ▸ id⟩
  | case4 p q g g1 ev1 h1 g2 ok ev2 h2 ihp ihq =>
    obtain ⟨e1, k1⟩ := ihp w
    rw [h1] at e1 k1
    cases (e1 : g1 = g)
    obtain ⟨e2, k2⟩ := ihq w
    rw [h2] at e2 k2
    exact ⟨e2, List.forall_mem_append.mpr ⟨k1, k2⟩⟩
  | case5 p q g _ ih => exact ih w
  | case6 units body g g1 hi =>
    cases (init_spec w hi : g1 = g)
    exact ⟨rfl, fun ev h => List.mem_singleton.mp h ▸ trivial⟩
  | case7 units body g g1 e hi g2 ok ev2 hb g3 okc hc ih =>
    obtain ⟨ha, _⟩ := init_spec w hi
    -- the body gives back `g1`, where what `__init__` added is still in place
    obtain ⟨e2, k2⟩ := ih (ha.wf w)
    rw [hb] at e2 k2
    rw [show g2 = g1 from e2, close_added g g1 e w ha] at hc
    cases hc
    exact ⟨rfl, List.forall_mem_cons.mpr ⟨trivial, List.forall_mem_append.mpr
      ⟨fun ev h => okEv_of_ext ha.ext ev (k2 ev h), fun ev h => List.mem_singleton.mp h ▸ rfl⟩⟩⟩
  | case8 p g g1 ev h ih => have := ih w; rw [h] at this; exact this
  | case9 p g g1 ev h ih =>
    have := ih w
    rw [h] at this
    exact ⟨this.1, List.forall_mem_append.mpr ⟨this.2, fun ev h => List.mem_singleton.mp h ▸ trivial⟩⟩

end SciVerif.C09
