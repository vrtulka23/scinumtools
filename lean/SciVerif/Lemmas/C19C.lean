import SciVerif.Lemmas.C19Values
/-!
# C19 — C / C++ : declaration lines, `#define` lines and whole headers

The condition on a parameter is `ParamOKC`; the line theorem is `lineConst_read`, the header theorems are
`readC_exportC` and `readC_exportCpp`.
-/
namespace SciVerif.C19

/-- the two keywords of a declaration (`parse_const`, `parse_constexpr`) -/
def DeclKw (kw : Str) : Prop := kw = cs!"const" ∨ kw = cs!"constexpr"

def CBackend (backend : Str) : Prop := backend = bC ∨ backend = bCpp

theorem CBackend.mem {backend : Str} (hb : CBackend backend) : backend ∈ [bC, bCpp] ∧ backend ∈ [bC, bCpp, bRust] := by
  rcases hb with rfl | rfl <;> simp

theorem stripConst_kw (kw : Str) (hkw : DeclKw kw) (x : Str) :
    stripConst (kw ++ ([' '] ++ x)) = some x := by
  rcases hkw with rfl | rfl <;> rfl

theorem isDeclLine_kw (kw : Str) (hkw : DeclKw kw) (r : Str) :
    isDeclLine (kw ++ ([' '] ++ r)) = true := by
  rcases hkw with rfl | rfl <;> rfl

theorem dropPrefix_none_of_prefixFree : ∀ (a b rest : Str), dropPrefix? (a ++ [' ']) (b ++ [' ']) = none →
    dropPrefix? (b ++ [' ']) (a ++ [' ']) = none → dropPrefix? (a ++ [' ']) (b ++ ' ' :: rest) = none
  | [], [], _, h1, _ => by simp [dropPrefix?] at h1
  | [], y :: b, rest, h1, _ => by
    by_cases e : ' ' = y
    · subst e; simp [dropPrefix?] at h1
    · simp [dropPrefix?, e]
  | x :: a, [], rest, _, h2 => by
    by_cases e : x = ' '
    · subst e; simp [dropPrefix?] at h2
    · simp [dropPrefix?, e]
  | x :: a, y :: b, rest, h1, h2 => by
    by_cases e : x = y
    · subst e
      simp only [List.cons_append, dropPrefix?, if_true] at h1 h2 ⊢
      exact dropPrefix_none_of_prefixFree a b rest h1 h2
    · simp [dropPrefix?, e]

/-- `ts` is the part of the table still to be searched, `all` the whole table, on which prefix-freeness is stated -/
theorem matchType_of_prefixFree : ∀ (ts : List Str) (all : List Str),
    (∀ t1 ∈ all, ∀ t2 ∈ all, t1 ≠ t2 → dropPrefix? (t1 ++ [' ']) (t2 ++ [' ']) = none) →
    (∀ t ∈ ts, t ∈ all) → ∀ t ∈ ts, t ∈ all → ∀ rest,
    matchType ts (t ++ ' ' :: rest) = some (t, rest)
  | [], _, _, _, t, ht, _, _ => by cases ht
  | t' :: ts, all, hpf, hsub, t, ht, hta, rest => by
    have hta' := hsub t' List.mem_cons_self
    by_cases e : t' = t
    · subst e
      have : dropPrefix? (t' ++ [' ']) (t' ++ ' ' :: rest) = some rest := dropPrefix_append (t' ++ [' ']) rest ▸ by
        rw [List.append_assoc]; rfl
      rw [matchType, this]
    · rcases List.mem_cons.mp ht with h | h
      · exact absurd h.symm e
      · rw [matchType, dropPrefix_none_of_prefixFree t' t rest (hpf t' hta' t hta e) (hpf t hta t' hta' (Ne.symm e))]
        exact matchType_of_prefixFree ts all hpf (fun u hu => hsub u (List.mem_cons_of_mem _ hu)) t h hta rest
def bracketSeg (d : Nat) : Str := '[' :: showNat d ++ [']']

theorem shapeBrackets_eq : ∀ (sh : List Nat), sh ≠ [] → shapeBrackets sh = sh.flatMap bracketSeg
  | [], h => absurd rfl h
  | [d], _ => by simp [shapeBrackets, joinWith_singleton, bracketSeg]
  | d :: e :: sh, _ => by
    have ih := shapeBrackets_eq (e :: sh) (by simp)
    simp only [shapeBrackets, List.map_cons, joinWith_cons_cons] at ih ⊢
    simp only [List.flatMap_cons] at ih ⊢
    rw [← ih]
    simp [bracketSeg]

theorem parseDims_segs : ∀ (sh : List Nat) (fuel : Nat) (rest : Str), sh.length < fuel →
    (∀ r, rest ≠ '[' :: r) → parseDims fuel (sh.flatMap bracketSeg ++ rest) = some (sh, rest)
  | _, 0, _, hf, _ => nomatch hf
  | [], _ + 1, [], _, _ => rfl
  | [], _ + 1, x :: r, _, hr => by
    have : x ≠ '[' := fun e => hr r (by rw [e])
    simp [parseDims]
  | d :: sh, f + 1, rest, hf, hr => by
    have ih := parseDims_segs sh f rest (by simp at hf; omega) hr
    simp only [List.flatMap_cons, bracketSeg, List.cons_append, List.append_assoc, parseDims, List.nil_append,
      showNat_span]
    simp [readNat_showNat, ih]

theorem length_le_segs : ∀ sh : List Nat, sh.length ≤ (sh.flatMap bracketSeg).length
  | [] => by simp
  | d :: ds => by
    have := length_le_segs ds
    simp only [List.flatMap_cons, List.length_append, bracketSeg, List.length_cons]
    omega

theorem prefix_free : ∀ b ∈ [bC, bCpp], ∀ t1 ∈ targets b, ∀ t2 ∈ targets b,
    t1 ≠ t2 → dropPrefix? (t1 ++ [' ']) (t2 ++ [' ']) = none := by decide +kernel

theorem clean_bracketSegs (sh : List Nat) : clean (sh.flatMap bracketSeg) = true :=
  clean_flatMap _ (fun d => by rw [bracketSeg, clean_append, clean_cons, clean_showNat]; rfl) sh

/-- a `const` / `constexpr` declaration as `lineConst` writes it, pieces associated to the right -/
def constLine (kw dtype name : Str) (sh : List Nat) (value : Str) : Str :=
  kw ++ ([' '] ++ (dtype ++ ([' '] ++ (name ++ (sh.flatMap bracketSeg ++ (cs!" = " ++ (value ++ [';'])))))))

theorem lineConst_eq (backend kw : Str) (ren : Bool) (p : Param) (sh : List Nat) (hr : rectShape p.value = some sh)
    (h0 : 0 ∉ sh) :
    lineConst backend kw ren p = (lookupType backend p.kind p.bits).map fun dtype =>
      constLine kw dtype (rename ren p.name) sh (printVal styleC p.value) := by
  cases ht : lookupType backend p.kind p.bits with
  | none => simp only [lineConst, ht, Option.bind_eq_bind, Option.bind_none, Option.map_none]
  | some dtype =>
    simp only [lineConst, ht, shapeOf_of_rect p.value sh hr h0, Option.bind_eq_bind, Option.bind_some, constLine,
      Option.map_some]
    cases hia : p.value.isArr with
    | false =>
      obtain rfl := shape_nil_of_leaf p.value sh hr hia
      simp only [Bool.false_eq_true, if_false, List.flatMap_nil, List.append_assoc, List.nil_append]
    | true =>
      simp only [if_true, shapeBrackets_eq sh (shape_ne_nil_of_arr p.value sh hr hia), List.append_assoc]

theorem readConstLine_constLine (backend kw : Str) (hkw : DeclKw kw) (dtype name : Str)
    (sh : List Nat) (value : Str) (hmt : ∀ rest, matchType (targets backend) (dtype ++ ([' '] ++ rest)) = some (dtype, rest))
    (hn : ∀ ch ∈ name, ch ≠ '[' ∧ ch ≠ ' ') :
    readConstLine backend (constLine kw dtype name sh value) =
      readInit .backslash '{' '}' backend dtype name sh value := by
  have hspan : (name ++ (sh.flatMap bracketSeg ++ (cs!" = " ++ (value ++ [';'])))).span
      (fun c => decide (c ≠ '[' ∧ c ≠ ' ')) = (name, sh.flatMap bracketSeg ++ (cs!" = " ++ (value ++ [';']))) := by
    apply Util.span_append_headNot
    · exact fun ch hch => decide_eq_true (hn ch hch)
    · intro x r e
      cases sh <;> (cases e; rfl)
  have hdims : parseDims ((sh.flatMap bracketSeg ++ (cs!" = " ++ (value ++ [';']))).length + 1)
      (sh.flatMap bracketSeg ++ (cs!" = " ++ (value ++ [';']))) = some (sh, cs!" = " ++ (value ++ [';'])) := by
    apply parseDims_segs
    · have := length_le_segs sh
      simp only [List.length_append]
      omega
    · intro r e; cases e
  simp only [constLine, readConstLine, stripConst_kw kw hkw, hmt, Option.bind_eq_bind, Option.bind_some, hspan, hdims,
    dropPrefix_append, dropLastChar_snoc]

/-- `rd` stands for `readConstLine` itself or for `readLineC`, which first looks at the keyword -/
theorem lineConst_read (backend kw : Str) (hb : CBackend backend)
    (hkw : DeclKw kw) (ren : Bool) (p : Param) (sh : List Nat)
    (hn : ∀ ch ∈ rename ren p.name, ch ≠ '[' ∧ ch ≠ ' ')
    (hv : ValOK p.kind p.value) (hr : rectShape p.value = some sh) (h0 : 0 ∉ sh) (rd : Str → Option Sym)
    (hrd : ∀ dtype name sh value, rd (constLine kw dtype name sh value) =
      readConstLine backend (constLine kw dtype name sh value)) :
    (lineConst backend kw ren p).bind rd = expectedSym backend ren false p := by
  rw [lineConst_eq backend kw ren p sh hr h0]
  exact declLine_read backend hb.mem.2 styleC '{' '}' styleC_ok rfl rfl ren p sh hv hr h0 _ rd fun dtype ht => by
    obtain ⟨_, _, hmem, _⟩ := targetKind_of_lookup backend hb.mem.2 p.kind p.bits dtype ht
    rw [hrd]
    exact readConstLine_constLine backend kw hkw dtype _ sh _ (matchType_of_prefixFree (targets backend) (targets backend)
      (prefix_free backend hb.mem.1) (fun _ h => h) dtype hmem hmem) hn

/-- the value a preprocessor definition carries: booleans are written 1 / 0 -/
def macroScalar : Scalar → Scalar
  | .b v => .i (if v then 1 else 0)
  | s => s

theorem defineTok_bare (tok : Str) (hne : tok ≠ []) (h : ∀ ch ∈ tok, floatChar ch = true) :
    defineTok tok = match readInt tok with
      | some i => some (Scalar.i i)
      | none => some (Scalar.f tok) := by
  cases tok with
  | nil => exact absurd rfl hne
  | cons c cs =>
    have hc : c ≠ '"' := Util.ne_of_class (h c (by simp)) rfl
    have hall : (c :: cs).all floatChar = true := List.all_eq_true.mpr h
    unfold defineTok
    split
    · rename_i heq; simp at heq; exact absurd heq.1 hc
    · cases readInt (c :: cs) <;> simp [hall]

/-- the text `parse_define` writes after the macro name is `printScalar` at the Boolean words `1` / `0` -/
def styleDefine : Style := ⟨[], [], ['1'], ['0'], .backslash⟩

theorem lineDefine_eq (ren : Bool) (p : Param) (s : Scalar) (hleaf : p.value = .leaf s) :
    lineDefine ren p = some (cs!"#define " ++ (rename ren p.name ++ ([' '] ++ printScalar styleDefine s))) := by
  unfold lineDefine
  rw [hleaf]
  cases s <;> simp only [printScalar, styleDefine, List.append_assoc]

theorem defineTok_styleDefine (k : Kind) (s : Scalar) (hs : ScalarOK k s) (hf : ∀ t, s = .f t → readInt t = none) :
    defineTok (printScalar styleDefine s) = some (macroScalar s) := by
  cases s with
  | s v => exact congrArg (Option.map Scalar.s) (unquote_quote .backslash v)
  | b v => cases v <;> decide
  | i v => rw [printScalar, defineTok_bare _ (showInt_ne_nil v) (showInt_floatChars v), readInt_showInt]; rfl
  | f t => rw [printScalar, defineTok_bare _ hs.2.1 (fun ch hch => List.all_eq_true.mp hs.2.2 ch hch), hf t rfl]; rfl

theorem readDefineLine_eq (name tok : Str) (hn : ∀ ch ∈ name, ch ≠ ' ') :
    readDefineLine (cs!"#define " ++ (name ++ ([' '] ++ tok))) =
      (defineTok tok).map (fun v => ⟨name, macroDecl, [], false, .leaf v⟩) := by
  have hspan := span_stop_lit (fun c => decide (c ≠ ' ')) name ' ' [] tok
    (fun ch hch => decide_eq_true (hn ch hch)) rfl
  simp only [readDefineLine, dropPrefix_append, Option.bind_eq_bind, Option.bind_some, hspan]
  cases defineTok tok <;> rfl

/-- the last conjunct: a parameter in the `define` list is a scalar, and a float text among them is not also a decimal
    integer (`defineTok` classifies the token after the macro name by its form, integers first) -/
def ParamOKC (ren : Bool) (define : List Str) (p : Param) : Prop :=
  (∀ ch ∈ rename ren p.name, ch ≠ '[' ∧ ch ≠ ' ') ∧ clean (rename ren p.name) = true ∧
  ValOK p.kind p.value ∧ NoNL p.value ∧ (∃ sh, rectShape p.value = some sh ∧ 0 ∉ sh) ∧
  (define.contains p.name = true → ∃ s, p.value = .leaf s ∧ ∀ t, s = .f t → readInt t = none)

/-- the line `ExportConfigC.parse` / `ExportConfigCPP.parse` writes for one parameter -/
def lineOfC (backend kw : Str) (ren : Bool) (define : List Str) (p : Param) : Option Str :=
  if define.contains p.name then lineDefine ren p else lineConst backend kw ren p

theorem expectedSym_macro (backend : Str) (ren : Bool) (define : List Str) (p : Param) (s : Scalar)
    (hd : p.name ∈ define) (hleaf : p.value = .leaf s) :
    expectedSym backend ren true (macroParam define p) =
      some ⟨rename ren p.name, macroDecl, [], false, .leaf (macroScalar s)⟩ := by
  cases s <;> simp [expectedSym, macroParam, hd, hleaf, shapeOf, macroScalar]

theorem readLineC_lineOfC (backend kw : Str) (hb : CBackend backend)
    (hkw : DeclKw kw) (ren : Bool) (define : List Str) (p : Param)
    (hok : ParamOKC ren define p) :
    (lineOfC backend kw ren define p).bind (readLineC backend) =
      expectedSym backend ren (define.contains p.name) (macroParam define p) := by
  obtain ⟨hn, _, hv, _, ⟨sh, hr, h0⟩, hdef⟩ := hok
  cases hd : define.contains p.name with
  | false =>
    have hmp : macroParam define p = p := by simp only [macroParam, hd, Bool.false_eq_true, if_false]
    rw [hmp, lineOfC, hd, if_neg Bool.false_ne_true]
    exact lineConst_read backend kw hb hkw ren p sh hn hv hr h0 _
      (fun _ _ _ _ => by rw [readLineC, constLine, isDeclLine_kw kw hkw, if_pos rfl])
  | true =>
    obtain ⟨s, hleaf, hf⟩ := hdef hd
    have hs : ScalarOK p.kind s := by rw [hleaf] at hv; exact hv
    rw [expectedSym_macro backend ren define p s (List.contains_iff_mem.mp hd) hleaf, lineOfC, hd, if_pos rfl,
      lineDefine_eq ren p s hleaf, Option.bind_some]
    have hnd : isDeclLine (cs!"#define " ++ (rename ren p.name ++ ([' '] ++ printScalar styleDefine s))) = false := rfl
    rw [readLineC, hnd, if_neg Bool.false_ne_true, readDefineLine_eq _ _ (fun ch hch => (hn ch hch).2),
      defineTok_styleDefine p.kind s hs hf]
    rfl

theorem readBodyC_lines (backend endline : Str) : ∀ body : List Str, (∀ l ∈ body, l ≠ []) →
    readBodyC backend endline (body ++ [[], endline]) = body.mapM (readLineC backend)
  | [], _ => by simp [readBodyC]
  | l :: ls, h => by
    have hl : l ≠ [] := h l (by simp)
    have ih := readBodyC_lines backend endline ls (fun x hx => h x (by simp [hx]))
    simp only [List.cons_append, readBodyC, hl, if_false, ih, List.mapM_cons, Option.bind_eq_bind, Option.pure_def]

theorem stripInclude_body (endline : Str) (he : endline ≠ []) : ∀ body : List Str,
    (∀ l ∈ body, l ≠ [] ∧ l ≠ includeLine) →
    stripInclude (body ++ [[], endline]) = body ++ [[], endline]
  | [], _ => by simp [stripInclude, he]
  | [l], h => by
    have := (h l (by simp)).2
    simp [stripInclude, this]
  | l :: m :: ls, h => by
    have := (h m (by simp)).1
    simp [stripInclude, this]

/-- a line of the header's body: a line that is not the include line -/
def BodyLine (l : Str) : Prop := Line l ∧ l ≠ includeLine

theorem readC_headerWrap (backend guard : Str) (inc : Bool) (body : List Str) (hg : clean guard = true)
    (hbody : ∀ l ∈ body, BodyLine l) :
    readC backend guard (headerWrap guard inc body) = body.mapM (readLineC backend) := by
  have hb : body.all clean = true := List.all_eq_true.mpr fun l hl => (hbody l hl).1.1
  have hlines : lines (headerWrap guard inc body) = (cs!"#ifndef " ++ guard) :: (cs!"#define " ++ guard) :: [] ::
      ((if inc then [includeLine, []] else []) ++ body ++ [[], cs!"#endif /* " ++ guard ++ cs!" */"]) :=
    lines_joinWith_all _ (List.cons_ne_nil _ _) (by
      simp only [List.all_append, List.all_cons, List.all_nil, clean_append, hg, hb, Bool.and_true]
      cases inc <;> rfl)
  have hstrip : stripInclude ((if inc then [includeLine, []] else []) ++ body ++
      [[], cs!"#endif /* " ++ guard ++ cs!" */"]) = body ++ [[], cs!"#endif /* " ++ guard ++ cs!" */"] := by
    cases inc
    · exact stripInclude_body _ (List.append_ne_nil_of_left_ne_nil (List.append_ne_nil_of_left_ne_nil
        (List.cons_ne_nil _ _) _) _) body (fun l hl => ⟨(hbody l hl).1.2, (hbody l hl).2⟩)
    · rfl
  rw [readC, hlines]
  simp only [and_self, if_true, Option.bind_eq_bind, Option.bind_some, hstrip]
  exact readBodyC_lines backend _ body (fun l hl => (hbody l hl).1.2)

theorem constLine_body (kw dtype name : Str) (sh : List Nat) (value : Str) (hkw : DeclKw kw)
    (hd : clean dtype = true) (hn : clean name = true) (hv : clean value = true) :
    BodyLine (constLine kw dtype name sh value) := by
  rcases hkw with rfl | rfl <;>
    exact ⟨⟨by simp only [constLine, clean_append, hd, hn, hv, clean_bracketSegs]; rfl, nofun⟩,
      fun e => absurd (List.cons.inj e).1 (by decide)⟩

theorem defineLine_body (name tok : Str) (hn : clean name = true) (ht : clean tok = true) :
    BodyLine (cs!"#define " ++ (name ++ ([' '] ++ tok))) :=
  ⟨⟨by simp only [clean_append, hn, ht]; rfl, nofun⟩, fun e => absurd (List.cons.inj (List.cons.inj e).2).1 (by decide)⟩

theorem lineOfC_body (backend kw : Str) (hb : CBackend backend)
    (hkw : DeclKw kw) (ren : Bool) (define : List Str) (p : Param)
    (hok : ParamOKC ren define p) (l : Str) (h : lineOfC backend kw ren define p = some l) :
    BodyLine l := by
  obtain ⟨_, hn, hv, hnl, ⟨sh, hr, h0⟩, hdef⟩ := hok
  unfold lineOfC at h
  cases hd : define.contains p.name with
  | true =>
    obtain ⟨s, hleaf, _⟩ := hdef hd
    rw [hleaf] at hv hnl
    rw [hd, if_pos rfl, lineDefine_eq ren p s hleaf, Option.some.injEq] at h
    exact h ▸ defineLine_body _ _ hn (printScalar_clean styleDefine rfl rfl p.kind s hv hnl)
  | false =>
    rw [hd, if_neg Bool.false_ne_true] at h
    rw [lineConst_eq backend kw ren p sh hr h0] at h
    obtain ⟨dtype, ht, rfl⟩ := Option.map_eq_some_iff.mp h
    obtain ⟨n, _, _, hdt, _⟩ := targetKind_of_lookup backend hb.mem.2 p.kind p.bits dtype ht
    exact constLine_body kw dtype _ sh _ hkw hdt hn
      (printVal_clean styleC (by decide) (by decide) (by decide) (by decide) p.kind p.value hv hnl)

theorem macroParam_name (define : List Str) (p : Param) : (macroParam define p).name = p.name := by
  unfold macroParam
  split
  · split <;> rfl
  · rfl

theorem readC_export (backend : Str) (hb : CBackend backend) (ren : Bool) (define : List Str)
    (guard : Str) (hg : clean guard = true) (inc : Bool) (data : List Param)
    (line : Param → Option Str)
    (hline : ∀ p ∈ data, ∃ kw, DeclKw kw ∧ line p = lineOfC backend kw ren define p)
    (hok : ∀ p ∈ data, ParamOKC ren define p) :
    ((data.mapM line).bind fun body => some (headerWrap guard inc body)).bind (readC backend guard) =
      expected backend ren define (data.map (macroParam define)) := by
  have hexp : expected backend ren define (data.map (macroParam define)) =
      data.mapM (fun p => expectedSym backend ren (define.contains p.name) (macroParam define p)) := by
    unfold expected
    simp only [List.mapM_map, Function.comp_def, macroParam_name]
  rw [hexp]
  refine readFramed line (readLineC backend) _ data (fun p hp => ?_) _ _ (fun body hbody => ?_)
  · obtain ⟨kw, hkw, hl⟩ := hline p hp
    rw [hl]
    exact readLineC_lineOfC backend kw hb hkw ren define p (hok p hp)
  · refine readC_headerWrap backend guard inc body hg (fun l hl => ?_)
    obtain ⟨p, hp, hlp⟩ := hbody l hl
    obtain ⟨kw, hkw, hl2⟩ := hline p hp
    rw [hl2] at hlp
    exact lineOfC_body backend kw hb hkw ren define p (hok p hp) l hlp

theorem readC_exportC (o : COpts) (data : List Param) (hg : clean o.guard = true)
    (hok : ∀ p ∈ data, ParamOKC o.rename o.define p) :
    (exportC o data).bind (readC bC o.guard) = expected bC o.rename o.define (data.map (macroParam o.define)) :=
  readC_export bC (Or.inl rfl) o.rename o.define o.guard hg _ data _ (fun _ _ => ⟨cs!"const", Or.inl rfl, rfl⟩) hok

theorem readC_exportCpp (o : COpts) (data : List Param) (hg : clean o.guard = true)
    (hok : ∀ p ∈ data, ParamOKC o.rename o.define p) :
    (exportCpp o data).bind (readC bCpp o.guard) =
      expected bCpp o.rename o.define (data.map (macroParam o.define)) :=
  readC_export bCpp (Or.inr rfl) o.rename o.define o.guard hg false data _
    (fun p _ => ⟨if o.const.contains p.name then cs!"const" else cs!"constexpr", by split <;> simp [DeclKw], by
      unfold lineOfC
      split
      · rfl
      · split <;> rfl⟩) hok

end SciVerif.C19
