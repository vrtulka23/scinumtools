import SciVerif.Lemmas.C16
import Mathlib.Algebra.Order.Field.Basic

/-!
C16 over an ordered field.  The primitives made concrete: the tolerant equality
`np.isclose(a, b, rtol, atol)` = `|a − b| ≤ atol + rtol·|b|` (`NumberType.__eq__`, which is what
`option.value == self.value` in `validate_options` runs) and the linear conversion
`v · k_src / k_dst` of `NumberType.convert` between two units of one dimension.  The driver
(`Drive/C16.lean`) evaluates the same two formulas in `Float`; here they are the exact ones.
Then the `!condition` of the shape `{?} <op> literal [unit]`: the model functions `ltA`, `cmpWith`,
`condNum` (Model/C16.lean) read with the exact arithmetic `fieldArith`.
-/
-- The definitional lemmas (`iscloseK_def`, `fieldPrim_conv`, `convK_lin`, …) do not use the order
-- axioms but are stated over the same three classes as everything in Props/C16.lean.
set_option linter.unusedSectionVars false
namespace SciVerif.C16

variable {K : Type} [Field K] [LinearOrder K] [IsStrictOrderedRing K]

def fieldArith : Arith K :=
  ⟨fun a b => a - b, fun a b => a + b, fun a b => a * b, fun a b => a / b, fun a => |a|,
   fun a b => decide (a ≤ b)⟩

abbrev LinUnitK (K : Type) := LinUnit K (List Int)

def iscloseK (atol rtol a b : K) : Bool := iscloseA fieldArith atol rtol a b

def convK (tbl : String → Option (LinUnitK K)) : Option String → Option String → K → Option K :=
  convA fieldArith tbl

def fieldPrim (tbl : String → Option (LinUnitK K)) (atol rtol : K) : Prim K :=
  arithPrim fieldArith tbl atol rtol

theorem fieldPrim_conv (tbl : String → Option (LinUnitK K)) (atol rtol : K) :
    (fieldPrim tbl atol rtol).conv = convK tbl := rfl
theorem fieldPrim_isclose (tbl : String → Option (LinUnitK K)) (atol rtol : K) :
    (fieldPrim tbl atol rtol).isclose = iscloseK atol rtol := rfl

theorem iscloseK_def (atol rtol a b : K) :
    iscloseK atol rtol a b = decide (|a - b| ≤ atol + rtol * |b|) := rfl

/-- the tolerance of `np.isclose` around the right operand -/
def tolK (atol rtol y : K) : K := atol + rtol * |y|

theorem tolK_nonneg (atol rtol y : K) (ha : 0 ≤ atol) (hr : 0 ≤ rtol) : 0 ≤ tolK atol rtol y :=
  add_nonneg ha (mul_nonneg hr (abs_nonneg y))

/- A value lies in its own band.  Mathlib's `sub_le_self` and `le_add_of_nonneg_right`, restated over
   the three classes because each direct use of a lemma that mixes order and arithmetic is slow to
   check (the instance paths of `+`, `-`, `≤` are unified again). -/
theorem sub_tol_le {x t : K} (h : 0 ≤ t) : x - t ≤ x := sub_le_self x h

theorem le_add_tol {x t : K} (h : 0 ≤ t) : x ≤ x + t := le_add_of_nonneg_right h

theorem iscloseK_iff (atol rtol a b : K) :
    iscloseK atol rtol a b = true ↔ b - tolK atol rtol b ≤ a ∧ a ≤ b + tolK atol rtol b := by
  rw [iscloseK_def, decide_eq_true_iff, abs_sub_le_iff, sub_le_iff_le_add', sub_le_comm, and_comm]
  exact Iff.rfl

theorem iscloseK_refl (atol rtol a : K) (ha : 0 ≤ atol) (hr : 0 ≤ rtol) :
    iscloseK atol rtol a a = true :=
  have ht := tolK_nonneg atol rtol a ha hr
  (iscloseK_iff atol rtol a a).mpr ⟨sub_tol_le ht, le_add_tol ht⟩

theorem iscloseK_far (atol rtol a b : K) (h : atol + rtol * |b| < |a - b|) :
    iscloseK atol rtol a b = false := by
  rw [iscloseK_def, decide_eq_false_iff_not]
  exact not_le.mpr h

theorem tolK_nonneg_of_isclose {atol rtol a b : K} (h : iscloseK atol rtol a b = true) :
    0 ≤ tolK atol rtol b :=
  (abs_nonneg (a - b)).trans (decide_eq_true_iff.mp h)

theorem convK_same (tbl : String → Option (LinUnitK K)) (s : String) (v : K) :
    convK tbl (some s) (some s) v = some v :=
  if_pos rfl

theorem convK_id (tbl : String → Option (LinUnitK K)) (u ux : Option String) (v : K)
    (h : u = none ∨ ux = none ∨ u = ux) : convK tbl u ux v = some v := by
  cases u with
  | none => rfl
  | some s =>
    cases ux with
    | none => rfl
    | some d =>
      rcases h with h | h | h
      · cases h
      · cases h
      · cases h; exact convK_same tbl s v

theorem convK_lin (tbl : String → Option (LinUnitK K)) (s d : String) (x y : LinUnitK K) (v : K)
    (h : s ≠ d) (hx : tbl s = some x) (hy : tbl d = some y) (hd : x.dims = y.dims) :
    convK tbl (some s) (some d) v = some (v * x.k / y.k) :=
  (convA_of_rows fieldArith tbl v h hx hy).trans (if_pos hd)

/-- a value `o` in unit `s` denoting the same quantity as `x` in unit `d` converts to `x` -/
theorem convK_same_quantity (tbl : String → Option (LinUnitK K)) {s d : String} {xs yd : LinUnitK K}
    {o x : K} (hx : tbl s = some xs) (hy : tbl d = some yd) (hd : xs.dims = yd.dims) (hk : yd.k ≠ 0)
    (hq : x * yd.k = o * xs.k) : convK tbl (some s) (some d) o = some x := by
  by_cases hsd : s = d
  · subst hsd
    rw [hx] at hy; cases hy
    rw [← mul_right_cancel₀ hk hq]
    exact convK_same tbl s x
  · rw [convK_lin tbl s d xs yd o hsd hx hy hd, ← hq, mul_div_cancel_right₀ x hk]

theorem convK_other_dim (tbl : String → Option (LinUnitK K)) (s d : String) (x y : LinUnitK K) (v : K)
    (hx : tbl s = some x) (hy : tbl d = some y) (hd : x.dims ≠ y.dims) :
    convK tbl (some s) (some d) v = none := by
  have h : s ≠ d := by
    rintro rfl
    rw [hx] at hy
    cases hy
    exact hd rfl
  exact (convA_of_rows fieldArith tbl v h hx hy).trans (if_neg hd)

def ltK (a b : K) : Bool := ltA fieldArith a b

theorem ltK_iff (a b : K) : ltK a b = true ↔ a < b := by
  simp only [ltK, ltA, fieldArith, Bool.and_eq_true, Bool.not_eq_true', decide_eq_true_eq,
    decide_eq_false_iff_not, not_le]
  exact and_iff_right_of_imp le_of_lt

def condK (tbl : String → Option (LinUnitK K)) (atol rtol : K) (c : SimpleCond K) (x : K)
    (ux : Option String) : Option Bool :=
  condNum (fieldPrim tbl atol rtol) ltK c x ux

def cmpK (atol rtol : K) : CmpOp → K → K → Bool := cmpWith (iscloseK atol rtol) ltK

theorem condK_of_conv (tbl : String → Option (LinUnitK K)) (atol rtol : K) (c : SimpleCond K) (x y : K)
    (ux : Option String) (h : convK tbl c.unit ux c.lit = some y) :
    condK tbl atol rtol c x ux = some (cmpK atol rtol c.op x y) :=
  congrArg (Option.map fun y => cmpK atol rtol c.op x y) h

theorem condK_of_conv_none (tbl : String → Option (LinUnitK K)) (atol rtol : K) (c : SimpleCond K) (x : K)
    (ux : Option String) (h : convK tbl c.unit ux c.lit = none) :
    condK tbl atol rtol c x ux = none :=
  congrArg (Option.map fun y => cmpK atol rtol c.op x y) h

/-! Closed forms of the six comparisons.  `<`, `>`, `==`, `!=` and the forms of `<=`, `>=` with an
    explicit `0 ≤ tol` hold for all tolerances, also negative ones. -/

theorem cmpK_lt (atol rtol x y : K) : cmpK atol rtol .lt x y = true ↔ x < y :=
  ltK_iff x y

theorem cmpK_gt (atol rtol x y : K) : cmpK atol rtol .gt x y = true ↔ y < x :=
  ltK_iff y x

theorem cmpK_eq (atol rtol x y : K) :
    cmpK atol rtol .eq x y = true ↔ y - tolK atol rtol y ≤ x ∧ x ≤ y + tolK atol rtol y :=
  iscloseK_iff atol rtol x y

theorem cmpK_ne (atol rtol x y : K) :
    cmpK atol rtol .ne x y = true ↔ x < y - tolK atol rtol y ∨ y + tolK atol rtol y < x := by
  show (!iscloseK atol rtol x y) = true ↔ _
  rw [Bool.not_eq_true', ← Bool.not_eq_true, iscloseK_iff, not_and_or, not_le, not_le]

theorem cmpK_le_iff (atol rtol x y : K) :
    cmpK atol rtol .le x y = true ↔ x < y ∨ (0 ≤ tolK atol rtol y ∧ x ≤ y + tolK atol rtol y) := by
  show (ltK x y || iscloseK atol rtol x y) = true ↔ _
  rw [Bool.or_eq_true, ltK_iff]
  constructor
  · rintro (h | h)
    · exact Or.inl h
    · exact Or.inr ⟨tolK_nonneg_of_isclose h, ((iscloseK_iff ..).mp h).2⟩
  · rw [iscloseK_iff]
    rintro (h | ⟨h0, h2⟩)
    · exact Or.inl h
    · exact (lt_or_ge x y).imp_right fun h => ⟨(sub_tol_le h0).trans h, h2⟩

theorem cmpK_ge_iff (atol rtol x y : K) :
    cmpK atol rtol .ge x y = true ↔ y < x ∨ (0 ≤ tolK atol rtol y ∧ y - tolK atol rtol y ≤ x) := by
  show (ltK y x || iscloseK atol rtol x y) = true ↔ _
  rw [Bool.or_eq_true, ltK_iff]
  constructor
  · rintro (h | h)
    · exact Or.inl h
    · exact Or.inr ⟨tolK_nonneg_of_isclose h, ((iscloseK_iff ..).mp h).1⟩
  · rw [iscloseK_iff]
    rintro (h | ⟨h0, h1⟩)
    · exact Or.inl h
    · exact (lt_or_ge y x).imp_right fun h => ⟨h1, h.trans (le_add_tol h0)⟩

theorem cmpK_le_of_nonneg (atol rtol x y : K) (ha : 0 ≤ atol) (hr : 0 ≤ rtol) :
    cmpK atol rtol .le x y = true ↔ x ≤ y + tolK atol rtol y := by
  have ht := tolK_nonneg atol rtol y ha hr
  rw [cmpK_le_iff]
  exact ⟨fun h => h.elim (fun h => h.le.trans (le_add_tol ht)) And.right,
    fun h => Or.inr ⟨ht, h⟩⟩

theorem cmpK_ge_of_nonneg (atol rtol x y : K) (ha : 0 ≤ atol) (hr : 0 ≤ rtol) :
    cmpK atol rtol .ge x y = true ↔ y - tolK atol rtol y ≤ x := by
  have ht := tolK_nonneg atol rtol y ha hr
  rw [cmpK_ge_iff]
  exact ⟨fun h => h.elim (fun h => (sub_tol_le ht).trans h.le) And.right,
    fun h => Or.inr ⟨ht, h⟩⟩

theorem cmpK_anti (atol rtol : K) {op : CmpOp} (hop : op = .lt ∨ op = .le) {x x' : K} (y : K)
    (hle : x' ≤ x) (h : cmpK atol rtol op x y = true) : cmpK atol rtol op x' y = true := by
  rcases hop with rfl | rfl
  · exact (cmpK_lt ..).mpr (lt_of_le_of_lt hle ((cmpK_lt ..).mp h))
  · exact (cmpK_le_iff ..).mpr
      (((cmpK_le_iff ..).mp h).imp (lt_of_le_of_lt hle) (And.imp_right (le_trans hle)))

theorem cmpK_mono (atol rtol : K) {op : CmpOp} (hop : op = .gt ∨ op = .ge) {x x' : K} (y : K)
    (hle : x ≤ x') (h : cmpK atol rtol op x y = true) : cmpK atol rtol op x' y = true := by
  rcases hop with rfl | rfl
  · exact (cmpK_gt ..).mpr (lt_of_lt_of_le ((cmpK_gt ..).mp h) hle)
  · exact (cmpK_ge_iff ..).mpr
      (((cmpK_ge_iff ..).mp h).imp (fun h => lt_of_lt_of_le h hle) (And.imp_right fun h => h.trans hle))

/-- the set of final values `x` a comparison with the prepared right operand `y` lets pass,
    written with plain order relations (for non-negative tolerances, see `cmpK_accepts`) -/
def condAccepts (atol rtol : K) : CmpOp → K → K → Prop
  | .eq, x, y => y - tolK atol rtol y ≤ x ∧ x ≤ y + tolK atol rtol y
  | .ne, x, y => x < y - tolK atol rtol y ∨ y + tolK atol rtol y < x
  | .lt, x, y => x < y
  | .gt, x, y => y < x
  | .le, x, y => x ≤ y + tolK atol rtol y
  | .ge, x, y => y - tolK atol rtol y ≤ x

theorem cmpK_accepts (atol rtol : K) (ha : 0 ≤ atol) (hr : 0 ≤ rtol) (op : CmpOp) (x y : K) :
    cmpK atol rtol op x y = true ↔ condAccepts atol rtol op x y := by
  cases op
  · exact cmpK_eq atol rtol x y
  · exact cmpK_ne atol rtol x y
  · exact cmpK_lt atol rtol x y
  · exact cmpK_gt atol rtol x y
  · exact cmpK_le_of_nonneg atol rtol x y ha hr
  · exact cmpK_ge_of_nonneg atol rtol x y ha hr

theorem condAccepts_self (atol rtol x : K) (ht : 0 ≤ tolK atol rtol x) (op : CmpOp) :
    condAccepts atol rtol op x x ↔ op = .le ∨ op = .ge ∨ op = .eq := by
  have h1 : x - tolK atol rtol x ≤ x := sub_tol_le ht
  have h2 : x ≤ x + tolK atol rtol x := le_add_tol ht
  cases op
  · exact iff_of_true ⟨h1, h2⟩ (Or.inr (Or.inr rfl))
  · exact iff_of_false (fun h => h.elim (not_lt.mpr h1) (not_lt.mpr h2)) (by decide)
  · exact iff_of_false (lt_irrefl x) (by decide)
  · exact iff_of_false (lt_irrefl x) (by decide)
  · exact iff_of_true h2 (Or.inl rfl)
  · exact iff_of_true h1 (Or.inr (Or.inl rfl))

end SciVerif.C16
