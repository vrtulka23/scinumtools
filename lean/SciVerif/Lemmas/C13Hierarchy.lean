import SciVerif.Model.C13Spec
import SciVerif.Lemmas.Util.MapM
import SciVerif.Lemmas.Util.Join
/-!
The hierarchy lemmas for C13: the stack kept by `HierarchyList.register` is the chain of "previous smaller
indentation" lines.  Before them, what links the group to the shared library: `joinWith` / `splitOn` are its
`join` / `split`.
-/
namespace SciVerif.C13
open SciVerif.Util

theorem joinWith_eq (sep : Str) : ∀ l, joinWith sep l = join sep l
  | [] => rfl
  | [_] => rfl
  | a :: b :: t => by rw [joinWith, joinWith_eq sep (b :: t)]; rfl

theorem splitOn_eq (c : Char) : ∀ s, splitOn c s = split c s
  | [] => rfl
  | x :: xs => by
    rw [splitOn, split, splitOn_eq c xs]
    by_cases h : x = c
    · simp [h]
    · simp only [beq_iff_eq, h, if_false]; cases split c xs <;> rfl

theorem mapM_ok_map {α β γ : Type} (f : β → R γ) (g : α → β) (h : α → γ) (l : List α)
    (hf : ∀ x ∈ l, f (g x) = .ok (h x)) : (l.map g).mapM f = .ok (l.map h) := by
  rw [List.mapM_map]
  exact mapM_eq_pure hf

/-- popping the entries at indentation ≥ `d` from the ancestor chain of a deeper line leaves the ancestor chain of `d` -/
theorem dropWhile_anc (d : Nat) : ∀ (rest : List (Nat × Str)) (m : Nat), d ≤ m →
    (anc m rest).dropWhile (fun p => decide (d ≤ p.1)) = anc d rest := by
  intro rest
  induction rest with
  | nil => intro m _; simp [anc]
  | cons a r ih =>
    intro m hm
    obtain ⟨e, n⟩ := a
    by_cases h1 : e < m
    · by_cases h2 : e < d
      · have : ¬ d ≤ e := by omega
        simp [anc, h1, h2, this]
      · have h3 : d ≤ e := by omega
        simp only [anc, h1, h2, if_true, if_false, List.dropWhile_cons, h3, decide_true]
        exact ih e h3
    · have h2 : ¬ e < d := by omega
      simp only [anc, h1, h2, if_false]
      exact ih m hm

/-- the state of the parent stack after a sequence of name-bearing lines -/
def stackAfter : List (Nat × Str) → Stack
  | [] => []
  | x :: earlier => x :: anc x.1 earlier

/-- `earlier` is latest-first -/
theorem push_stackAfter (earlier : List (Nat × Str)) (d : Nat) (nm : Str) :
    push (stackAfter earlier) d nm = stackAfter ((d, nm) :: earlier) := by
  cases earlier with
  | nil => simp [push, stackAfter, anc]
  | cons x r =>
    obtain ⟨e, n⟩ := x
    simp only [push, stackAfter]
    congr 1
    by_cases h : e < d
    · have : ¬ d ≤ e := by omega
      simp [anc, h, this]
    · have h3 : d ≤ e := by omega
      simp only [anc, h, if_false, List.dropWhile_cons, h3, decide_true, if_true]
      exact dropWhile_anc d r e h3

/-- `register` called for a whole sequence of lines, in text order -/
def registerAll : Stack → List (Nat × Str) → Stack
  | st, [] => st
  | st, (d, nm) :: t => registerAll (push st d nm) t

theorem registerAll_stackAfter (earlier ls : List (Nat × Str)) :
    registerAll (stackAfter earlier) ls = stackAfter (ls.reverse ++ earlier) := by
  induction ls generalizing earlier with
  | nil => simp [registerAll]
  | cons a t ih =>
    obtain ⟨d, nm⟩ := a
    simp only [registerAll, push_stackAfter, ih, List.reverse_cons, List.append_assoc,
      List.singleton_append]

theorem anc_sorted (m : Nat) (rest : List (Nat × Str)) :
    (anc m rest).Pairwise (fun a b => b.1 < a.1) ∧ ∀ a ∈ anc m rest, a.1 < m := by
  fun_induction anc m rest with
  | case1 => exact ⟨.nil, fun _ h => (nomatch h)⟩
  | case2 m e n r h ih =>
    refine ⟨List.pairwise_cons.mpr ⟨ih.2, ih.1⟩, fun a ha => ?_⟩
    rcases List.mem_cons.mp ha with rfl | ha
    · exact h
    · exact Nat.lt_trans (ih.2 a ha) h
  | case3 m e n r h ih => exact ih

theorem anc_eq_iterate_parent (m : Nat) (earlier : List (Nat × Str)) :
    anc m earlier =
      match earlier.dropWhile (fun p => !decide (p.1 < m)) with
      | [] => []
      | p :: rest => p :: anc p.1 rest := by
  induction earlier with
  | nil => simp [anc]
  | cons x r ih =>
    obtain ⟨e, n⟩ := x
    by_cases h : e < m
    · simp [anc, h]
    · simp only [anc, h, if_false, List.dropWhile_cons, decide_false, Bool.not_false, if_true]
      exact ih

theorem parent?_eq_head (m : Nat) (earlier : List (Nat × Str)) :
    parent? m earlier = (anc m earlier).head? := by
  induction earlier with
  | nil => simp [parent?, anc]
  | cons x r ih =>
    obtain ⟨e, n⟩ := x
    by_cases h : e < m
    · simp [parent?, anc, h]
    · simp only [parent?, anc, h, if_false, List.find?_cons, decide_false]
      exact ih

end SciVerif.C13
