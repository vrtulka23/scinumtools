import SciVerif.Lemmas.C10Chains

/-! C10: parentheses are end markers for the species pattern — `matchP`, pass 1 and pass 2 treat
    a `(` or `)` exactly like the end of the text; pass 1 as a counted sequence of single
    substitutions (`StepsTo`) across separators; the pieces of passes 3 and 4 around a group. -/
namespace SciVerif.C10
open Util

def Mark (e : Char) : Prop := e = '(' ∨ e = ')'

/-- a parenthesis or a blank: the characters at which a match of the species pattern ends as at
    the end of the text -/
def EndC (e : Char) : Prop := e = '(' ∨ e = ')' ∨ e = ' '

theorem Mark.endc {e : Char} (h : Mark e) : EndC e := by
  rcases h with rfl | rfl
  · exact Or.inl rfl
  · exact Or.inr (Or.inl rfl)

theorem span_mark {p : Char → Bool} (l s : Str) (e : Char) (hp : p e = false) (a b : Str)
    (h : l.span p = (a, b)) : (l ++ e :: s).span p = (a, b ++ e :: s) := by
  rw [span_append_stop l s hp, h]

theorem matchBrace_mark (r s : Str) (e : Char) (he : EndC e) :
    matchBrace (r ++ e :: s) = ((matchBrace r).1, (matchBrace r).2 ++ e :: s) := by
  have hP : (isDig e || e == '+' || e == '-') = false := by rcases he with rfl | rfl | rfl <;> decide
  have he1 : e ≠ '{' := by rcases he with rfl | rfl | rfl <;> decide
  have he2 : (e == '}') = false := by rcases he with rfl | rfl | rfl <;> decide
  -- the cases of `matchBrace r`: 1, 2 `{body}` with an empty / non-empty body; 3 `{` not closed; 4 no `{`
  fun_cases matchBrace r with
  | case1 r' body tail hb hsp =>
    rw [List.cons_append, matchBrace_closed _ body _ (span_mark r' s e hP body _ hsp), if_pos hb]
  | case2 r' body tail hb hsp =>
    rw [List.cons_append, matchBrace_closed _ body _ (span_mark r' s e hP body _ hsp), if_neg hb]; rfl
  | case3 r' body r1 hsp hcl =>
    have h1' : HeadNot (· == '}') (r1 ++ e :: s) := by
      cases r1 with
      | nil => exact .cons (a := e) he2 _
      | cons d t => exact .cons (a := d) (by simpa using fun e' => hcl t (by rw [e'])) _
    rw [List.cons_append, matchBrace_open _ body _ (span_mark r' s e hP body r1 hsp) h1']
  | case4 r hne =>
    cases r with
    | nil => exact matchBrace_cons_ne e s he1
    | cons c r' => rw [List.cons_append, matchBrace_cons_ne c _ (fun h => hne r' (by rw [h]))]

/-- the match `q` with `x` appended to its rest -/
def mpExt (q : MP) (x : Str) : MP := (q.1, q.2.1, q.2.2.1, q.2.2.2.1, q.2.2.2.2 ++ x)

theorem mark_facts (e : Char) (he : Mark e) :
    Inert e ∧ isLow e = false ∧ isDig e = false ∧ isWs e = false ∧ e ≠ ']' := by
  rcases he with rfl | rfl <;> decide

theorem endc_facts (e : Char) (he : EndC e) :
    Inert e ∧ isLow e = false ∧ isDig e = false ∧ e ≠ ']' := by
  rcases he with rfl | rfl | rfl <;> decide

theorem tailP_mark (k : Nat) (sym r s : Str) (e : Char) (he : EndC e) :
    tailP k sym (r ++ e :: s) = (tailP k sym r).map (mpExt · (e :: s)) := by
  obtain ⟨_, _, hd, _⟩ := endc_facts e he
  cases hsp : (matchBrace r).2.span isDig with
  | mk dg r2 =>
    simp only [tailP, Option.map_some, mpExt, matchBrace_mark r s e he,
      span_mark (matchBrace r).2 s e hd dg r2 hsp, hsp]

theorem matchP_mark (w s : Str) (e : Char) (he : EndC e) :
    matchP (w ++ e :: s) = (matchP w).map (mpExt · (e :: s)) := by
  obtain ⟨hin, hlow, hd, hrb⟩ := endc_facts e he
  cases w with
  | nil =>
    rw [List.nil_append, matchP_none e s hin]
    rfl
  | cons c r =>
    by_cases hu : isUp c = true
    · rw [List.cons_append, matchP_eq_tail c _ hu, matchP_eq_tail c r hu, ← List.cons_append,
        takeWhile_append_stop (c :: r) s hin.1, dropWhile_append_stop (c :: r) s hin.1]
      generalize List.takeWhile isUp (c :: r) = tk
      cases List.dropWhile isUp (c :: r) with
      | nil =>
        simp only [List.nil_append, hlow, Bool.false_eq_true, if_false]
        exact tailP_mark _ _ [] s e he
      | cons l r' =>
        simp only [List.cons_append]
        split
        · exact tailP_mark _ _ r' s e he
        · exact tailP_mark _ _ (l :: r') s e he
    · by_cases hb : c = '['
      · subst hb
        by_cases hn : ∃ x r', r = x :: ']' :: r' ∧ (x == 'p' || x == 'n' || x == 'e') = true
        · obtain ⟨x, r', rfl, hx⟩ := hn
          rw [List.cons_append, List.cons_append, List.cons_append, matchP_nuc x _ hx, matchP_nuc x r' hx]
          exact tailP_mark _ _ r' s e he
        · -- `x]` with a nucleon letter `x` cannot come from the end character
          rw [matchP_lb_none r hn, List.cons_append, matchP_lb_none]
          · rfl
          · rintro ⟨x, r', heq, hx⟩
            match r, heq with
            | [], heq =>
              rw [← (List.cons.inj heq).1] at hx
              rcases he with rfl | rfl | rfl <;> cases hx
            | [a], heq => exact hrb (List.cons.inj (List.cons.inj heq).2).1
            | a :: b :: t, heq =>
              obtain ⟨rfl, h2⟩ := List.cons.inj heq
              exact hn ⟨a, t, by rw [(List.cons.inj h2).1], hx⟩
      · have hi : Inert c := ⟨by simpa using hu, hb⟩
        simp [matchP_none c _ hi]


theorem matchP_k (w : Str) (q : MP) (h : matchP w = some q) : q.1 ≤ w.length := by
  cases w with
  | nil => simp [matchP] at h
  | cons c r =>
    by_cases hu : isUp c = true
    · rw [matchP_eq_tail c r hu] at h
      have hl : (List.takeWhile isUp (c :: r)).length ≤ (c :: r).length := (List.takeWhile_sublist isUp).length_le
      repeat' split at h
      all_goals (cases h; exact hl)
    · by_cases hb : c = '['
      · subst hb
        rw [matchP_lb] at h
        repeat' split at h
        all_goals first | (cases h; exact Nat.zero_le _) | cases h
      · rw [matchP_none c r ⟨by simpa using hu, hb⟩] at h; cases h

theorem pass4_copy (w x : Str) (hw : ∀ c ∈ w, c ≠ ')') :
    ∀ fuel, pass4 (w.length + fuel) (w ++ x) = w ++ pass4 fuel x := by
  induction w with
  | nil => intro fuel; simp
  | cons c t ih =>
    intro fuel
    have hc := hw c List.mem_cons_self
    have e : (c :: t).length + fuel = (t.length + fuel) + 1 := by simp only [List.length_cons]; omega
    rw [e]
    simp [pass4, hc, ih (List.forall_mem_cons.mp hw).2 fuel]

theorem pass4_nil (n : Nat) : pass4 n [] = [] := by cases n <;> rfl

theorem pass4_close (dg : Str) (hd : AllDig dg) (n : Nat) :
    pass4 (n + 1) (')' :: dg) = ')' :: mulTxt dg := by
  have := pass4_rparen n dg [] [] [] hd (List.forall_mem_nil _) (List.forall_mem_nil _) (.nil) (.nil) (.nil)
  rw [pass4_nil] at this
  simpa only [List.append_nil, List.nil_append, List.isEmpty_nil, if_true] using this

/-- one parenthesised parenthesis-free group, without or with a count: `(OH)`, `(OH)2`, `(C2 H5 O)12` -/
def F.group1 : F → Prop
  | .group g => g.flat
  | .count (.group g) _ => g.flat
  | _ => False


/-- `w` reaches the pass-1 fixed point `w'` in exactly `n` single substitutions -/
def StepsTo : Nat → Str → Str → Prop
  | 0, w, w' => w = w' ∧ pass1Step w = none
  | n + 1, w, w' => ∃ x, pass1Step w = some x ∧ StepsTo n x w'

theorem pass1_of_steps (n : Nat) : ∀ (w w' : Str) (fuel : Nat), StepsTo n w w' → n ≤ fuel → pass1 fuel w = w' := by
  induction n with
  | zero =>
    intro w w' fuel h _
    obtain ⟨rfl, hn⟩ := h
    exact pass1_of_N1 w hn fuel
  | succ n ih =>
    intro w w' fuel h hf
    obtain ⟨x, hx, hs⟩ := h
    obtain ⟨f, rfl⟩ := Nat.exists_eq_add_of_le' (Nat.le_trans (Nat.le_add_left 1 n) hf)
    simp only [pass1, hx]
    exact ih x w' f hs (Nat.le_of_succ_le_succ hf)

theorem steps_chain (n : Nat) : ∀ (it : Item) (r : Rest), it.OK → restOK r → unres r = n →
    StepsTo n (chainText it r) (chainText it (allPlus r)) := by
  induction n with
  | zero =>
    intro it r hok hr hn
    obtain ⟨o, he, hres, _⟩ := pass1Step_res r it hok hr
    cases o with
    | none => exact ⟨by rw [allPlus_of_unres r hn], he⟩
    | some r' => have := (hres r' rfl).spec.2; omega
  | succ n ih =>
    intro it r hok hr hn
    obtain ⟨o, he, hres, hnone⟩ := pass1Step_res r it hok hr
    cases o with
    | none => have := hnone rfl; omega
    | some r' =>
      obtain ⟨ha, hu⟩ := (hres r' rfl).spec
      exact ⟨_, he, ha ▸ ih it r' hok ((hres r' rfl).ok hr) (by omega)⟩

/-- A context `f` that single substitutions pass through (`pass1Step (f x)` is `pass1Step x` inside `f`) carries
    whole runs. -/
theorem steps_map (f : Str → Str) (hf : ∀ x, pass1Step (f x) = (pass1Step x).map f) (m : Nat) :
    ∀ (s t : Str), StepsTo m s t → StepsTo m (f s) (f t) := by
  induction m with
  | zero =>
    intro s t h
    obtain ⟨rfl, hn⟩ := h
    exact ⟨rfl, by rw [hf, hn]; rfl⟩
  | succ m ih =>
    intro s t h
    obtain ⟨x, hx, hs⟩ := h
    exact ⟨f x, by rw [hf, hx]; rfl, ih x t hs⟩

/-- a separator: blanks and one parenthesis, or at least one blank and `+` -/
def Sep (q : Str) : Prop :=
  ∃ bl e, q = bl ++ [e] ∧ (∀ c ∈ bl, c = ' ') ∧ (Mark e ∨ (e = '+' ∧ bl ≠ []))

theorem sep_e_facts (e : Char) (he : Mark e ∨ e = '+') : Inert e ∧ isWs e = false := by
  rcases he with he | rfl
  · exact ⟨(mark_facts e he).1, (mark_facts e he).2.2.2.1⟩
  · decide

theorem sep_inert (q : Str) (hq : Sep q) : ∀ c ∈ q, Inert c := by
  obtain ⟨bl, e, rfl, hbl, he⟩ := hq
  exact List.forall_mem_append.mpr ⟨fun c h => by rw [hbl c h]; decide,
    List.forall_mem_singleton.mpr (sep_e_facts e (he.imp id (·.1))).1⟩

theorem sep_head (q s : Str) (hq : Sep q) : ∃ x X, q ++ s = x :: X ∧ EndC x := by
  obtain ⟨bl, e, rfl, hbl, he⟩ := hq
  cases bl with
  | nil =>
    rcases he with he | ⟨_, hne⟩
    · exact ⟨e, s, rfl, he.endc⟩
    · exact absurd rfl hne
  | cons b t => exact ⟨b, t ++ [e] ++ s, by simp, by rw [hbl b (by simp)]; exact Or.inr (Or.inr rfl)⟩

theorem startsP_sep (q s : Str) (hq : Sep q) : startsP ((q ++ s).dropWhile isWs) = false := by
  obtain ⟨bl, e, rfl, hbl, he⟩ := hq
  have h := sep_e_facts e (he.imp id (·.1))
  rw [List.append_assoc]
  exact startsP_blanks_inert bl e s (fun c hc => by rw [hbl c hc]; decide) h.1 h.2

theorem pass1At_sep (w q s : Str) (hq : Sep q) :
    pass1At (w ++ (q ++ s)) = (pass1At w).map (· ++ (q ++ s)) := by
  obtain ⟨x, X, hX, hx⟩ := sep_head q s hq
  have hmp : ∀ u : Str, matchP (u ++ (q ++ s)) = (matchP u).map (mpExt · (q ++ s)) := by
    intro u; rw [hX]; exact matchP_mark u X x hx
  cases hm : matchP w with
  | none => rw [pass1At_of_none hm, pass1At_of_none (by rw [hmp, hm]; rfl)]; rfl
  | some qq =>
    obtain ⟨k, sym, br, dg, rest⟩ := qq
    have hk : k - 1 ≤ w.length := Nat.le_trans (Nat.sub_le k 1) (matchP_k w _ hm)
    -- the second match of `P\s*P` starts in what is left of `w` or not at all
    have hst : startsP ((rest ++ (q ++ s)).dropWhile isWs) = startsP (rest.dropWhile isWs) ∧
        (startsP (rest.dropWhile isWs) = true →
          (rest ++ (q ++ s)).dropWhile isWs = rest.dropWhile isWs ++ (q ++ s)) := by
      rw [List.dropWhile_append]
      simp only [List.isEmpty_iff]
      by_cases hd : rest.dropWhile isWs = []
      · rw [hd, if_pos rfl, startsP_sep q s hq]
        exact ⟨rfl, fun h => nomatch h⟩
      · rw [if_neg hd]
        exact ⟨by simp [startsP, hmp], fun _ => rfl⟩
    rw [pass1At_of_match hm, pass1At_of_match (show matchP (w ++ (q ++ s)) = some (k, sym, br, dg, rest ++ (q ++ s)) by
      rw [hmp, hm]; rfl), hst.1]
    by_cases h1 : startsP (rest.dropWhile isWs) = true
    · simp [h1, hst.2 h1, List.append_assoc]
    · by_cases h2 : k ≥ 2
      · simp only [h1, h2, if_true]
        rw [List.take_append_of_le_length hk, List.drop_append_of_le_length hk]
        simp [List.append_assoc]
      · simp [h1, h2]

/-- one step of pass 1 on `w`, a separator and `s` acts inside `w` if it can, else inside `s` -/
theorem pass1Step_sep (q s : Str) (hq : Sep q) (w : Str) :
    pass1Step (w ++ (q ++ s)) =
      match pass1Step w with
      | some x => some (x ++ (q ++ s))
      | none => (pass1Step s).map fun y => w ++ (q ++ y) := by
  -- case1: nothing left; case2: the pattern matches here; case3: it does not, the search goes on behind `c`
  fun_induction pass1Step w with
  | case1 => simp [pass1Step_inert q s (sep_inert q hq)]
  | case2 c r s' h => rw [List.cons_append, pass1Step_cons, ← List.cons_append, pass1At_sep (c :: r) q s hq, h]; rfl
  | case3 c r h ih =>
    rw [List.cons_append, pass1Step_cons, ← List.cons_append, pass1At_sep (c :: r) q s hq, h]
    simp only [Option.map_none, ih]
    cases pass1Step r with
    | some y => rfl
    | none => cases pass1Step s <;> rfl

/-- substitutions happen in the text before the separator first, then behind it -/
theorem steps_sep (q : Str) (hq : Sep q) (n : Nat) : ∀ (w w' : Str) (m : Nat) (s t : Str),
    StepsTo n w w' → StepsTo m s t → StepsTo (n + m) (w ++ (q ++ s)) (w' ++ (q ++ t)) := by
  induction n with
  | zero =>
    intro w w' m s t h hs
    obtain ⟨rfl, hn⟩ := h
    rw [Nat.zero_add]
    exact steps_map (fun x => w ++ (q ++ x)) (fun x => by rw [pass1Step_sep q x hq w, hn]) m s t hs
  | succ n ih =>
    intro w w' m s t h hs
    obtain ⟨x, hx, hxs⟩ := h
    have : n + 1 + m = (n + m) + 1 := Nat.succ_add n m
    rw [this]
    exact ⟨x ++ (q ++ s), by rw [pass1Step_sep q s hq w, hx], ih x w' m s t hxs hs⟩

theorem P3_before (bl r tr : Str) (hbl : ∀ c ∈ bl, isWs c = true) (h : P3 r tr) (l : Char)
    (hl : notSpec3 l = true) (w0 : Str) (hw : ∀ c ∈ w0, c ≠ '(' ∧ isWs c = false) :
    P3 (w0 ++ l :: (bl ++ '(' :: r)) (w0 ++ l :: (symAdd ++ '(' :: tr)) :=
  P3_join w0 l bl r tr (fun c hc => (hw c hc).1) hl hbl h

theorem shape_last (s : Str) (h : SpeciesShape s) : ∃ w0 l, s = w0 ++ [l] ∧ notSpec3 l = true := by
  obtain ⟨sym, br, rfl, hb, hsym⟩ := h
  rcases hb with rfl | ⟨body, _, _, rfl⟩
  · rcases hsym with ⟨u, hu, rfl⟩ | ⟨u, l, hu, hl, rfl⟩ | ⟨x, _, rfl⟩
    · exact ⟨[], u, by simp, (notSpec_word u (Or.inl hu)).1⟩
    · exact ⟨[u], l, by simp, (notSpec_word l (Or.inr (Or.inl hl))).1⟩
    · exact ⟨['[', x], ']', by simp, by decide⟩
  · exact ⟨sym ++ '{' :: body, '}', by simp, by decide⟩

theorem dig_last (dg : Str) (hd : AllDig dg) (hne : dg ≠ []) : ∃ d0 l, dg = d0 ++ [l] ∧ notSpec3 l = true := by
  refine ⟨dg.dropLast, dg.getLast hne, (List.dropLast_concat_getLast hne).symm, ?_⟩
  exact (notSpec_word _ (Or.inr (Or.inr (hd _ (List.getLast_mem hne))))).1

/-- a text after which `␣* (` is joined by ` + `: no `(` in it, and it ends in an ordinary character -/
def Word3 (w : Str) : Prop := (∀ c ∈ w, c ≠ '(') ∧ ∃ w0 l, w = w0 ++ [l] ∧ notSpec3 l = true

theorem word3_append (a w : Str) (ha : ∀ c ∈ a, c ≠ '(') (h : Word3 w) : Word3 (a ++ w) := by
  obtain ⟨hw, w0, l, rfl, hl⟩ := h
  exact ⟨List.forall_mem_append.mpr ⟨ha, hw⟩, a ++ w0, l, (List.append_assoc _ _ _).symm, hl⟩

theorem word3_expl (it : Item) (hok : it.OK) : Word3 it.expl := by
  refine ⟨fun c hc => (item_expl_noparen it hok c hc).1, ?_⟩
  by_cases hd : it.dg = []
  · obtain ⟨s0, l, e, hl⟩ := shape_last it.sp hok.1
    exact ⟨s0, l, by simp [Item.expl, hd, e], hl⟩
  · obtain ⟨d0, l, e, hl⟩ := dig_last it.dg hok.2 hd
    refine ⟨it.sp ++ symMul ++ d0, l, ?_, hl⟩
    simp only [Item.expl, List.isEmpty_eq_false_iff.mpr hd, Bool.false_eq_true, if_false]
    rw [e]; simp [List.append_assoc]

theorem word3_explChain (r : Rest) : ∀ it : Item, it.OK → restOK r → Word3 (explChain it r) := by
  induction r with
  | nil => intro it hok _; exact word3_expl it hok
  | cons gi t ih =>
    intro it hok hr
    obtain ⟨g, it2⟩ := gi
    exact word3_append (it.expl ++ symAdd) _ (List.forall_mem_append.mpr
      ⟨fun c h => (item_expl_noparen it hok c h).1, by decide⟩) (ih it2 hr.head hr.tail)

theorem word3_close (w dg : Str) (hw : ∀ c ∈ w, c ≠ '(') (hd : AllDig dg) : Word3 (w ++ ')' :: dg) := by
  apply word3_append w _ hw
  refine ⟨List.forall_mem_cons.mpr ⟨by decide, fun c h => (word_plain c (Or.inr (Or.inr (hd c h)))).1.1⟩, ?_⟩
  by_cases hdn : dg = []
  · exact ⟨[], ')', by simp [hdn], by decide⟩
  · obtain ⟨d0, l, e, hl⟩ := dig_last dg hd hdn
    exact ⟨')' :: d0, l, by simp [e], hl⟩

theorem explChain_head (r : Rest) (it : Item) (hok : it.OK) (rest : Str) :
    ∃ a t, explChain it r ++ rest = a :: t ∧ (isUp a = true ∨ a = '[') := by
  obtain ⟨a, t, e, ha⟩ := sp_head it hok
  cases r with
  | nil => exact ⟨a, _, by rw [explChain, Item.expl, e]; rfl, ha⟩
  | cons gi t' => exact ⟨a, _, by rw [explChain_cons, Item.expl, e]; rfl, ha⟩

theorem headIn_symAdd (w : Str) : HeadIn [' ', '(', ')'] (symAdd ++ w) := .cons (a := ' ') (by decide) _

theorem P2_chain_tail (w tw : Str) (hw : HeadIn [' ', '(', ')'] w) (h : P2 w tw) (r : Rest) :
    ∀ (it : Item), it.OK → restOK r →
    P2 (chainText it (allPlus r) ++ w) (explChain it r ++ tw) := by
  induction r with
  | nil =>
    intro it hok _
    exact P2_item it w tw hok (follow_of_headIn it hw) h
  | cons gi t ih =>
    intro it hok hr
    obtain ⟨g, it2⟩ := gi
    have h2 := P2_run symAdd _ _ inert_symAdd (ih it2 hr.head hr.tail)
    have := P2_item it _ _ hok (follow_of_headIn it (headIn_symAdd _)) h2
    simpa [chainText_cons, allPlus, explChain_cons, Gap.text, List.append_assoc] using this

/-- a parenthesis-free formula, any number of blanks, one parenthesised parenthesis-free group
    without or with a count: `Ca(OH)2`, `Al2 (SO4)3` -/
def F.chainGroup : F → Prop
  | .seq _ a b => a.flat ∧ b.group1
  | _ => False

end SciVerif.C10
