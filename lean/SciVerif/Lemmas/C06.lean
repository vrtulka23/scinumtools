import SciVerif.Lemmas.C08
import SciVerif.Lemmas.Util.FracQ
import SciVerif.Model.C06

/-!
The quantity model at the real numbers with positive unit factors (C06, and C08 at the quantity
level): the factor `BU.magnitude` of a unit map under `BaseUnits.__add__/__sub__/__mul__`, the
constructor's folding step, sums and differences, powers, and the factor of `Quantity.rebase`.
`a.subU b` is `a.addU` of the negated `b`, so only `addU` is analysed.
Two constructors are called `new`: lemmas on `BU.new` (`BaseUnits(dict)`) are named `BU.…`, lemmas on `Qty.new`
(`Quantity(magnitude, baseunits)`) `Qty.…`; a few facts about `Frac` or `Dims` alone carry that type's name.
-/
namespace SciVerif.C06
open SciVerif.C08


variable {ι : Type}

/-- true of every `Fraction` the code builds from ints / pairs with non-zero second entry -/
def BU.WF (b : BU ι) : Prop := ∀ p ∈ b, p.2.den ≠ 0

/-- every unit of the table has a positive factor (true of the regenerated tables: `C04_table_factors_positive`) -/
def EnvPos (env : ι → UnitInfo ℝ) : Prop := ∀ u, 0 < (env u).factor

theorem toRat_add (a b : Frac) (ha : a.den ≠ 0) (hb : b.den ≠ 0) :
    (a.add b).toRat = a.toRat + b.toRat :=
  Util.intDiv_add a.num a.den b.num b.den ha hb

theorem toRat_neg (a : Frac) : a.neg.toRat = -a.toRat := by
  simp only [Frac.toRat, Frac.neg]; push_cast; ring

theorem Frac.sub_eq_add_neg (a b : Frac) : a.sub b = a.add b.neg := by
  simp only [Frac.sub, Frac.add, Frac.neg, neg_mul, Int.sub_eq_add_neg]

theorem toRat_mul (a b : Frac) : (a.mul b).toRat = a.toRat * b.toRat := by
  simp only [Frac.toRat, Frac.mul]; push_cast
  rw [mul_div_mul_comm]

theorem toRat_zero_num (a : Frac) (h : a.num = 0) : a.toRat = 0 := by
  simp [Frac.toRat, h]

theorem toRat_integral (p : Frac) (k : ℤ) (hp : p.den ≠ 0) (hk : p.num = k * p.den) : p.toRat = k := by
  rw [Frac.toRat, hk, Int.cast_mul, mul_div_assoc, div_self (Int.cast_ne_zero.mpr hp), mul_one]

/-- `factor(u)^e` : what the entry `(u, e)` of a unit map contributes to `BU.magnitude`
    (`get_unit_base(u, e).magnitude`) -/
noncomputable def F (env : ι → UnitInfo ℝ) (p : ι × Frac) : ℝ := unitFactor env p.1 p.2

variable (env : ι → UnitInfo ℝ)

theorem F_eq (p : ι × Frac) : F env p = (env p.1).factor ^ ((p.2.toRat : ℚ) : ℝ) := rfl

theorem F_pos (h : EnvPos env) (p : ι × Frac) : 0 < F env p := by
  rw [F_eq]; exact Real.rpow_pos_of_pos (h _) _

theorem magnitude_eq (b : BU ι) : b.magnitude env = (b.map (F env)).prod := by
  rw [List.prod_eq_foldl, List.foldl_map]
  rfl

theorem magnitude_pos (h : EnvPos env) (b : BU ι) : 0 < b.magnitude env := by
  rw [magnitude_eq]
  exact List.prod_pos (List.forall_mem_map.mpr fun p _ => F_pos env h p)

theorem magnitude_cons (p : ι × Frac) (b : BU ι) :
    BU.magnitude env (p :: b) = F env p * b.magnitude env := by
  simp [magnitude_eq]

theorem WF_cons {p : ι × Frac} {t : BU ι} : BU.WF (p :: t) ↔ p.2.den ≠ 0 ∧ BU.WF t :=
  List.forall_mem_cons

theorem BU.new_cons_zero {p : ι × Frac} (t : BU ι) (h : p.2.num = 0) : BU.new (p :: t) = BU.new t := by
  simp [BU.new, h]

theorem BU.new_cons_ne {p : ι × Frac} (t : BU ι) (h : p.2.num ≠ 0) : BU.new (p :: t) = p :: BU.new t := by
  simp [BU.new, h]

theorem BU.magnitude_new (b : BU ι) : (BU.new b).magnitude env = b.magnitude env := by
  induction b with
  | nil => rfl
  | cons p t ih =>
    by_cases h : p.2.num = 0
    · rw [BU.new_cons_zero t h, ih, magnitude_cons, F_eq, toRat_zero_num _ h, Rat.cast_zero, Real.rpow_zero,
        one_mul]
    · rw [BU.new_cons_ne t h, magnitude_cons, magnitude_cons, ih]

theorem BU.new_WF (b : BU ι) (hb : b.WF) : (BU.new b).WF := fun p hp =>
  hb p (List.mem_of_mem_filter hp)

theorem magnitude_map (hpos : EnvPos env) (g : Frac → Frac) (c : ℝ)
    (hg : ∀ x : Frac, (((g x).toRat : ℚ) : ℝ) = ((x.toRat : ℚ) : ℝ) * c) (b : BU ι) :
    BU.magnitude env (b.map (fun p => (p.1, g p.2))) = b.magnitude env ^ c := by
  induction b with
  | nil => exact (Real.one_rpow c).symm
  | cons q t ih =>
    rw [List.map_cons, magnitude_cons, magnitude_cons, ih,
      Real.mul_rpow (F_pos env hpos q).le (magnitude_pos env hpos t).le, F_eq, F_eq, hg,
      Real.rpow_mul (hpos _).le]

def BU.negU (b : BU ι) : BU ι := b.map (fun p => (p.1, p.2.neg))

theorem negU_WF (b : BU ι) (hb : b.WF) : b.negU.WF :=
  List.forall_mem_map.mpr hb

theorem magnitude_scale (hpos : EnvPos env) (a : BU ι) (p : Frac) :
    (a.scale p).magnitude env = (a.magnitude env) ^ ((p.toRat : ℚ) : ℝ) := by
  rw [BU.scale, BU.magnitude_new]
  exact magnitude_map env hpos _ _ (fun x => by rw [toRat_mul, Rat.cast_mul]) a

section
variable [DecidableEq ι]

theorem magnitude_upd (hpos : EnvPos env) (u : ι) (f : Frac → Frac) (g : Frac)
    (hf : ∀ e : Frac, e.den ≠ 0 → (f e).toRat = e.toRat + g.toRat) (b : BU ι) (hb : b.WF) :
    (b.upd u f g).magnitude env = b.magnitude env * F env (u, g) := by
  fun_induction BU.upd b u f g with
  | case1 => rw [magnitude_cons, mul_comm]
  | case2 e t =>
    rw [magnitude_cons, magnitude_cons, F_eq, F_eq, F_eq, hf e (WF_cons.mp hb).1, Rat.cast_add,
      Real.rpow_add (hpos u)]
    ring
  | case3 k e t hk ih => rw [magnitude_cons, magnitude_cons, ih (WF_cons.mp hb).2, mul_assoc]

theorem upd_WF (u : ι) (f : Frac → Frac) (g : Frac) (hg : g.den ≠ 0)
    (hf : ∀ e : Frac, e.den ≠ 0 → (f e).den ≠ 0) (b : BU ι) (hb : b.WF) : (b.upd u f g).WF := by
  fun_induction BU.upd b u f g with
  | case1 => exact WF_cons.mpr ⟨hg, hb⟩
  | case2 e t => exact WF_cons.mpr ⟨hf e (WF_cons.mp hb).1, (WF_cons.mp hb).2⟩
  | case3 k e t hk ih => exact WF_cons.mpr ⟨(WF_cons.mp hb).1, ih (WF_cons.mp hb).2⟩

theorem addU_nil (a : BU ι) : a.addU [] = BU.new a := rfl

theorem addU_cons (a : BU ι) (p : ι × Frac) (t : BU ι) :
    a.addU (p :: t) = (a.upd p.1 (fun e => e.add p.2) p.2).addU t := rfl

theorem addU_step_WF (a : BU ι) (ha : a.WF) {p : ι × Frac} (hp : p.2.den ≠ 0) :
    (a.upd p.1 (fun e => e.add p.2) p.2).WF :=
  upd_WF _ _ _ hp (fun _ he => Int.mul_ne_zero he hp) a ha

theorem addU_WF (a b : BU ι) (ha : a.WF) (hb : b.WF) : (a.addU b).WF := by
  induction b generalizing a with
  | nil => exact BU.new_WF a ha
  | cons p t ih =>
    obtain ⟨hp, ht⟩ := WF_cons.mp hb
    exact ih _ (addU_step_WF a ha hp) ht

theorem magnitude_addU (hpos : EnvPos env) (a b : BU ι) (ha : a.WF) (hb : b.WF) :
    (a.addU b).magnitude env = a.magnitude env * b.magnitude env := by
  induction b generalizing a with
  | nil =>
    rw [addU_nil, BU.magnitude_new]
    exact (mul_one _).symm
  | cons p t ih =>
    obtain ⟨hp, ht⟩ := WF_cons.mp hb
    rw [addU_cons, ih _ (addU_step_WF a ha hp) ht,
      magnitude_upd env hpos _ _ _ (fun e he => toRat_add e p.2 he hp) a ha, magnitude_cons, mul_assoc]

theorem subU_eq_addU (a b : BU ι) : a.subU b = a.addU b.negU := by
  simp only [BU.subU, BU.addU, BU.negU, List.foldl_map, Frac.sub_eq_add_neg]

theorem subU_WF (a b : BU ι) (ha : a.WF) (hb : b.WF) : (a.subU b).WF := by
  rw [subU_eq_addU]
  exact addU_WF a _ ha (negU_WF b hb)

theorem magnitude_subU (hpos : EnvPos env) (a b : BU ι) (ha : a.WF) (hb : b.WF) :
    (a.subU b).magnitude env = a.magnitude env / b.magnitude env := by
  rw [subU_eq_addU, magnitude_addU env hpos a _ ha (negU_WF b hb), BU.negU,
    magnitude_map env hpos Frac.neg (-1) (fun x => by rw [toRat_neg, Rat.cast_neg, mul_neg_one]),
    Real.rpow_neg_one, div_eq_mul_inv]

-- `BU.scale` needs no decidable equality; the instance argument belongs to the statement as it stands
set_option linter.unusedSectionVars false in
theorem scale_WF (a : BU ι) (p : Frac) (ha : a.WF) (hp : p.den ≠ 0) : (a.scale p).WF :=
  BU.new_WF _ (List.forall_mem_map.mpr fun x hx => Int.mul_ne_zero (ha x hx) hp)

end

theorem fold_scaleBy (D : ι × Frac → Bool) (b : BU ι) (m : Mag ℝ) :
    b.foldl (fun m p => if D p then m else m.mul (Mag.exact (unitFactor env p.1 p.2))) m =
      m.scaleBy ((b.filter (fun p => !D p)).map (F env)).prod := by
  induction b generalizing m with
  | nil => exact (Mag.scaleBy_one m).symm
  | cons p t ih =>
    rw [List.foldl_cons, ih]
    by_cases h : D p
    · simp [h]
    · rw [if_neg h, Mag.mul_exact, Mag.scaleBy_scaleBy]
      simp [h, F]

theorem prod_split (D : ι × Frac → Bool) (b : BU ι) :
    ((b.filter (fun p => !D p)).map (F env)).prod * ((b.filter D).map (F env)).prod = (b.map (F env)).prod := by
  simpa [mul_comm] using List.prod_map_filter_mul_prod_map_filter_not (fun p => D p = true) (F env) b

theorem Qty.new_of_dim (m : Mag ℝ) (b : BU ι) (h : (b.dims env).nodim = false) : Qty.new env m b = ⟨m, b⟩ := by
  unfold Qty.new; simp [h]

theorem Qty.new_of_nodim (m : Mag ℝ) (b : BU ι) (h : (b.dims env).nodim = true) :
    Qty.new env m b =
      ⟨m.scaleBy ((b.filter (fun p => !(unitDims env p.1 p.2).nodim)).map (F env)).prod,
       BU.new (b.filter (fun p => (unitDims env p.1 p.2).nodim))⟩ := by
  unfold Qty.new
  simp only [h, if_true]
  rw [fold_scaleBy env (fun p => (unitDims env p.1 p.2).nodim)]

theorem Qty.new_spec (m : Mag ℝ) (b : BU ι) :
    ∃ f, (Qty.new env m b).mag = m.scaleBy f ∧
      f * (Qty.new env m b).units.magnitude env = b.magnitude env ∧ (EnvPos env → 0 < f) := by
  cases h : (b.dims env).nodim with
  | false =>
    rw [Qty.new_of_dim env m b h]
    exact ⟨1, (Mag.scaleBy_one m).symm, one_mul _, fun _ => one_pos⟩
  | true =>
    rw [Qty.new_of_nodim env m b h]
    refine ⟨_, rfl, ?_, fun hpos => ?_⟩
    · rw [BU.magnitude_new, magnitude_eq, magnitude_eq, prod_split]
    · rw [← magnitude_eq]
      exact magnitude_pos env hpos _

theorem Qty.new_units (m m' : Mag ℝ) (b : BU ι) :
    (Qty.new env m b).units = (Qty.new env m' b).units := by
  unfold Qty.new; split <;> rfl

theorem baseMag_eq (hpos : EnvPos env) (q : Qty ι ℝ) :
    q.baseMag env = q.mag.scaleBy (q.units.magnitude env) :=
  (Mag.scaleBy_of_pos _ (magnitude_pos env hpos _)).symm

theorem Qty.new_base (m : Mag ℝ) (b : BU ι) : (Qty.new env m b).base env = m.value * b.magnitude env := by
  obtain ⟨f, hm, hf, _⟩ := Qty.new_spec env m b
  rw [Qty.base, hm, ← hf]
  exact mul_assoc _ _ _

theorem Qty.new_baseMag (hpos : EnvPos env) (m : Mag ℝ) (b : BU ι) :
    (Qty.new env m b).baseMag env = ⟨m.value * b.magnitude env, m.error.map (fun e => e * b.magnitude env)⟩ := by
  obtain ⟨f, hm, hf, _⟩ := Qty.new_spec env m b
  rw [baseMag_eq env hpos, hm, Mag.scaleBy_scaleBy, hf, Mag.scaleBy_of_pos _ (magnitude_pos env hpos b)]

theorem Frac.beq_comm (a b : Frac) : a.beq b = b.beq a :=
  Bool.eq_iff_iff.mpr (by simp only [Frac.beq, beq_iff_eq]; exact eq_comm)

theorem Dims.beq_comm (a b : Dims) : Dims.beq a b = Dims.beq b a := by
  rw [Dims.beq, Dims.beq, List.zipWith_comm_of_comm Frac.beq_comm]

theorem addsub_error (op : Mag ℝ → Mag ℝ → Mag ℝ) (l r : Qty ι ℝ)
    (hd : (l.units.dims env).beq (r.units.dims env) = false) :
    ∃ msg, Qty.addsub env op l r = .error msg := by
  rw [Qty.addsub]
  split
  · exact ⟨_, rfl⟩
  · simp [hd]; exact ⟨_, rfl⟩

/-- The right operand is converted to the left one's units, i.e. scaled by `f_r / f_l`; `hop` moves `f_l` through
    `op`, where it cancels: in base dimensions the result is `op` of the operands' base magnitudes. -/
theorem addsub_spec (hpos : EnvPos env) (op : Mag ℝ → Mag ℝ → Mag ℝ)
    (hop : ∀ x y f, (op x y).scaleBy f = op (x.scaleBy f) (y.scaleBy f)) (l r : Qty ι ℝ)
    (hd : (l.units.dims env).beq (r.units.dims env) = true) :
    ∃ q, Qty.addsub env op l r = .ok q ∧ q.baseMag env = op (l.baseMag env) (r.baseMag env) ∧
      q.units = (Qty.new env l.mag l.units).units := by
  have hd' : (r.units.dims env).beq (l.units.dims env) = true := by rw [Dims.beq_comm]; exact hd
  have hl := magnitude_pos env hpos l.units
  have hr := magnitude_pos env hpos r.units
  refine ⟨_, by simp [Qty.addsub, stdType, convert, hd, hd']; rfl, ?_, Qty.new_units env _ _ _⟩
  rw [Qty.new_baseMag env hpos, ← Mag.scaleBy_of_pos _ hl, Mag.convertLinear_eq _ (div_pos hr hl).le, hop,
    Mag.scaleBy_scaleBy,
    div_mul_cancel₀ _ hl.ne', baseMag_eq env hpos, baseMag_eq env hpos]

theorem pow_spec (hpos : EnvPos env) (q : Qty ι ℝ) (p : Frac) (hp : p.den ≠ 0) :
    ∃ r, q.pow env p = .ok r ∧
      r.base env = q.mag.value ^ ((p.toRat : ℚ) : ℝ) * q.units.magnitude env ^ ((p.toRat : ℚ) : ℝ) := by
  refine ⟨_, by rw [Qty.pow, if_neg hp]; rfl, ?_⟩
  rw [Qty.new_base, magnitude_scale env hpos]
  rfl

/-- an integer-valued exponent `k`, in any spelling `p`: any sign of the value -/
theorem pow_spec_int (hpos : EnvPos env) (q : Qty ι ℝ) (p : Frac) (k : ℤ)
    (hp : p.den ≠ 0) (hk : p.num = k * p.den) :
    ∃ r, q.pow env p = .ok r ∧ r.base env = q.base env ^ k := by
  obtain ⟨r, hr, hb⟩ := pow_spec env hpos q p hp
  refine ⟨r, hr, ?_⟩
  rw [hb, toRat_integral p k hp hk, Rat.cast_intCast, Real.rpow_intCast, Real.rpow_intCast, ← mul_zpow]
  rfl

theorem rebaseStep_pos (hpos : EnvPos env)
    (acc : List (List Bool × ι × Frac) × ℝ) (p : ι × Frac) (h : 0 < acc.2) :
    0 < (rebaseStep env acc p).2 := by
  fun_cases rebaseStep env acc p
  · exact mul_pos h (Real.rpow_pos_of_pos (div_pos (hpos _) (hpos _)) _)
  · exact h

theorem rebase_factor_pos (hpos : EnvPos env) (b : BU ι)
    (acc : List (List Bool × ι × Frac) × ℝ) (h : 0 < acc.2) :
    0 < (b.foldl (rebaseStep env) acc).2 := by
  induction b generalizing acc with
  | nil => exact h
  | cons p t ih => exact ih _ (rebaseStep_pos env hpos acc p h)

end SciVerif.C06
