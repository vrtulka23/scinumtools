import SciVerif.Lemmas.C17Parse
import SciVerif.Lemmas.C17InvChecks

/-! Refinement (C17): DECLARED nodes (`a float` without value) inside the invariant.  Under the weak invariant
    `InvD` the statements that create and fill such nodes (declaration, literal definition, literal modification)
    are simulated by the main loop (`refine_stepD`, through `refine_defn` / `refine_modl` at `GoodD` and
    `decl_core`).  `modifyFirst_absD`, `mod_coreD`, `def_coreD`, `processNode_decl` at the head of the module are the
    node-level lemmas of C17Abstraction at `InvD` for lines at the root; the refinement does not go through them. -/
namespace SciVerif.C17

theorem modifyFirst_absD (tbl : UnitTable) (m : Node) (r : Val) (ns : List Node) (ss' : List SNode)
    (F : SNode → Option SNode)
    (hF : ∀ t ∈ ns, ∀ s', F (absN t) = some s' →
      specModF tbl r m.unitsRaw (absN t) = some s' ∧ (m.kw = .mod ∨ dtypeOf m.kw = dtypeOf t.kw))
    (hg : ∀ n ∈ ns, GoodD tbl n) (hr : m.raw = some r)
    (h : sUpdate (splitDot m.name) F (ns.map absN) = some ss') :
    ∃ ns', modifyFirst tbl m ns = .ok (some ns') ∧ ns'.map absN = ss' ∧ (∀ n ∈ ns', GoodD tbl n) :=
  modifyFirst_sim tbl (nodeInv_goodD tbl) m r ns ss' F hF hg hr h

/-- the line of a modification, once its raw value is known -/
def modNode (path : List Str) (raw : Val) (ref : Option Str) (unit' : Option Str) : Node :=
  { blank (joinDot path) .mod with raw := some raw, ref := ref, unitsRaw := unit' }

theorem mod_coreD (tbl : UnitTable) (env : Env) (hinv : InvD tbl env) (path : List Str) (raw : Val)
    (ref : Option Str) (unit' : Option Str) (ss' : List SNode) (hp : WFPath path)
    (h : sUpdate path (specModF tbl raw unit') (absEnv env).nodes = some ss') :
    ∃ env', processNode tbl env (modNode path raw ref unit') = .ok env' ∧
      absEnv env' = { absEnv env with nodes := ss' } ∧ InvD tbl env' :=
  mod_core tbl (nodeInv_goodD tbl) env hinv (modNode path raw ref unit') path raw ss' hp
    (regNameOf_zero _ _) rfl rfl h

/-- the host line of a definition (literal or injected value), once its raw value is known -/
def hostNode (path : List Str) (kw : Kw) (dims : List Dim) (raw : Val) (ref : Option Str)
    (sl : List Sl) (unit' : Option Str) : Node :=
  { blank (joinDot path) kw with dims := dims, raw := some raw, ref := ref, slice := sl, unitsRaw := unit' }

theorem def_coreD (tbl : UnitTable) (env : Env) (hinv : InvD tbl env) (path : List Str) (kw : Kw)
    (dims : List Dim) (raw : Val) (ref : Option Str) (sl : List Sl) (unit' : Option Str) (v' : Val)
    (hp : WFPath path) (hk : isTyped kw = true) (hu : unitOk tbl kw unit' = true)
    (hint : kw = .int → unit' = none)
    (hno : (absEnv env).nodes.any (fun n => decide (n.path = path)) = false)
    (hcast : castValue (hostNode path kw dims raw ref sl unit') raw = some v')
    (hconf : conforms kw dims v' = some v') :
    ∃ env', processNode tbl env (hostNode path kw dims raw ref sl unit') = .ok env' ∧
      absEnv env' = { absEnv env with nodes := (absEnv env).nodes ++
        [⟨path, kw, dims, unit', some v', false, none, none, [], [], none⟩] } ∧ InvD tbl env' := by
  obtain ⟨env', hpn, habs, hinv'⟩ := new_core tbl env hinv (hostNode path kw dims raw ref sl unit')
    { hostNode path kw dims raw ref sl unit' with value := some v', slice := [] } path hp
    (regNameOf_zero _ _) hk hu hno (setValue_def _ raw v' (typed_ne hk).1 rfl rfl hcast) rfl rfl
    (good_goodD ⟨hk, ⟨v', rfl, hconf⟩, rfl, hu, hint⟩)
  exact ⟨env', hpn, by rw [habs]; simp [absN, hostNode, blank, splitDot_joinDot path hp], hinv'⟩

/-- the line record of a declaration `path kw[dims] unit` (no `=`): no raw value, flagged as
    to-be-defined (the final validation loop refuses it while it holds no value) -/
def declNode (path : List Str) (kw : Kw) (dims : List Dim) (unit : Option Str) : Node :=
  { blank (joinDot path) kw with dims := dims, unitsRaw := unit, defined := true }

theorem processNode_decl (tbl : UnitTable) (env : Env) (n : Node)
    (hi : n.indent = 0) (hk : isTyped n.kw = true) (hu : unitOk tbl n.kw n.unitsRaw = true)
    (hraw : n.raw = none) (hfresh : ∀ t ∈ env.nodes, t.name ≠ n.name) :
    processNode tbl env n = .ok { env with parents := [(0, n.name)], nodes := env.nodes ++ [{ n with value := none }] } := by
  have e1 : regNameOf env.parents n.indent n.name = n.name := by rw [hi, regNameOf_zero]
  have e2 : regStackOf env.parents n.indent n.name = [(0, n.name)] := by rw [hi, regStackOf_zero]
  have hs : setValue { n with name := regNameOf env.parents n.indent n.name } = .ok { n with value := none } := by
    rw [e1]; simp [setValue, hraw]
  rw [put_new tbl env n _ hk hu hs rfl hfresh, e2]

theorem decl_core (tbl : UnitTable) (env : Env) (hinv : InvD tbl env) (path : List Str) (kw : Kw)
    (dims : List Dim) (unit : Option Str)
    (hp : WFPath path) (hk : isTyped kw = true) (hu : unitOk tbl kw unit = true)
    (hint : kw = .int → unit = none)
    (hno : (absEnv env).nodes.any (fun n => decide (n.path = path)) = false) :
    ∃ env', processNode tbl env (declNode path kw dims unit) = .ok env' ∧
      absEnv env' = { absEnv env with nodes := (absEnv env).nodes ++
        [⟨path, kw, dims, unit, none, false, none, none, [], [], none⟩] } ∧ InvD tbl env' := by
  obtain ⟨env', hpn, habs, hinv'⟩ := new_core tbl env hinv (declNode path kw dims unit)
    (declNode path kw dims unit) path hp (regNameOf_zero _ _) hk hu hno rfl rfl rfl
    ⟨hk, (by intro v hv; cases hv), rfl, hu, hint⟩
  exact ⟨env', hpn, by rw [habs]; simp [absN, declNode, blank, splitDot_joinDot path hp], hinv'⟩

/-- the lines of the declared fragment: the declaration line, and `conc` on literal definitions and modifications
    (a declaration is no statement of `conc`'s fragment: it breaks `Inv`, which that fragment keeps) -/
def concD : SStmt → Option Item
  | .decl path kw dims unit => some (.node (declNode path kw dims unit))
  | .defn path kw dims (.lit v) unit => some (.node (litNode path kw dims v unit))
  | .modl path (.lit v) unit => some (.node (litNode path .mod [] v unit))
  | _ => none

def LitFrag : SStmt → Prop
  | .decl path kw _ unit => WFPath path ∧ isTyped kw = true ∧ (kw = .int → unit = none)
  | .defn path kw _ (.lit _) unit => WFPath path ∧ isTyped kw = true ∧ (kw = .int → unit = none)
  | .modl path (.lit _) _ => WFPath path
  | _ => False

def wfPathB (p : List Str) : Bool := !p.isEmpty && p.all (fun c => !c.contains '.')

theorem wfPathB_iff (p : List Str) : wfPathB p = true ↔ WFPath p := by
  simp [wfPathB, WFPath]

def litFragB : SStmt → Bool
  | .decl path kw _ unit => wfPathB path && isTyped kw && (decide (kw ≠ .int) || unit.isNone)
  | .defn path kw _ (.lit _) unit => wfPathB path && isTyped kw && (decide (kw ≠ .int) || unit.isNone)
  | .modl path (.lit _) _ => wfPathB path
  | _ => false

theorem litFragB_iff (s : SStmt) : litFragB s = true ↔ LitFrag s := by
  unfold litFragB LitFrag
  split <;> simp only [Bool.and_eq_true, wfPathB_iff, intB_iff, and_assoc, Bool.false_eq_true]

theorem refine_stepD (tbl : UnitTable) (env : Env) (hinv : InvD tbl env) (stmt : SStmt) (item : Item)
    (s' : SEnv) (hfrag : LitFrag stmt) (hc : concD stmt = some item)
    (h : sStep tbl (absEnv env) stmt = .ok s') :
    ∃ env', step tbl env item = .ok env' ∧ absEnv env' = s' ∧ InvD tbl env' := by
  have hG := nodeInv_goodD tbl
  unfold concD at hc
  split at hc <;> cases hc
  · rename_i path kw dims unit
    obtain ⟨hp, hk, hint⟩ := hfrag
    simp only [sStep] at h
    cases hno : (absEnv env).nodes.any (fun n => decide (n.path = path)) with
    | true => simp [hno] at h
    | false =>
      cases hu : unitOk tbl kw unit with
      | false => simp [hno, hu] at h
      | true =>
        simp only [hno, hu, Bool.not_true, Bool.false_eq_true, if_false, Except.ok.injEq] at h
        obtain ⟨env', hpn, habs, hinv'⟩ := decl_core tbl env hinv path kw dims unit hp hk hu hint hno
        refine ⟨env', ?_, by rw [habs, ← h], hinv'⟩
        rw [step_node tbl env (declNode path kw dims unit) _ (typed_ne hk).2.2 (injectValue_none _ _ rfl)]
        exact hpn
  · obtain ⟨hp, hk, hint⟩ := hfrag
    refine refine_defn tbl hG env hinv _ _ _ _ (.lit _) _ s' ⟨hp, hk, ?_, trivial⟩ rfl ⟨rfl, rfl, rfl⟩
      (regNameOf_zero _ _) h
    intro v u he hki
    simp only [sEval, Except.ok.injEq, Prod.mk.injEq] at he
    exact ⟨hint hki, he.2.symm⟩
  · exact refine_modl tbl hG env hinv _ _ (.lit _) s' hfrag rfl ⟨rfl, rfl, rfl⟩ rfl (regNameOf_zero _ _) h

theorem refine_runD (tbl : UnitTable) (stmts : List SStmt) (items : List Item) (env : Env) (s' : SEnv)
    (hinv : InvD tbl env) (hfrag : ∀ s ∈ stmts, LitFrag s) (hc : stmts.mapM concD = some items)
    (h : sRun tbl (absEnv env) stmts = .ok s') :
    ∃ env', items.foldlM (step tbl) env = .ok env' ∧ absEnv env' = s' ∧ InvD tbl env' := by
  refine sim_run tbl concD some (InvD tbl) (fun _ stmts => ∀ s ∈ stmts, LitFrag s) ?_
    stmts items env s' hinv hfrag hc (by rw [List.filterMap_some]; exact h)
  intro env st rest it s1 hinv hfr hit h1
  obtain ⟨env1, hstep, habs, hinv1⟩ :=
    refine_stepD tbl env hinv st it s1 (hfr st (by simp)) hit (sRun_single tbl _ s1 st h1)
  exact ⟨env1, hstep, habs, hinv1, fun s hs => hfr s (by simp [hs])⟩

theorem validate_ok_iff (env : Env) :
    validate env = .ok env ↔ ∀ n ∈ env.nodes, n.defined = true → n.value.isSome = true := by
  unfold validate
  split
  · rename_i hany
    simp only [List.any_eq_true, Bool.and_eq_true, Option.isNone_iff_eq_none] at hany
    obtain ⟨n, hn, hd, hv⟩ := hany
    refine ⟨(fun h => by cases h), fun h => ?_⟩
    simpa [hv] using h n hn hd
  · rename_i hany
    refine ⟨fun _ n hn hd => ?_, fun _ => rfl⟩
    cases hv : n.value with
    | some v => rfl
    | none => exact absurd (List.any_eq_true.mpr ⟨n, hn, by simp [hd, hv]⟩) hany

theorem concD_notCase (s : SStmt) (it : Item) (h : concD s = some it) : isCase it = false := by
  unfold concD at h
  split at h <;> first | (cases h; rfl) | cases h

theorem refine_parseD (tbl : UnitTable) (stmts : List SStmt) (items : List Item) (env : Env) (s' : SEnv)
    (hinv : InvD tbl env) (hfrag : ∀ s ∈ stmts, LitFrag s) (hc : stmts.mapM concD = some items)
    (h : sRun tbl (absEnv env) stmts = .ok s') :
    ∃ env', items.foldlM (step tbl) env = .ok env' ∧ absEnv env' = s' ∧ InvD tbl env' ∧
      parse tbl env items = validate env' ∧ parseC tbl env items = validate env' ∧
      ((∀ n ∈ s'.nodes, n.value.isSome = true) → validate env' = .ok env' ∧ Inv tbl env') := by
  obtain ⟨env', hf, ha, hi⟩ := refine_runD tbl stmts items env s' hinv hfrag hc h
  have hnc : ∀ it ∈ items, isCase it = false := by
    intro it hit
    obtain ⟨s, _, hs⟩ := Util.mem_of_mapM_eq_some hc hit
    exact concD_notCase s it hs
  refine ⟨env', hf, ha, hi, by simp only [parse, hf],
    by simp only [parseC, foldlM_stepC_none tbl items env hnc, hf], ?_⟩
  intro hv
  rw [← ha] at hv
  have hI := invD_inv hi (fun n hn => hv (absN n) (List.mem_map_of_mem hn))
  exact ⟨validate_of_inv tbl env' hI, hI⟩

end SciVerif.C17
