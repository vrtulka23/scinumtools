/-!
Decimal numerals.  The models print natural numbers with renderers of their own (`Char.ofNat (48 + d)` per
digit, fuel-bounded recursion) and read them back with the fold `10 * a + (c.toNat - 48)`.  Core Lean has the
theory of `Nat.toDigits` / `Nat.ofDigitChars` (all characters are digits, never empty, reading inverts
printing); `toDigits_eq` states the recursion of `Nat.toDigits 10` in the form the models' renderers are written
in, so that one induction identifies a renderer with `Nat.toDigits 10` and core does the rest.
-/
namespace SciVerif.Util

theorem digitChar_eq : ∀ d, d < 10 → Char.ofNat (48 + d) = d.digitChar := by decide

theorem toDigits_eq (n : Nat) : Nat.toDigits 10 n =
    if n < 10 then [Char.ofNat (48 + n)] else Nat.toDigits 10 (n / 10) ++ [Char.ofNat (48 + n % 10)] := by
  rw [Nat.toDigits_eq_if (by decide)]
  split
  · rw [digitChar_eq n ‹_›]
  · rw [digitChar_eq _ (Nat.mod_lt n (by decide))]

/-- `str(n)` of the models that print with `toString`. -/
theorem toString_toList (n : Nat) : (toString n).toList = Nat.toDigits 10 n := by
  simp

theorem isDigit_of_mem_toDigits {n : Nat} {c : Char} (h : c ∈ Nat.toDigits 10 n) : c.isDigit = true :=
  Nat.isDigit_of_mem_toDigits (by decide) (by decide) h

end SciVerif.Util
