/-!
Loops that may fail.  `List.mapM` into `Option` and `Except` models the Python loops `[f(x) for x in xs]` in which
any `f(x)` may raise: such a loop succeeds iff every element does, and then its result is the list of the single
results.  `List.foldlM` into `Except` models `for x in xs: state = f(state, x)`: it runs as long as every step
succeeds, and a relation every successful step keeps is kept by the whole loop.
-/
namespace SciVerif.Util

section Monad
variable {m : Type → Type} [Monad m] [LawfulMonad m] {α β : Type}

theorem mapM_congr {f g : α → m β} {l : List α} (h : ∀ x ∈ l, f x = g x) : l.mapM f = l.mapM g := by
  induction l with
  | nil => rfl
  | cons a t ih =>
    rw [List.mapM_cons, List.mapM_cons, h a (List.mem_cons_self ..),
      ih fun x hx => h x (List.mem_cons_of_mem _ hx)]

theorem mapM_eq_pure {f : α → m β} {g : α → β} {l : List α} (h : ∀ x ∈ l, f x = pure (g x)) :
    l.mapM f = pure (l.map g) := by
  rw [mapM_congr h, List.mapM_pure]

end Monad

section Option
variable {α β : Type} {f : α → Option β} {l : List α} {rs : List β}

theorem mapM_option (f : α → Option β) (l : List α) :
    l.mapM f = if l.all (fun a => (f a).isSome) then some (l.filterMap f) else none := by
  induction l with
  | nil => rfl
  | cons a l ih =>
    rw [List.mapM_cons, ih, List.all_cons]
    cases ha : f a with
    | none => rfl
    | some b =>
      rw [List.filterMap_cons_some ha]
      cases l.all (fun a => (f a).isSome) <;> rfl

theorem mapM_eq_some : l.mapM f = some rs ↔ (∀ a ∈ l, (f a).isSome) ∧ rs = l.filterMap f := by
  rw [mapM_option, ← List.all_eq_true]
  cases l.all (fun a => (f a).isSome)
  · exact ⟨fun h => (nomatch h), fun h => (nomatch h.1)⟩
  · exact ⟨fun h => ⟨rfl, (Option.some.inj h).symm⟩, fun h => h.2 ▸ rfl⟩

theorem mem_of_mapM_eq_some (h : l.mapM f = some rs) {r : β} (hr : r ∈ rs) : ∃ a ∈ l, f a = some r := by
  rw [(mapM_eq_some.1 h).2] at hr
  exact List.mem_filterMap.1 hr

theorem mapM_eq_none (h : ∃ a ∈ l, f a = none) : l.mapM f = none := by
  rw [mapM_option, if_neg]
  obtain ⟨a, ha, hf⟩ := h
  intro hall
  have := List.all_eq_true.1 hall a ha
  rw [hf] at this
  cases this

theorem mapM_cons_eq_some {a : α} {t : List α} (h : (a :: t).mapM f = some rs) :
    ∃ b bs, f a = some b ∧ t.mapM f = some bs ∧ rs = b :: bs := by
  rw [List.mapM_cons] at h
  cases ha : f a with
  | none => rw [ha] at h; cases h
  | some b =>
    cases ht : t.mapM f with
    | none => rw [ha, ht] at h; cases h
    | some bs => rw [ha, ht] at h; exact ⟨b, bs, rfl, rfl, (Option.some.inj h).symm⟩

end Option

section Except
variable {ε α β : Type} {f : α → Except ε β} {l : List α} {rs : List β}

theorem bind_eq_ok {x : Except ε α} {g : α → Except ε β} {b : β} (h : x.bind g = .ok b) :
    ∃ a, x = .ok a ∧ g a = .ok b := by
  cases x with
  | error e => cases h
  | ok a => exact ⟨a, rfl, h⟩

theorem map_eq_ok {x : Except ε α} {g : α → β} {b : β} (h : x.map g = .ok b) : ∃ a, x = .ok a ∧ g a = b := by
  cases x with
  | error e => cases h
  | ok a => exact ⟨a, rfl, Except.ok.inj h⟩

theorem mapM_cons_eq_ok {a : α} {t : List α} (h : (a :: t).mapM f = .ok rs) :
    ∃ b bs, f a = .ok b ∧ t.mapM f = .ok bs ∧ rs = b :: bs := by
  rw [List.mapM_cons] at h
  cases ha : f a with
  | error e => rw [ha] at h; cases h
  | ok b =>
    cases ht : t.mapM f with
    | error e => rw [ha, ht] at h; cases h
    | ok bs => rw [ha, ht] at h; exact ⟨b, bs, rfl, rfl, (Except.ok.inj h).symm⟩

theorem mem_of_mapM_eq_ok (h : l.mapM f = .ok rs) {r : β} (hr : r ∈ rs) : ∃ a ∈ l, f a = .ok r := by
  induction l generalizing rs with
  | nil => cases h; cases hr
  | cons a t ih =>
    obtain ⟨b, bs, ha, ht, rfl⟩ := mapM_cons_eq_ok h
    rcases List.mem_cons.1 hr with rfl | hr
    · exact ⟨a, List.mem_cons_self .., ha⟩
    · obtain ⟨x, hx, hfx⟩ := ih ht hr
      exact ⟨x, List.mem_cons_of_mem _ hx, hfx⟩

theorem mapM_error_of_mem (h : ∃ a ∈ l, ∃ e, f a = .error e) : ∃ e, l.mapM f = .error e := by
  induction l with
  | nil => obtain ⟨_, ha, _⟩ := h; cases ha
  | cons a t ih =>
    rw [List.mapM_cons]
    cases ha : f a with
    | error e => exact ⟨e, rfl⟩
    | ok b =>
      obtain ⟨x, hx, e, hfx⟩ := h
      rcases List.mem_cons.1 hx with rfl | hx
      · rw [ha] at hfx; cases hfx
      · obtain ⟨e', he'⟩ := ih ⟨x, hx, e, hfx⟩
        exact ⟨e', by rw [he']; rfl⟩

variable {σ : Type} {step : σ → α → Except ε σ}

theorem foldlM_cons_ok {a b : σ} {x : α} (h : step a x = .ok b) (xs : List α) :
    (x :: xs).foldlM step a = xs.foldlM step b := by
  rw [List.foldlM_cons, h]; rfl

theorem foldlM_cons_eq_ok {a c : σ} {x : α} {xs : List α} (h : (x :: xs).foldlM step a = .ok c) :
    ∃ b, step a x = .ok b ∧ xs.foldlM step b = .ok c := by
  rw [List.foldlM_cons] at h
  exact bind_eq_ok h

/-- A reflexive and transitive relation that every successful step keeps is kept by the whole loop. -/
theorem foldlM_invariant (R : σ → σ → Prop) (hrefl : ∀ a, R a a) (htrans : ∀ {a b c}, R a b → R b c → R a c)
    (hstep : ∀ a x b, step a x = .ok b → R a b) :
    ∀ (xs : List α) (a c : σ), xs.foldlM step a = .ok c → R a c
  | [], a, c, h => by cases h; exact hrefl a
  | x :: xs, a, c, h => by
    obtain ⟨b, hb, hc⟩ := foldlM_cons_eq_ok h
    exact htrans (hstep a x b hb) (foldlM_invariant R hrefl htrans hstep xs b c hc)

end Except

theorem foldl_invariant {σ α : Type} {step : σ → α → σ} (R : σ → σ → Prop) (hrefl : ∀ a, R a a)
    (htrans : ∀ {a b c}, R a b → R b c → R a c) (hstep : ∀ a x, R a (step a x)) :
    ∀ (xs : List α) (a : σ), R a (xs.foldl step a)
  | [], a => hrefl a
  | x :: xs, a => htrans (hstep a x) (foldl_invariant R hrefl htrans hstep xs (step a x))

end SciVerif.Util
