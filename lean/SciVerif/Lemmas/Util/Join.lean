/-!
Joining pieces with a separator and splitting the joined text again (`sep.join(parts)`, `text.split(c)`).
Several models define their own `joinWith` / `splitOn` / `splitDot`; `join` and `split` have the same recursion, so
one induction identifies such a function with them, and what is proved here is proved once.
-/
namespace SciVerif.Util

variable {α : Type}

/-- `sep.join(parts)` -/
def join (sep : List α) : List (List α) → List α
  | [] => []
  | [a] => a
  | a :: b :: t => a ++ sep ++ join sep (b :: t)

theorem intercalate_eq_join (sep : List α) : ∀ l : List (List α), sep.intercalate l = join sep l
  | [] => rfl
  | [a] => by simp [join]
  | a :: b :: t => by rw [List.intercalate_cons_cons, intercalate_eq_join sep (b :: t), join, List.append_assoc]

theorem mem_join {sep : List α} {c : α} : ∀ {l : List (List α)}, c ∈ join sep l → c ∈ sep ∨ ∃ x ∈ l, c ∈ x
  | [], h => nomatch h
  | [a], h => .inr ⟨a, List.mem_cons_self .., h⟩
  | a :: b :: t, h => by
    rw [join, List.mem_append, List.mem_append] at h
    rcases h with (h | h) | h
    · exact .inr ⟨a, List.mem_cons_self .., h⟩
    · exact .inl h
    · rcases mem_join h with h | ⟨x, hx, hc⟩
      · exact .inl h
      · exact .inr ⟨x, List.mem_cons_of_mem _ hx, hc⟩

theorem forall_mem_join {P : α → Prop} {sep : List α} {l : List (List α)} (hs : ∀ c ∈ sep, P c)
    (hl : ∀ x ∈ l, ∀ c ∈ x, P c) : ∀ c ∈ join sep l, P c := fun c hc => by
  rcases mem_join hc with h | ⟨x, hx, h⟩
  · exact hs c h
  · exact hl x hx c h

theorem join_ne_nil {sep : List α} : ∀ {l : List (List α)}, (∃ x ∈ l, x ≠ []) → join sep l ≠ []
  | [], h => by obtain ⟨_, hx, _⟩ := h; cases hx
  | [a], h => by
    obtain ⟨x, hx, hne⟩ := h
    rcases List.mem_cons.1 hx with rfl | hx
    · exact hne
    · cases hx
  | a :: b :: t, h => by
    rw [join]
    obtain ⟨x, hx, hne⟩ := h
    rcases List.mem_cons.1 hx with rfl | hx
    · simp [hne]
    · have := join_ne_nil (sep := sep) ⟨x, hx, hne⟩
      simp [this]

theorem join_append {sep : List α} : ∀ {a b : List (List α)}, a ≠ [] → b ≠ [] →
    join sep (a ++ b) = join sep a ++ sep ++ join sep b
  | [], _, h, _ => absurd rfl h
  | [x], y :: t, _, _ => rfl
  | [_], [], _, h => absurd rfl h
  | x :: y :: t, b, _, hb => by
    rw [List.cons_append, List.cons_append, join, join, ← List.cons_append,
      join_append (List.cons_ne_nil y t) hb]
    simp only [List.append_assoc]

variable [DecidableEq α]

/-- `text.split(c)`: always at least one piece. -/
def split (c : α) : List α → List (List α)
  | [] => [[]]
  | x :: xs =>
    if x = c then [] :: split c xs
    else match split c xs with
      | [] => [[x]]
      | h :: t => (x :: h) :: t

theorem split_ne_nil (c : α) : ∀ s : List α, split c s ≠ []
  | [] => by simp [split]
  | x :: xs => by
    rw [split]
    split
    · simp
    · split <;> simp

theorem split_of_not_mem {c : α} : ∀ {s : List α}, c ∉ s → split c s = [s]
  | [], _ => rfl
  | x :: xs, h => by
    have hx : x ≠ c := fun e => h (e ▸ List.mem_cons_self ..)
    rw [split, if_neg hx, split_of_not_mem fun hc => h (List.mem_cons_of_mem _ hc)]

theorem split_append {c : α} : ∀ {a : List α}, c ∉ a → ∀ rest, split c (a ++ c :: rest) = a :: split c rest
  | [], _, rest => by rw [List.nil_append, split, if_pos rfl]
  | x :: xs, h, rest => by
    have hx : x ≠ c := fun e => h (e ▸ List.mem_cons_self ..)
    rw [List.cons_append, split, if_neg hx, split_append fun hc => h (List.mem_cons_of_mem _ hc)]

theorem not_mem_of_mem_split {c : α} : ∀ {s : List α} {x : List α}, x ∈ split c s → c ∉ x
  | [], x, h => by
    rw [split, List.mem_singleton] at h
    rw [h]; exact List.not_mem_nil
  | y :: ys, x, h => by
    rw [split] at h
    split at h
    · rcases List.mem_cons.1 h with rfl | h
      · exact List.not_mem_nil
      · exact not_mem_of_mem_split h
    · rename_i hy
      cases hs : split c ys with
      | nil => exact absurd hs (split_ne_nil c ys)
      | cons a t =>
        rw [hs] at h
        rcases List.mem_cons.1 h with rfl | h
        · have ha : c ∉ a := not_mem_of_mem_split (hs ▸ List.mem_cons_self ..)
          intro hc
          rcases List.mem_cons.1 hc with rfl | hc
          · exact hy rfl
          · exact ha hc
        · exact not_mem_of_mem_split (hs ▸ List.mem_cons_of_mem _ h)

theorem join_split (c : α) : ∀ s : List α, join [c] (split c s) = s
  | [] => rfl
  | y :: ys => by
    have ih := join_split c ys
    rw [split]
    cases hs : split c ys with
    | nil => exact absurd hs (split_ne_nil c ys)
    | cons a t =>
      rw [hs] at ih
      split
      · rename_i hy
        rw [join, List.nil_append, List.singleton_append, ih, hy]
      · cases t with
        | nil => rw [join] at ih ⊢; rw [ih]
        | cons b t => rw [join] at ih ⊢; rw [← ih]; rfl

theorem split_join {c : α} : ∀ {l : List (List α)}, l ≠ [] → (∀ x ∈ l, c ∉ x) → split c (join [c] l) = l
  | [], h, _ => absurd rfl h
  | [a], _, hl => split_of_not_mem (hl a (List.mem_cons_self ..))
  | a :: b :: t, _, hl => by
    rw [join, List.append_assoc, List.singleton_append, split_append (hl a (List.mem_cons_self ..)),
      split_join (List.cons_ne_nil b t) fun x hx => hl x (List.mem_cons_of_mem _ hx)]

end SciVerif.Util
