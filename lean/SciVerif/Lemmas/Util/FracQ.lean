import Mathlib.Algebra.Field.Basic
import Mathlib.Algebra.Field.Rat
import Mathlib.Data.Int.Cast.Lemmas

/-!
Fractions of integers as rationals.  The models keep `Fraction` as a pair of integers, never normalised, add by
cross-multiplication and compare by cross-multiplication; each model has its own copy of the structure.  The two
facts that connect this with `ℚ` are stated here once, over the four integers: the sum (C06 `toRat_add`, C03
`Frac.toRat_add`) and the comparison (`C04_frac_eq_iff`, C03 `rebase_spec`).
-/
namespace SciVerif.Util

theorem intDiv_add (a b c d : ℤ) (hb : b ≠ 0) (hd : d ≠ 0) :
    ((a * d + c * b : ℤ) : ℚ) / ((b * d : ℤ) : ℚ) = (a : ℚ) / (b : ℚ) + (c : ℚ) / (d : ℚ) := by
  have h1 : (b : ℚ) ≠ 0 := Int.cast_ne_zero.mpr hb
  have h2 : (d : ℚ) ≠ 0 := Int.cast_ne_zero.mpr hd
  rw [div_add_div _ _ h1 h2, Int.cast_add, Int.cast_mul, Int.cast_mul, Int.cast_mul, mul_comm (b : ℚ) (c : ℚ)]

theorem intDiv_eq_iff (a b c d : ℤ) (hb : b ≠ 0) (hd : d ≠ 0) :
    a * d = c * b ↔ (a : ℚ) / (b : ℚ) = (c : ℚ) / (d : ℚ) := by
  have h1 : (b : ℚ) ≠ 0 := Int.cast_ne_zero.mpr hb
  have h2 : (d : ℚ) ≠ 0 := Int.cast_ne_zero.mpr hd
  rw [div_eq_div_iff h1 h2, ← Int.cast_mul, ← Int.cast_mul, Int.cast_inj]

end SciVerif.Util
