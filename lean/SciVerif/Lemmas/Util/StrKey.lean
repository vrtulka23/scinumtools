/-!
Keys of string-keyed tables as numbers.  The table facts of the development are decided by the kernel in one
evaluation over a whole regenerated table, and those evaluations spend their time comparing keys: the kernel
compares two `String`s through `ByteArray`, `List UInt8`, `UInt8`, `BitVec` and `Fin`, at a price per comparison
even when the first bytes differ, while two natural numbers are compared in one step of its arbitrary-precision
arithmetic.  `keyCode` reads the UTF-8 bytes of a string as base-256 digits behind a leading 1 (so that no two
byte lists give the same number); `beq_eq_keyCode` rewrites `==` on strings to `==` on codes in a goal before it
is evaluated.  The fact decided is the same and is still one evaluation of the whole table.
`digitsKey` is the same reading for a list of anything with codes below a base, with the injectivity proof.  It takes
the first element as the least significant digit, `keyCode` folds from the left and so takes the first byte as the most
significant one: `byteFold_eq` identifies `keyCode` with `digitsKey` of the reversed bytes.
-/
namespace SciVerif.Util

/-- a list as one number: the codes `d x < B` of its elements as digits to base `B`, the first element least
    significant, under a leading 1 (so that lists of different lengths give different numbers) -/
def digitsKey {α : Type} (B : Nat) (d : α → Nat) : List α → Nat
  | [] => 1
  | x :: s => digitsKey B d s * B + d x

theorem digitsKey_pos {α : Type} {B : Nat} (d : α → Nat) (hB : 0 < B) : ∀ s : List α, 0 < digitsKey B d s
  | [] => Nat.one_pos
  | _ :: s => Nat.add_pos_left (Nat.mul_pos (digitsKey_pos d hB s) hB) _

theorem digitsKey_inj {α : Type} {B : Nat} {d : α → Nat} (hB : 1 < B) (hd : ∀ x, d x < B)
    (hinj : ∀ x y, d x = d y → x = y) : ∀ {s t : List α}, digitsKey B d s = digitsKey B d t → s = t
  | [], [], _ => rfl
  | [], y :: t, h => absurd h (Nat.ne_of_lt (one_lt_cons hB t y))
  | x :: s, [], h => absurd h.symm (Nat.ne_of_lt (one_lt_cons hB s x))
  | x :: s, y :: t, h => by
    -- the last digit by `% B`, the others by `/ B`
    have hm := congrArg (· % B) h
    have hq := congrArg (· / B) h
    simp only [digitsKey, Nat.mul_add_mod_self_right, Nat.mod_eq_of_lt (hd x), Nat.mod_eq_of_lt (hd y)] at hm
    simp only [digitsKey, Nat.mul_comm _ B, Nat.mul_add_div (Nat.lt_of_succ_lt hB), Nat.div_eq_of_lt (hd x),
      Nat.div_eq_of_lt (hd y), Nat.add_zero] at hq
    rw [digitsKey_inj hB hd hinj hq, hinj x y hm]
where
  one_lt_cons {α : Type} {B : Nat} {d : α → Nat} (hB : 1 < B) (s : List α) (x : α) : 1 < digitsKey B d (x :: s) :=
    Nat.lt_of_lt_of_le (Nat.lt_of_lt_of_le hB (Nat.le_mul_of_pos_left B (digitsKey_pos d (Nat.lt_of_succ_lt hB) s)))
      (Nat.le_add_right _ _)

def keyCode (s : String) : Nat := s.toByteArray.data.toList.foldl (fun n b => 256 * n + b.toNat) 1

theorem byteFold_eq (r : List UInt8) :
    r.reverse.foldl (fun n b => 256 * n + b.toNat) 1 = digitsKey 256 UInt8.toNat r := by
  induction r with
  | nil => rfl
  | cons b r ih => rw [List.reverse_cons, List.foldl_append, List.foldl_cons, List.foldl_nil, ih, Nat.mul_comm]; rfl

theorem keyCode_inj {s t : String} : keyCode s = keyCode t ↔ s = t := by
  refine ⟨fun h => String.toByteArray_inj.mp (ByteArray.ext (Array.ext' (List.reverse_inj.mp ?_))), congrArg keyCode⟩
  have e := fun l : List UInt8 => byteFold_eq l.reverse
  simp only [List.reverse_reverse] at e
  rw [keyCode, keyCode, e, e] at h
  exact digitsKey_inj (by decide) (fun b => b.toNat_lt) (fun _ _ => UInt8.toNat_inj.mp) h

theorem beq_eq_keyCode (s t : String) : (s == t) = (keyCode s == keyCode t) :=
  Bool.eq_iff_iff.mpr (by rw [beq_iff_eq, beq_iff_eq, keyCode_inj])

end SciVerif.Util
