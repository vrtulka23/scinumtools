/-!
Scanning a list from the left with a Boolean class `p`: where `takeWhile`, `dropWhile` and `span` stop, and
what trimming both ends leaves.  Every text scanner of the models (Python `str.strip`, regular-expression
classes, `str.split` on a class) is one of these core functions applied to a rendered text
`a ++ b`; the facts here are stated once for any element type and any class.
-/
namespace SciVerif.Util

variable {α : Type} {p : α → Bool}

/-- `w` is empty or starts outside the class `p`: a `p`-scan stops in front of `w`. -/
def HeadNot (p : α → Bool) (w : List α) : Prop := ∀ a t, w = a :: t → p a = false

theorem HeadNot.nil : HeadNot p [] := fun _ _ e => nomatch e

theorem HeadNot.cons {a : α} (h : p a = false) (t : List α) : HeadNot p (a :: t) :=
  fun _ _ e => (List.cons.inj e).1 ▸ h

theorem HeadNot.append {w : List α} (h : HeadNot p w) (hne : w ≠ []) (r : List α) : HeadNot p (w ++ r) := by
  cases w with
  | nil => exact absurd rfl hne
  | cons a t => exact .cons (h a t rfl) _

theorem HeadNot.append_of_all {a b : List α} (ha : ∀ c ∈ a, p c = false) (hb : HeadNot p b) :
    HeadNot p (a ++ b) := by
  cases a with
  | nil => exact hb
  | cons x t => exact .cons (ha x (List.mem_cons_self ..)) _

theorem dropWhile_of_headNot {w : List α} (h : HeadNot p w) : w.dropWhile p = w := by
  cases w with
  | nil => rfl
  | cons a t => rw [List.dropWhile_cons, if_neg (by simp [h a t rfl])]

theorem takeWhile_of_headNot {w : List α} (h : HeadNot p w) : w.takeWhile p = [] := by
  cases w with
  | nil => rfl
  | cons a t => rw [List.takeWhile_cons, if_neg (by simp [h a t rfl])]

theorem dropWhile_of_all {l : List α} (h : ∀ x ∈ l, p x = true) : l.dropWhile p = [] := by
  simpa using List.dropWhile_append_of_pos (l₂ := []) h

theorem headNot_dropWhile (p : α → Bool) (l : List α) : HeadNot p (l.dropWhile p) := by
  induction l with
  | nil => exact .nil
  | cons a t ih =>
    rw [List.dropWhile_cons]
    split
    · exact ih
    · exact .cons (by simpa using ‹¬ p a = true›) t

theorem mem_takeWhile {l : List α} {x : α} (h : x ∈ l.takeWhile p) : p x = true := by
  induction l with
  | nil => cases h
  | cons a t ih =>
    rw [List.takeWhile_cons] at h
    split at h
    · rcases List.mem_cons.1 h with rfl | h
      · assumption
      · exact ih h
    · cases h

theorem takeWhile_append_headNot {a b : List α} (ha : ∀ x ∈ a, p x = true) (hb : HeadNot p b) :
    (a ++ b).takeWhile p = a := by
  rw [List.takeWhile_append_of_pos ha, takeWhile_of_headNot hb, List.append_nil]

theorem dropWhile_append_headNot {a b : List α} (ha : ∀ x ∈ a, p x = true) (hb : HeadNot p b) :
    (a ++ b).dropWhile p = b := by
  rw [List.dropWhile_append_of_pos ha, dropWhile_of_headNot hb]

theorem span_loop_eq (p : α → Bool) : ∀ l acc : List α,
    List.span.loop p l acc = (acc.reverse ++ l.takeWhile p, l.dropWhile p)
  | [], acc => by simp [List.span.loop]
  | a :: t, acc => by
    cases h : p a <;> simp [List.span.loop, h, span_loop_eq p t]

theorem span_eq (p : α → Bool) (l : List α) : l.span p = (l.takeWhile p, l.dropWhile p) := by
  rw [List.span, span_loop_eq]; rfl

theorem span_append_headNot {a b : List α} (ha : ∀ x ∈ a, p x = true) (hb : HeadNot p b) :
    (a ++ b).span p = (a, b) := by
  rw [span_eq, takeWhile_append_headNot ha hb, dropWhile_append_headNot ha hb]

theorem takeWhile_append_stop (l s : List α) {e : α} (he : p e = false) :
    (l ++ e :: s).takeWhile p = l.takeWhile p := by
  induction l with
  | nil => simp [he]
  | cons a t ih => cases h : p a <;> simp [h, ih]

theorem dropWhile_append_stop (l s : List α) {e : α} (he : p e = false) :
    (l ++ e :: s).dropWhile p = l.dropWhile p ++ e :: s := by
  induction l with
  | nil => simp [he]
  | cons a t ih => cases h : p a <;> simp [h, ih]

/-- `w` is empty or starts with one of the listed elements.  One such fact about a tail serves every scanner:
    whatever class `p` a scanner uses, `HeadIn.headNot` turns it into `HeadNot p w` by deciding `p` on `cs`. -/
def HeadIn (cs w : List α) : Prop := ∀ a t, w = a :: t → a ∈ cs

theorem HeadIn.nil {cs : List α} : HeadIn cs [] := fun _ _ e => nomatch e

theorem HeadIn.cons {cs : List α} {a : α} (h : a ∈ cs) (t : List α) : HeadIn cs (a :: t) :=
  fun _ _ e => (List.cons.inj e).1 ▸ h

theorem HeadIn.mono {cs ds w : List α} (h : HeadIn cs w) (hsub : ∀ a ∈ cs, a ∈ ds) : HeadIn ds w :=
  fun a t e => hsub a (h a t e)

theorem HeadIn.headNot {cs w : List α} (h : HeadIn cs w) (hcs : ∀ c ∈ cs, p c = false) : HeadNot p w :=
  fun a t e => hcs a (h a t e)

theorem HeadIn.replicate_append {cs w : List α} (h : HeadIn cs w) (c : α) (n : Nat) :
    HeadIn (c :: cs) (List.replicate n c ++ w) := by
  cases n with
  | zero => exact h.mono fun a ha => List.mem_cons_of_mem _ ha
  | succ n => exact .cons (List.mem_cons_self ..) _

theorem ne_of_class {c d : α} (hc : p c = true) (hd : p d = false) : c ≠ d :=
  fun e => by rw [e, hd] at hc; cases hc

theorem dropWhile_append_of_exists_neg {s : List α} (h : ∃ c ∈ s, p c = false) (t : List α) :
    (s ++ t).dropWhile p = s.dropWhile p ++ t := by
  induction s with
  | nil => obtain ⟨_, hc, _⟩ := h; cases hc
  | cons a r ih =>
    cases ha : p a
    · simp [ha]
    · obtain ⟨c, hc, hpc⟩ := h
      rcases List.mem_cons.1 hc with rfl | hc
      · rw [ha] at hpc; cases hpc
      · simp [ha, ih ⟨c, hc, hpc⟩]

theorem all_replicate {c : α} (hc : p c = true) (k : Nat) : ∀ x ∈ List.replicate k c, p x = true :=
  fun _ h => (List.eq_of_mem_replicate h) ▸ hc

theorem span_append_stop (l s : List α) {e : α} (he : p e = false) :
    (l ++ e :: s).span p = ((l.span p).1, (l.span p).2 ++ e :: s) := by
  rw [span_eq, span_eq, takeWhile_append_stop l s he, dropWhile_append_stop l s he]

/-- Python `s.strip()` for the class `p` of characters to drop. -/
def trim (p : α → Bool) (s : List α) : List α := ((s.dropWhile p).reverse.dropWhile p).reverse

/-- Neither end of `c` is in the class (the empty list included). -/
def Trimmed (p : α → Bool) (c : List α) : Prop := HeadNot p c ∧ HeadNot p c.reverse

theorem trimmed_iff {c : List α} :
    Trimmed p c ↔ (∀ x ∈ c.head?, p x = false) ∧ (∀ y ∈ c.getLast?, p y = false) := by
  have key : ∀ w : List α, HeadNot p w ↔ ∀ x ∈ w.head?, p x = false := by
    intro w
    cases w with
    | nil => exact ⟨fun _ _ h => (nomatch h), fun _ => HeadNot.nil⟩
    | cons a t => exact ⟨fun h x hx => by cases hx; exact h a t rfl, fun h => .cons (h a rfl) t⟩
  rw [Trimmed, key, key, List.head?_reverse]

theorem trim_pad {l r c : List α} (hl : ∀ x ∈ l, p x = true) (hr : ∀ x ∈ r, p x = true)
    (hc : Trimmed p c) : trim p (l ++ c ++ r) = c := by
  unfold trim
  cases c with
  | nil =>
    rw [List.append_nil, List.dropWhile_append_of_pos hl, dropWhile_of_all hr]
    rfl
  | cons a t =>
    rw [List.append_assoc, List.dropWhile_append_of_pos hl,
      dropWhile_of_headNot (hc.1.append (List.cons_ne_nil a t) r), List.reverse_append,
      dropWhile_append_headNot (by simpa using hr) hc.2, List.reverse_reverse]

theorem trim_of_trimmed {c : List α} (hc : Trimmed p c) : trim p c = c := by
  simpa using trim_pad (l := []) (r := []) (List.forall_mem_nil _) (List.forall_mem_nil _) hc

theorem trim_of_all {l : List α} (hl : ∀ x ∈ l, p x = true) : trim p l = [] := by
  simpa using trim_pad (r := []) hl (List.forall_mem_nil _) (⟨.nil, .nil⟩ : Trimmed p [])

end SciVerif.Util
