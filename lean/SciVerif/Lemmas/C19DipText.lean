import SciVerif.Lemmas.C19Values
import SciVerif.Model.C19Dip
/-!
# C19 — DIP text: the line reader inverts `ExportConfig.parse` (numbers, scalar strings, arrays of strings)

A line is `NAME TYPE[DIMS] = VALUE[ UNIT]`.  The head (name, keyword, dimensions, ` = `) is read once for all kinds
(`readDipLine_head`); what is left is `readDipValue`, with one lemma per kind of value.  The conditions on a parameter
are `ParamOKDipNum`, `ParamOKDipStr` (either: `ParamOKDip`), `ParamOKDipStrArr` (any of the three: `ParamOKDipAll`);
the theorems are
`readDipLine_lineDip_all` and `readDip_exportDip_all`.
-/
namespace SciVerif.C19

theorem dipScalar_eq (k : Kind) (hk : k ≠ Kind.str) (e : Bool) (s : Scalar) (h : ScalarOK k s) :
    dipScalar e s = printScalar styleRust s := by
  cases s with
  | b v => cases v <;> simp [dipScalar, printScalar, styleRust]
  | i v => simp [dipScalar, printScalar]
  | f t => simp [dipScalar, printScalar]
  | s v => exact absurd h hk

mutual
theorem dipArray_eq (k : Kind) (hk : k ≠ Kind.str) : (v : Val) → ValOK k v →
    dipArray v = printTokC '[' ']' (tokTree styleRust v)
  | .leaf s, h => dipScalar_eq k hk true s h
  | .arr vs, h => by rw [dipArray, dipArrayList_eq k hk vs h]; rfl
theorem dipArrayList_eq (k : Kind) (hk : k ≠ Kind.str) : (vs : List Val) → ValsOK k vs →
    dipArrayList vs = printToksC '[' ']' (tokTrees styleRust vs)
  | [], _ => rfl
  | [v], h => dipArray_eq k hk v h.1
  | v :: w :: vs, h => by
    rw [dipArrayList, dipArray_eq k hk v h.1, dipArrayList_eq k hk (w :: vs) h.2]
    rfl
end

theorem parseInit_dipArray (k : Kind) (hk : k ≠ Kind.str) (v : Val) (hv : ValOK k v) :
    parseInit .backslash '[' ']' (dipArray v) = some (tokTree styleRust v) := by
  rw [dipArray_eq k hk v hv]
  exact parseInit_printTokC .backslash '[' ']' good_bracket _ (safe_tree styleRust '[' ']' styleRust_ok k v hv)

def tokCh (ch : Char) : Prop := ch ≠ ' ' ∧ ch ≠ '#' ∧ ch ≠ '\n'

theorem tokCh_of_floatChar (ch : Char) (h : floatChar ch = true) : tokCh ch := by
  refine ⟨?_, ?_, ?_⟩ <;> (intro e; subst e; revert h; decide)

theorem scalar_tokCh (k : Kind) (hk : k ≠ Kind.str) (s : Scalar) (h : ScalarOK k s) :
    ∀ ch ∈ printScalar styleRust s, tokCh ch := by
  have hw : ∀ ch ∈ styleRust.tru ++ styleRust.fls, ch ≠ ' ' ∧ ch ≠ '#' ∧ ch ≠ '\n' := by decide
  rcases printScalar_cases styleRust k s h with ⟨v, rfl⟩ | e | e | ⟨_, e⟩
  · exact absurd h hk
  · exact e ▸ fun ch hch => hw ch (List.mem_append_left _ hch)
  · exact e ▸ fun ch hch => hw ch (List.mem_append_right _ hch)
  · exact fun ch hch => tokCh_of_floatChar ch (e ch hch)

mutual
theorem dipArray_tokCh (k : Kind) (hk : k ≠ Kind.str) : (v : Val) → ValOK k v → ∀ ch ∈ dipArray v, tokCh ch
  | .leaf s, h => by
    rw [dipArray, dipScalar_eq k hk true s h]
    exact scalar_tokCh k hk s h
  | .arr vs, h => forall_mem_wrap '[' ']' _ ⟨by decide, by decide, by decide⟩ ⟨by decide, by decide, by decide⟩
      (dipArrayList_tokCh k hk vs h)
theorem dipArrayList_tokCh (k : Kind) (hk : k ≠ Kind.str) : (vs : List Val) → ValsOK k vs →
    ∀ ch ∈ dipArrayList vs, tokCh ch
  | [], _ => fun _ h => nomatch h
  | [v], h => dipArray_tokCh k hk v h.1
  | v :: w :: vs, h => forall_mem_sep ',' _ _ ⟨by decide, by decide, by decide⟩ (dipArray_tokCh k hk v h.1)
      (dipArrayList_tokCh k hk (w :: vs) h.2)
end

theorem dipArray_ne_nil : (v : Val) → (k : Kind) → ValOK k v → k ≠ Kind.str → dipArray v ≠ []
  | .leaf s, k, h, hk => by
    rw [dipArray, dipScalar_eq k hk true s h]
    rcases printScalar_cases styleRust k s h with ⟨v, rfl⟩ | e | e | ⟨hne, _⟩
    · exact absurd h hk
    · exact e ▸ by decide
    · exact e ▸ by decide
    · exact hne
  | .arr vs, _, _, _ => by simp [dipArray]

theorem dipKind_lookup : ∀ d ∈ Gen.dipTypes,
    (∃ t, lookupType bDip d.1 d.2 = some t ∧ dipKind t = some d ∧
      t.all (fun c => c ≠ '[' ∧ c ≠ ' ' ∧ c ≠ '\n') = true) := by
  decide +kernel

theorem dip_keyword (k : Kind) (bits : Nat) (h : (k, bits) ∈ Gen.dipTypes) :
    ∃ t, lookupType bDip k bits = some t ∧ dipKind t = some (k, bits) ∧
      (∀ ch ∈ t, ch ≠ '[' ∧ ch ≠ ' ') ∧ clean t = true := by
  obtain ⟨t, h1, h2, h3⟩ := dipKind_lookup (k, bits) h
  have hall := fun ch hch => of_decide_eq_true (List.all_eq_true.mp h3 ch hch)
  exact ⟨t, h1, h2, fun ch hch => ⟨(hall ch hch).1, (hall ch hch).2.1⟩, (clean_iff t).mpr fun ch hch => (hall ch hch).2.2⟩

theorem clean_of_dipName (name : Str) (h : name.all dipNameChar = true) : clean name = true :=
  (clean_iff name).mpr fun ch hch e => absurd (List.all_eq_true.mp h ch hch) (e ▸ by decide)

/-- `[2,3]` after the keyword of an array node, nothing after that of a scalar -/
def dimsText : Option (List Nat) → Str
  | none => []
  | some sh => '[' :: (commaNats sh ++ [']'])

theorem clean_dimsText (dims : Option (List Nat)) : clean (dimsText dims) = true := by
  cases dims with
  | none => rfl
  | some sh => simp only [dimsText, clean_cons, clean_append, clean_commaNats, clean_nil]; rfl

theorem dipDims_dimsText (dims : Option (List Nat)) (hne : ∀ sh, dims = some sh → sh ≠ []) (rest : Str) :
    dipDims (dimsText dims ++ (cs!" = " ++ rest)) = some (dims, cs!" = " ++ rest) := by
  cases dims with
  | none => rfl
  | some sh =>
    have hsp := fun r => span_stop_cons (fun c => decide (c ≠ ']')) (commaNats sh) ']' r
      (fun ch hch => by simpa using commaNats_no ']' (by decide) (by decide) sh ch hch) rfl
    simp only [dimsText, List.cons_append, List.append_assoc, dipDims, hsp, parseCommaNats_commaNats sh (hne sh rfl),
      List.nil_append]

/-- `readDipLine` after name, type keyword, dimensions and ` = ` -/
def readDipValue (name : Str) (k : Kind) (bits : Nat) (dims : Option (List Nat)) (r : Str) : Option Param :=
  if k = Kind.str then dipStrLine name bits dims r else
  let (tok, r) := r.span (fun c => c ≠ ' ' ∧ c ≠ '#')
  if tok = [] then none else do
  let unit ← dipUnit r
  let v ← dipValue k dims tok
  some ⟨name, k, bits, v, unit, []⟩

theorem readDipLine_head (name t rest : Str) (k : Kind) (bits : Nat) (dims : Option (List Nat))
    (hne : name ≠ []) (hname : name.all dipNameChar = true) (ht : ∀ ch ∈ t, ch ≠ '[' ∧ ch ≠ ' ')
    (hkind : dipKind t = some (k, bits)) (hdims : ∀ sh, dims = some sh → sh ≠ []) :
    readDipLine (name ++ ([' '] ++ (t ++ (dimsText dims ++ (cs!" = " ++ rest))))) =
      readDipValue name k bits dims rest := by
  have hsp1 := span_stop_lit dipNameChar name ' ' [] (t ++ (dimsText dims ++ (cs!" = " ++ rest)))
    (fun ch hch => List.all_eq_true.mp hname ch hch) (by decide)
  have hsp2 : (t ++ (dimsText dims ++ (cs!" = " ++ rest))).span (fun c => decide (c ≠ '[' ∧ c ≠ ' ')) =
      (t, dimsText dims ++ (cs!" = " ++ rest)) := by
    apply Util.span_append_headNot
    · exact fun ch hch => decide_eq_true (ht ch hch)
    · intro x r e
      cases dims <;> (cases e; rfl)
  unfold readDipLine readDipValue
  rw [hsp1]
  simp only [hne, if_false, dropPrefix_append, Option.bind_eq_bind, Option.bind_some, hsp2, hkind,
    dipDims_dimsText dims hdims]

/-- the unit (if any) is one the parser reads as a unit -/
def UnitOK : Option Str → Prop
  | none => True
  | some u => u.all dipUnitChar = true ∧ ∃ x r, u = x :: r ∧ x ≠ '/' ∧ x ≠ '*' ∧ x ≠ '+' ∧ x ≠ '-'

def unitTail : Option Str → Str
  | some x => ' ' :: x
  | none => []

theorem dipUnit_tail (u : Option Str) (h : UnitOK u) : dipUnit (unitTail u) = some u := by
  cases u with
  | none => rfl
  | some x =>
    obtain ⟨hall, c, r, rfl, h1, h2, h3, h4⟩ := h
    simp only [unitTail, dipUnit, h1, h2, h3, h4, or_self, if_false, hall, if_true]

theorem clean_unitTail (u : Option Str) (h : UnitOK u) : clean (unitTail u) = true := by
  cases u with
  | none => rfl
  | some x =>
    refine (clean_iff _).mpr fun ch hch e => ?_
    rcases List.mem_cons.mp hch with h1 | h1
    · exact absurd (h1.symm.trans e) (by decide)
    · exact absurd (List.all_eq_true.mp h.1 ch h1) (e ▸ by decide)

/-- the declared dimensions: those of an array value -/
def dipDimsOf (v : Val) (sh : List Nat) : Option (List Nat) :=
  match v with
  | .leaf _ => none
  | .arr _ => some sh

theorem dipDimsOf_ne (v : Val) (sh : List Nat) (hr : rectShape v = some sh) :
    ∀ sh', dipDimsOf v sh = some sh' → sh' ≠ [] := by
  intro sh' e
  cases v with
  | leaf _ => cases e
  | arr vs => cases e; exact shape_ne_nil_of_arr _ sh hr rfl

/-- the value as `lineDip` writes it -/
def dipValueText (p : Param) : Str :=
  match p.value with
  | .leaf s => dipScalar false s
  | .arr _ => if p.kind = Kind.str then '\'' :: (dipArray p.value ++ ['\'']) else dipArray p.value

theorem lineDip_eq (p : Param) (t : Str) (ht : lookupType bDip p.kind p.bits = some t) (sh : List Nat)
    (hs : shapeOf p.value = some sh) :
    lineDip p = some (p.name ++ ([' '] ++ (t ++ (dimsText (dipDimsOf p.value sh) ++
      (cs!" = " ++ (dipValueText p ++ unitTail p.unit)))))) := by
  unfold lineDip dipValueText dipDimsOf
  simp only [ht, Option.bind_eq_bind, Option.bind_some]
  cases hv : p.value with
  | leaf s =>
    cases p.unit <;> simp only [dimsText, unitTail, List.append_assoc, List.nil_append, List.append_nil] <;> rfl
  | arr vs =>
    rw [hv] at hs
    cases p.unit <;> by_cases hk : p.kind = Kind.str <;>
      simp only [hs, hk, if_true, if_false, Option.bind_some, dimsText, unitTail, List.append_assoc, List.nil_append,
        List.append_nil, List.cons_append] <;> rfl

/-- the line of `p` exists, is read back as `p` without its tags, and is a line of the file: no newline, not empty -/
def DipLineOK (p : Param) : Prop :=
  ∃ l, lineDip p = some l ∧ readDipLine l = some { p with tags := [] } ∧ Line l

/-- what is common to the three kinds of node: from the value text and its reading to the whole line -/
theorem dipLine_ok (p : Param) (hne : p.name ≠ []) (hname : p.name.all dipNameChar = true)
    (hty : (p.kind, p.bits) ∈ Gen.dipTypes) (sh : List Nat) (hr : rectShape p.value = some sh) (h0 : 0 ∉ sh)
    (hval : clean (dipValueText p) = true) (hu : clean (unitTail p.unit) = true)
    (hread : readDipValue p.name p.kind p.bits (dipDimsOf p.value sh) (dipValueText p ++ unitTail p.unit) =
      some ⟨p.name, p.kind, p.bits, p.value, p.unit, []⟩) :
    DipLineOK p := by
  obtain ⟨t, ht, hkind, htc, hct⟩ := dip_keyword p.kind p.bits hty
  refine ⟨_, lineDip_eq p t ht sh (shapeOf_of_rect p.value sh hr h0), ?_, ?_, ?_⟩
  · rw [readDipLine_head p.name t _ p.kind p.bits _ hne hname htc hkind (dipDimsOf_ne p.value sh hr), hread]
  · simp only [clean_append, clean_of_dipName p.name hname, hct, clean_dimsText, hval, hu]
    rfl
  · exact fun e => hne (List.append_eq_nil_iff.mp e).1

theorem readDipValue_num (name : Str) (k : Kind) (hk : k ≠ Kind.str) (bits : Nat) (dims : Option (List Nat))
    (tok : Str) (u : Option Str) (htok : tok ≠ []) (htc : ∀ ch ∈ tok, tokCh ch) (hu : UnitOK u) :
    readDipValue name k bits dims (tok ++ unitTail u) = (dipValue k dims tok).map (fun v => ⟨name, k, bits, v, u, []⟩) := by
  have hsp : (tok ++ unitTail u).span (fun c => decide (c ≠ ' ' ∧ c ≠ '#')) = (tok, unitTail u) := by
    apply Util.span_append_headNot
    · exact fun ch hch => decide_eq_true ⟨(htc ch hch).1, (htc ch hch).2.1⟩
    · intro x r e
      cases u <;> cases e <;> rfl
  unfold readDipValue
  rw [if_neg hk, hsp]
  simp only [htok, if_false, dipUnit_tail u hu, Option.bind_eq_bind, Option.bind_some]
  cases dipValue k dims tok <;> rfl

/-- for these kinds a scalar is written like an element, so the value text is `dipArray` in both cases -/
theorem dipValueText_num (p : Param) (hk : p.kind ≠ Kind.str) (hv : ValOK p.kind p.value) :
    dipValueText p = dipArray p.value := by
  unfold dipValueText
  cases hval : p.value with
  | leaf s =>
    have hs : ScalarOK p.kind s := by rw [hval] at hv; exact hv
    simp only [dipArray, dipScalar_eq p.kind hk _ s hs]
  | arr vs => simp only [hk, if_false]

theorem dipValue_dipArray (k : Kind) (hk : k ≠ Kind.str) (v : Val) (hv : ValOK k v) (sh : List Nat)
    (hr : rectShape v = some sh) : dipValue k (dipDimsOf v sh) (dipArray v) = some v := by
  cases v with
  | leaf s =>
    have hs : ScalarOK k s := hv
    have := readScalar_print styleRust (by decide) k s hs
    simp only [dipDimsOf, dipValue, dipArray, dipScalar_eq k hk true s hs]
    simp only [styleRust] at this ⊢
    rw [this]
    rfl
  | arr vs =>
    simp only [dipDimsOf, dipValue, parseInit_dipArray k hk _ hv, Option.bind_eq_bind, Option.bind_some, rectShape_tokTree,
      hr, ne_eq, not_true_eq_false, if_false]
    exact interp_tokTree styleRust (by decide) k _ hv


/-- what the DIP round trip asks of a parameter: a DIP name, a non-string type the parser accepts, a value of
    that kind, rectangular without empty levels, a readable unit -/
def ParamOKDipNum (p : Param) : Prop :=
  p.name ≠ [] ∧ p.name.all dipNameChar = true ∧ (p.kind, p.bits) ∈ Gen.dipTypes ∧ p.kind ≠ Kind.str ∧
  ValOK p.kind p.value ∧ (∃ sh, rectShape p.value = some sh ∧ 0 ∉ sh) ∧ UnitOK p.unit

theorem dipLine_num (p : Param) (h : ParamOKDipNum p) : DipLineOK p := by
  obtain ⟨hne, hname, hty, hk, hv, ⟨sh, hr, h0⟩, hu⟩ := h
  have htc := dipArray_tokCh p.kind hk p.value hv
  refine dipLine_ok p hne hname hty sh hr h0 ?_ (clean_unitTail _ hu) ?_
  · rw [dipValueText_num p hk hv]
    exact (clean_iff _).mpr fun ch hch => (htc ch hch).2.2
  · rw [dipValueText_num p hk hv, readDipValue_num p.name p.kind hk p.bits _ _ p.unit (dipArray_ne_nil _ _ hv hk) htc hu,
      dipValue_dipArray p.kind hk p.value hv sh hr]
    rfl

def dipEscChar (c : Char) : Str := if c = '\'' then ['\\', '\''] else if c = '"' then ['\\', '"'] else [c]

/-- a trailing backslash would take the closing quote with it (`\\"` is read as a quote character) -/
def endsBS : Str → Bool
  | [] => false
  | [c] => c = '\\'
  | _ :: c :: r => endsBS (c :: r)

theorem dipScalar_str (v : Str) : dipScalar false (.s v) = '"' :: (v.flatMap dipEscChar ++ ['"']) :=
  congrArg (fun b => '"' :: (b ++ ['"'])) (replaceChar_replaceChar '\'' '"' _ _ v)

/-- the second conjunct (pending backslash) is what carries the induction through a raw backslash in the value -/
theorem dipStrGo_esc : ∀ (v : Str), endsBS v = false →
    dipStrGo false (v.flatMap dipEscChar ++ ['"']) = some (v, []) ∧
    (v ≠ [] → dipStrGo true (v.flatMap dipEscChar ++ ['"']) = some ('\\' :: v, []))
  | [], _ => by simp [dipStrGo]
  | c :: v, h => by
    by_cases h3 : c = '\\'
    · -- a backslash is kept pending: what follows decides (the text does not end here)
      subst h3
      cases v with
      | nil => cases h
      | cons d w =>
        have ih2 := (dipStrGo_esc (d :: w) h).2 (List.cons_ne_nil _ _)
        have e : ('\\' :: d :: w).flatMap dipEscChar ++ ['"'] = '\\' :: ((d :: w).flatMap dipEscChar ++ ['"']) := rfl
        rw [e]
        simp only [List.flatMap_cons, List.append_assoc] at ih2
        simp [dipStrGo, ih2]
    · have hv : endsBS v = false := by
        cases v with
        | nil => rfl
        | cons d w => exact h
      have ih := (dipStrGo_esc v hv).1
      rw [List.flatMap_cons]
      fun_cases dipEscChar c <;> simp [dipStrGo, *]

theorem esc_forall {P : Char → Prop} (hq : P '"') (ha : P '\'') (hb : P '\\') (v : Str) (h : ∀ ch ∈ v, P ch) :
    ∀ ch ∈ v.flatMap dipEscChar ++ ['"'], P ch :=
  List.forall_mem_append.mpr ⟨List.forall_mem_flatMap.mpr fun x hx => by
    have := h x hx
    fun_cases dipEscChar x <;> simp [*], List.forall_mem_singleton.mpr hq⟩

theorem esc_clean (v : Str) (h : clean v = true) : clean (v.flatMap dipEscChar ++ ['"']) = true :=
  (clean_iff _).mpr (esc_forall (by decide) (by decide) (by decide) v ((clean_iff v).mp h))

/-- a scalar string node: any text without `$` and newline that does not end in a backslash -/
def ParamOKDipStr (p : Param) : Prop :=
  p.name ≠ [] ∧ p.name.all dipNameChar = true ∧ (p.kind, p.bits) ∈ Gen.dipTypes ∧ p.kind = Kind.str ∧ p.unit = none ∧
  ∃ v, p.value = .leaf (.s v) ∧ endsBS v = false ∧ (∀ ch ∈ v, ch ≠ '$') ∧ clean v = true

theorem readDipValue_str (name : Str) (bits : Nat) (v : Str) (hv1 : endsBS v = false) (hv2 : ∀ ch ∈ v, ch ≠ '$') :
    readDipValue name Kind.str bits none ('"' :: (v.flatMap dipEscChar ++ ['"'])) =
      some ⟨name, .str, bits, .leaf (.s v), none, []⟩ := by
  have hall : (v.flatMap dipEscChar ++ ['"']).all (fun c => decide (c ≠ '$')) = true :=
    List.all_eq_true.mpr fun ch hch => decide_eq_true (esc_forall (by decide) (by decide) (by decide) v hv2 ch hch)
  simp only [readDipValue, if_true, dipStrLine, hall, (dipStrGo_esc v hv1).1]

theorem dipLine_str (p : Param) (h : ParamOKDipStr p) : DipLineOK p := by
  obtain ⟨hne, hname, hty, hk, hu, v, hv, h1, h2, h3⟩ := h
  have htxt : dipValueText p = '"' :: (v.flatMap dipEscChar ++ ['"']) := by
    rw [dipValueText, hv]
    exact dipScalar_str v
  refine dipLine_ok p hne hname hty [] (by rw [hv]; rfl) (by simp) ?_ (by rw [hu]; rfl) ?_
  · rw [htxt, clean_cons, esc_clean v h3]
    rfl
  · rw [htxt, hk, hu, hv, unitTail, List.append_nil]
    exact readDipValue_str p.name p.bits v h1 h2

def ParamOKDip (p : Param) : Prop := ParamOKDipNum p ∨ ParamOKDipStr p

theorem hexVal_hexDigit : ∀ d, d < 16 → hexVal (hexDigit d) = some d := by decide

theorem hexDigit_chars : ∀ d, d < 16 →
    hexDigit d ≠ '"' ∧ hexDigit d ≠ '\'' ∧ hexDigit d ≠ '\n' ∧ hexDigit d ≠ '$' := by decide

/-- the four hexadecimal digits of a 16-bit number are worth that number: each step puts one digit back -/
theorem hex4_val (n : Nat) (h : n < 65536) :
    (((0 * 16 + n / 4096 % 16) * 16 + n / 256 % 16) * 16 + n / 16 % 16) * 16 + n % 16 = n := by
  have e1 : n / 4096 % 16 = n / 256 / 16 := by
    rw [Nat.div_div_eq_div_mul, Nat.mod_eq_of_lt (Nat.div_lt_of_lt_mul h)]
  have e2 : n / 256 = n / 16 / 16 := by rw [Nat.div_div_eq_div_mul]
  rw [Nat.zero_mul, Nat.zero_add, e1, Nat.div_add_mod' (n / 256) 16, e2, Nat.div_add_mod' (n / 16) 16,
    Nat.div_add_mod' n 16]

theorem jsonGo_digit (k acc : Nat) (hi : Option Nat) (d : Nat) (hd : d < 16) (r : Str) :
    jsonGo (.hex (k + 1) acc) hi (hexDigit d :: r) = jsonGo (.hex k (acc * 16 + d)) hi r := by
  rw [jsonGo, hexVal_hexDigit d hd]
  simp only [Nat.succ_ne_zero, ne_eq, not_false_eq_true, if_true, Nat.add_sub_cancel]

theorem jsonGo_hex (hi : Option Nat) (n : Nat) (r : Str) :
    jsonGo .plain hi (jsonU n ++ r) =
      jsonGo (.hex 0 (((0 * 16 + n / 4096 % 16) * 16 + n / 256 % 16) * 16 + n / 16 % 16)) hi (hexDigit (n % 16) :: r) := by
  have h16 : ∀ m, m % 16 < 16 := fun m => Nat.mod_lt m (by decide)
  rw [jsonU, List.cons_append, jsonGo, if_pos rfl, List.cons_append, jsonGo, if_pos rfl, List.cons_append,
    jsonGo_digit 2 _ _ _ (h16 _), List.cons_append, jsonGo_digit 1 _ _ _ (h16 _), List.cons_append,
    jsonGo_digit 0 _ _ _ (h16 _)]
  rfl
theorem jsonGo_bmp (n : Nat) (h : n < 65536) (hs : n < 55296 ∨ 57343 < n) (r : Str) :
    jsonGo .plain none (jsonU n ++ r) = (jsonGo .plain none r).map (Char.ofNat n :: ·) := by
  rw [jsonGo_hex]
  have h4 := hexVal_hexDigit (n % 16) (Nat.mod_lt _ (by decide))
  have hv := hex4_val n h
  simp only [jsonGo, h4, ne_eq, not_true_eq_false, if_false, hv, hs, if_true]

theorem jsonGo_pair (a b : Nat) (ha : 55296 ≤ a ∧ a < 56320) (hb : 56320 ≤ b ∧ b ≤ 57343) (r : Str) :
    jsonGo .plain none (jsonU a ++ (jsonU b ++ r)) =
      (jsonGo .plain none r).map (Char.ofNat (65536 + (a - 55296) * 1024 + (b - 56320)) :: ·) := by
  rw [jsonGo_hex]
  have h4 := hexVal_hexDigit (a % 16) (Nat.mod_lt _ (by decide))
  have hv := hex4_val a (Nat.lt_trans ha.2 (by decide))
  have hs : ¬ (a < 55296 ∨ 57343 < a) :=
    fun h => h.elim (Nat.not_lt.mpr ha.1) (fun h => Nat.lt_asymm h (Nat.lt_trans ha.2 (by decide)))
  simp only [jsonGo, h4, ne_eq, not_true_eq_false, if_false, hv, hs, ha.2, if_true]
  rw [jsonGo_hex]
  have h4' := hexVal_hexDigit (b % 16) (Nat.mod_lt _ (by decide))
  have hv' := hex4_val b (Nat.lt_of_le_of_lt hb.2 (by decide))
  simp only [jsonGo, h4', ne_eq, not_true_eq_false, if_false, hv', hb, and_self, if_true]

/-- `"`, backslash and `'` are written like every character of the BMP outside ASCII -/
theorem dipElemChar_forms (c : Char) :
    (dipElemChar c = [c] ∧ c ≠ '"' ∧ c ≠ '\\' ∧ c ≠ '\'' ∧ c.toNat < 128) ∨
    (dipElemChar c = jsonU c.toNat ∧ c.toNat < 55296) ∨
    (dipElemChar c = jsonU c.toNat ∧ 57343 < c.toNat ∧ c.toNat < 65536) ∨
    (dipElemChar c = jsonU (55296 + (c.toNat - 65536) / 1024) ++ jsonU (56320 + (c.toNat - 65536) % 1024) ∧
      65536 ≤ c.toNat ∧ c.toNat < 1114112) := by
  have hval : c.toNat < 55296 ∨ (57343 < c.toNat ∧ c.toNat < 1114112) := c.valid
  fun_cases dipElemChar c
  · subst ‹c = '"'›; exact Or.inr (Or.inl ⟨rfl, by decide⟩)
  · subst ‹c = '\\'›; exact Or.inr (Or.inl ⟨rfl, by decide⟩)
  · subst ‹c = '\''›; exact Or.inr (Or.inl ⟨rfl, by decide⟩)
  · exact Or.inl ⟨rfl, ‹_›, ‹_›, ‹_›, ‹_›⟩
  · exact hval.elim (fun h => Or.inr (Or.inl ⟨rfl, h⟩)) (fun h => Or.inr (Or.inr (Or.inl ⟨rfl, h.1, ‹_›⟩)))
  · exact Or.inr (Or.inr (Or.inr ⟨rfl, by omega, by omega⟩))

theorem surrogate_arith (n : Nat) (h1 : 65536 ≤ n) (h2 : n < 1114112) :
    (55296 ≤ 55296 + (n - 65536) / 1024 ∧ 55296 + (n - 65536) / 1024 < 56320) ∧
    (56320 ≤ 56320 + (n - 65536) % 1024 ∧ 56320 + (n - 65536) % 1024 ≤ 57343) ∧
    65536 + (55296 + (n - 65536) / 1024 - 55296) * 1024 + (56320 + (n - 65536) % 1024 - 56320) = n := by
  have hd : (n - 65536) / 1024 < 1024 := Nat.div_lt_of_lt_mul (Nat.sub_lt_left_of_lt_add h1 h2)
  have hm : (n - 65536) % 1024 < 1024 := Nat.mod_lt _ (by decide)
  refine ⟨⟨Nat.le_add_right _ _, Nat.add_lt_add_left hd 55296⟩,
    ⟨Nat.le_add_right _ _, Nat.le_of_lt_succ (Nat.add_lt_add_left hm 56320)⟩, ?_⟩
  rw [Nat.add_sub_cancel_left, Nat.add_sub_cancel_left, Nat.add_assoc, Nat.div_add_mod', Nat.add_sub_of_le h1]

theorem jsonGo_char (c : Char) (h32 : 32 ≤ c.toNat) (r rest : Str) (ih : jsonGo .plain none r = some rest) :
    jsonGo .plain none (dipElemChar c ++ r) = some (c :: rest) := by
  rcases dipElemChar_forms c with ⟨e, h1, h2, _, _⟩ | ⟨e, h⟩ | ⟨e, h, h'⟩ | ⟨e, h, h'⟩ <;> rw [e]
  · simp only [List.cons_append, List.nil_append, jsonGo, h2, if_false, ne_eq, not_true_eq_false, h1, Nat.not_lt.mpr h32,
      or_self, ih, Option.map_some]
  · rw [jsonGo_bmp c.toNat (Nat.lt_trans h (by decide)) (Or.inl h), ih, Char.ofNat_toNat]
    rfl
  · rw [jsonGo_bmp c.toNat h' (Or.inr h), ih, Char.ofNat_toNat]
    rfl
  · obtain ⟨ha, hb, hc⟩ := surrogate_arith c.toNat h h'
    rw [List.append_assoc, jsonGo_pair _ _ ha hb, ih, hc, Char.ofNat_toNat]
    rfl

theorem jsonGo_elem : ∀ (v : Str), (∀ ch ∈ v, 32 ≤ ch.toNat) → jsonGo .plain none (v.flatMap dipElemChar) = some v
  | [], _ => rfl
  | c :: v, h => by
    have ih := jsonGo_elem v (fun ch hch => h ch (by simp [hch]))
    rw [List.flatMap_cons]
    exact jsonGo_char c (h c (by simp)) _ _ ih

theorem jsonU_chars (n : Nat) : ∀ ch ∈ jsonU n, ch ≠ '"' ∧ ch ≠ '\'' ∧ ch ≠ '\n' ∧ ch ≠ '$' := by
  intro ch hch
  simp only [jsonU, List.mem_cons, List.mem_nil_iff, or_false] at hch
  rcases hch with e | e | e | e | e | e <;> subst e
  · decide
  · decide
  all_goals exact hexDigit_chars _ (Nat.mod_lt _ (by decide))

theorem dipElemChar_chars (c : Char) (h32 : 32 ≤ c.toNat) (hd : c ≠ '$') :
    ∀ ch ∈ dipElemChar c, ch ≠ '"' ∧ ch ≠ '\'' ∧ ch ≠ '\n' ∧ ch ≠ '$' := by
  intro ch hch
  rcases dipElemChar_forms c with ⟨e, h1, _, h3, _⟩ | ⟨e, _⟩ | ⟨e, _⟩ | ⟨e, _⟩ <;> rw [e] at hch
  · obtain rfl := List.mem_singleton.mp hch
    exact ⟨h1, h3, fun e => by subst e; exact absurd h32 (by decide), hd⟩
  · exact jsonU_chars _ ch hch
  · exact jsonU_chars _ ch hch
  · rcases List.mem_append.mp hch with h | h <;> exact jsonU_chars _ ch h

theorem elem_chars (v : Str) (h : ∀ ch ∈ v, 32 ≤ ch.toNat ∧ ch ≠ '$') :
    ∀ ch ∈ v.flatMap dipElemChar, ch ≠ '"' ∧ ch ≠ '\'' ∧ ch ≠ '\n' ∧ ch ≠ '$' := by
  intro ch hch
  obtain ⟨c, hc, hm⟩ := List.mem_flatMap.mp hch
  exact dipElemChar_chars c (h c hc).1 (h c hc).2 ch hm

/-- one element token is a string literal in the `doubled` sense (its body has no `"`) -/
theorem dipScalar_elem (v : Str) (h : ∀ ch ∈ v, 32 ≤ ch.toNat ∧ ch ≠ '$') :
    dipScalar true (.s v) = quoteStr .doubled (v.flatMap dipElemChar) := by
  have : escStr .doubled (v.flatMap dipElemChar) = v.flatMap dipElemChar := by
    simp only [escStr]
    exact replaceChar_none _ _ _ (fun ch hch => (elem_chars v h ch hch).1)
  simp [dipScalar, quoteStr, this]

theorem jsonTok_elem (v : Str) (h : ∀ ch ∈ v, 32 ≤ ch.toNat ∧ ch ≠ '$') :
    jsonTok (dipScalar true (.s v)) = some (.s v) := by
  rw [dipScalar_elem v h]
  simp [jsonTok, unquote_quote, jsonGo_elem v (fun ch hch => (h ch hch).1)]

/-- an element of a string array the reader covers: a text without control characters and `$` -/
def ElemOK : Scalar → Prop
  | .s w => ∀ ch ∈ w, 32 ≤ ch.toNat ∧ ch ≠ '$'
  | _ => False

mutual
def StrArrOK : Val → Prop
  | .leaf s => ElemOK s
  | .arr vs => StrArrsOK vs
def StrArrsOK : List Val → Prop
  | [] => True
  | v :: vs => StrArrOK v ∧ StrArrsOK vs
end

mutual
/-- the token tree `_parse_dip_array` prints -/
def jtok : Val → TokTree
  | .leaf s => .leaf (dipScalar true s)
  | .arr vs => .arr (jtoks vs)
def jtoks : List Val → List TokTree
  | [] => []
  | v :: vs => jtok v :: jtoks vs
end

mutual
theorem dipArray_jtok : (v : Val) → dipArray v = printTokC '[' ']' (jtok v)
  | .leaf _ => rfl
  | .arr vs => by rw [dipArray, dipArrayList_jtoks vs]; rfl
theorem dipArrayList_jtoks : (vs : List Val) → dipArrayList vs = printToksC '[' ']' (jtoks vs)
  | [] => rfl
  | [v] => dipArray_jtok v
  | v :: w :: vs => by
    rw [dipArrayList, dipArray_jtok v, dipArrayList_jtoks (w :: vs)]
    rfl
end

theorem elemOK_s (s : Scalar) (h : ElemOK s) : ∃ w, s = .s w ∧ ∀ ch ∈ w, 32 ≤ ch.toNat ∧ ch ≠ '$' := by
  cases s with
  | s w => exact ⟨w, rfl, h⟩
  | b _ => exact absurd h (by simp [ElemOK])
  | i _ => exact absurd h (by simp [ElemOK])
  | f _ => exact absurd h (by simp [ElemOK])

mutual
theorem jtok_safe : (v : Val) → StrArrOK v → SafeTree .doubled '[' ']' (jtok v)
  | .leaf s, h => by
    obtain ⟨w, rfl, hw⟩ := elemOK_s s h
    rw [jtok, SafeTree, dipScalar_elem w hw]
    exact SafeTok.quoted _
  | .arr vs, h => jtoks_safe vs h
theorem jtoks_safe : (vs : List Val) → StrArrsOK vs → SafeTrees .doubled '[' ']' (jtoks vs)
  | [], _ => trivial
  | v :: vs, h => ⟨jtok_safe v h.1, jtoks_safe vs h.2⟩
end

mutual
theorem rectShape_jtok : (v : Val) → rectShape (jtok v) = rectShape v
  | .leaf _ => rfl
  | .arr vs => by
    simp only [jtok, rectShape, rectShapes_jtoks vs, jtoks_length vs]
theorem rectShapes_jtoks : (vs : List Val) → rectShapes (jtoks vs) = rectShapes vs
  | [] => rfl
  | v :: vs => by
    simp only [jtoks, rectShapes_cons, rectShape_jtok v, rectShapes_jtoks vs]
theorem jtoks_length : (vs : List Val) → (jtoks vs).length = vs.length
  | [] => rfl
  | _ :: vs => by simp [jtoks, jtoks_length vs]
end

mutual
theorem interpJ_jtok : (v : Val) → StrArrOK v → interpJ (jtok v) = some v
  | .leaf s, h => by
    obtain ⟨w, rfl, hw⟩ := elemOK_s s h
    exact congrArg (Option.map Tree.leaf) (jsonTok_elem w hw)
  | .arr vs, h => congrArg (Option.map Tree.arr) (interpJ_jtoks vs h)
theorem interpJ_jtoks : (vs : List Val) → StrArrsOK vs → interpJList (jtoks vs) = some vs
  | [], _ => rfl
  | v :: vs, h => by
    rw [jtoks, interpJList, interpJ_jtok v h.1, interpJ_jtoks vs h.2]
    rfl
end

/-- the characters of an exported array of strings: no `'`, no `$`, no newline -/
def arrCh (ch : Char) : Prop := ch ≠ '\'' ∧ ch ≠ '$' ∧ ch ≠ '\n'

mutual
theorem dipArray_arrCh : (v : Val) → StrArrOK v → ∀ ch ∈ dipArray v, arrCh ch
  | .leaf s, h => by
    obtain ⟨w, rfl, hw⟩ := elemOK_s s h
    exact forall_mem_wrap '"' '"' _ ⟨by decide, by decide, by decide⟩ ⟨by decide, by decide, by decide⟩
      (fun ch hch => have := elem_chars w hw ch hch; ⟨this.2.1, this.2.2.2, this.2.2.1⟩)
  | .arr vs, h => forall_mem_wrap '[' ']' _ ⟨by decide, by decide, by decide⟩ ⟨by decide, by decide, by decide⟩
      (dipArrayList_arrCh vs h)
theorem dipArrayList_arrCh : (vs : List Val) → StrArrsOK vs → ∀ ch ∈ dipArrayList vs, arrCh ch
  | [], _ => fun _ h => nomatch h
  | [v], h => dipArray_arrCh v h.1
  | v :: w :: vs, h => forall_mem_sep ',' _ _ ⟨by decide, by decide, by decide⟩ (dipArray_arrCh v h.1)
      (dipArrayList_arrCh (w :: vs) h.2)
end

theorem parseInit_dipArray_str (v : Val) (hv : StrArrOK v) : parseInit .doubled '[' ']' (dipArray v) = some (jtok v) := by
  rw [dipArray_jtok v]
  exact parseInit_printTokC .doubled '[' ']' good_bracket _ (jtok_safe v hv)

/-- what the DIP round trip asks of an array-of-strings node: a DIP name, the string type, no unit, a rectangular
    array value without empty levels whose elements have no control character and no `$` -/
def ParamOKDipStrArr (p : Param) : Prop :=
  p.name ≠ [] ∧ p.name.all dipNameChar = true ∧ (p.kind, p.bits) ∈ Gen.dipTypes ∧ p.kind = Kind.str ∧ p.unit = none ∧
  (∃ vs, p.value = .arr vs) ∧ StrArrOK p.value ∧ ∃ sh, rectShape p.value = some sh ∧ 0 ∉ sh

theorem dipStrArr_export (name : Str) (bits : Nat) (v : Val) (sh : List Nat) (hv : StrArrOK v)
    (hr : rectShape v = some sh) :
    dipStrArr name bits sh (dipArray v ++ ['\'']) = some ⟨name, .str, bits, v, none, []⟩ := by
  have hall : (dipArray v).all (fun c => decide (c ≠ '$' ∧ c ≠ '\'')) = true := by
    rw [List.all_eq_true]
    intro ch hch
    have := dipArray_arrCh v hv ch hch
    simp [this.1, this.2.1]
  have hshape : rectShape (jtok v) = some sh := by rw [rectShape_jtok, hr]
  unfold dipStrArr
  simp only [dropLastChar_snoc, Option.bind_eq_bind, Option.bind_some, hall, if_true, parseInit_dipArray_str v hv, hshape, ne_eq,
    not_true_eq_false, if_false, interpJ_jtok v hv]

theorem dipLine_strarr (p : Param) (h : ParamOKDipStrArr p) : DipLineOK p := by
  obtain ⟨hne, hname, hty, hk, hu, ⟨vs, hvs⟩, hv, sh, hr, h0⟩ := h
  have htxt : dipValueText p = '\'' :: (dipArray p.value ++ ['\'']) := by
    rw [dipValueText, hvs]
    exact if_pos hk
  have hdims : dipDimsOf p.value sh = some sh := by rw [hvs]; rfl
  refine dipLine_ok p hne hname hty sh hr h0 ?_ (by rw [hu]; rfl) ?_
  · rw [htxt, clean_cons, clean_append, (clean_iff _).mpr fun ch hch => (dipArray_arrCh p.value hv ch hch).2.2]
    rfl
  · rw [htxt, hdims, hu, unitTail, List.append_nil, hk]
    simp only [readDipValue, if_true, dipStrLine]
    rw [dipStrArr_export p.name p.bits p.value sh hv hr]

def ParamOKDipAll (p : Param) : Prop := ParamOKDip p ∨ ParamOKDipStrArr p

theorem dipLine_all (p : Param) (h : ParamOKDipAll p) : DipLineOK p := by
  rcases h with (h | h) | h
  · exact dipLine_num p h
  · exact dipLine_str p h
  · exact dipLine_strarr p h

theorem readDipLine_lineDip_all (p : Param) (h : ParamOKDipAll p) :
    (lineDip p).bind readDipLine = some { p with tags := [] } := by
  obtain ⟨l, h1, h2, _⟩ := dipLine_all p h
  rw [h1, Option.bind_some, h2]

theorem readDip_exportDip_all (data : List Param) (hok : ∀ p ∈ data, ParamOKDipAll p) :
    (exportDip data).bind readDip = some (expectedDip data) := by
  have hexp : some (expectedDip data) = data.mapM (fun p => some ({ p with tags := [] } : Param)) :=
    (Util.mapM_eq_pure (m := Option) fun _ _ => rfl).symm
  rw [hexp]
  exact readLines_joined lineDip readDipLine _ data (fun p hp => readDipLine_lineDip_all p (hok p hp))
    (fun p hp l hl => by
      obtain ⟨l', h1, _, h3, h4⟩ := dipLine_all p (hok p hp)
      cases h1.symm.trans hl
      exact ⟨h3, h4⟩)

end SciVerif.C19
