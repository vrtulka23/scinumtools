import SciVerif.Model.C01Spec
import SciVerif.Lemmas.Util.Scan

/-!
# C01, character level without the regenerated tables; the argument scanner only for the argument
  syntax `( , )` that every call of the default table has (`stdPar`).
-/
namespace SciVerif.C01

def blanks (k : Nat) : List Char := List.replicate k ' '

theorem blanks_succ (k : Nat) : blanks (k + 1) = ' ' :: blanks k := rfl

theorem blanks_zero : blanks 0 = [] := rfl

theorem blanks_length (k : Nat) : (blanks k).length = k := by simp [blanks]

theorem all_blanks (k : Nat) : ∀ x ∈ blanks k, isWs x = true := Util.all_replicate rfl k

/-- the first and the last character of `C` are not blanks -/
def Tight (C : List Char) : Prop :=
  ∃ x y, C.head? = some x ∧ isWs x = false ∧ C.getLast? = some y ∧ isWs y = false

theorem Tight.trimmed {c : List Char} (h : Tight c) : Util.Trimmed isWs c := by
  obtain ⟨x, y, hx, hxw, hy, hyw⟩ := h
  exact Util.trimmed_iff.mpr ⟨fun a ha => by rw [hx] at ha; cases ha; exact hxw,
    fun a ha => by rw [hy] at ha; cases ha; exact hyw⟩

theorem strip_pad (k k' : Nat) (c : List Char) (h : Tight c) : strip (blanks k ++ c ++ blanks k') = c :=
  Util.trim_pad (all_blanks k) (all_blanks k') h.trimmed

theorem strip_blanks (k : Nat) : strip (blanks k) = [] := Util.trim_of_all (all_blanks k)

/-- `Pre xs u`: `u` is a text of the lexeme list `xs`, i.e. the lexemes in order, each preceded by any
    number of blanks ("blanks *pre*cede"; it is not a prefix relation). -/
inductive Pre : List (List Char) → List Char → Prop
  | nil : Pre [] []
  | cons (k : Nat) (x : List Char) {xs : List (List Char)} {s : List Char} :
      Pre xs s → Pre (x :: xs) (blanks k ++ x ++ s)

theorem Pre.cons0 (x : List Char) {xs : List (List Char)} {s : List Char} (h : Pre xs s) :
    Pre (x :: xs) (x ++ s) := Pre.cons 0 x h

theorem Pre.nil_inv {u : List Char} (h : Pre [] u) : u = [] := by cases h; rfl

theorem Pre.cons_inv {x : List Char} {xs : List (List Char)} {u : List Char} (h : Pre (x :: xs) u) :
    ∃ k s, u = blanks k ++ x ++ s ∧ Pre xs s := by
  cases h with
  | cons k _ hs => exact ⟨k, _, rfl, hs⟩

theorem Pre.append_inv {xs ys : List (List Char)} {u : List Char} (h : Pre (xs ++ ys) u) :
    ∃ u1 u2, u = u1 ++ u2 ∧ Pre xs u1 ∧ Pre ys u2 := by
  induction xs generalizing u with
  | nil => exact ⟨[], u, rfl, Pre.nil, h⟩
  | cons x xs ih =>
    obtain ⟨k, s, rfl, hs⟩ := Pre.cons_inv h
    obtain ⟨u1, u2, rfl, h1, h2⟩ := ih hs
    exact ⟨blanks k ++ x ++ u1, u2, by simp, Pre.cons k x h1, h2⟩

theorem Pre.append {xs ys : List (List Char)} {u1 u2 : List Char} (h1 : Pre xs u1) (h2 : Pre ys u2) :
    Pre (xs ++ ys) (u1 ++ u2) := by
  induction h1 with
  | nil => simpa using h2
  | cons k x _ ih =>
    have := Pre.cons k x ih
    simpa [List.append_assoc] using this

theorem Pre.single_inv {x u : List Char} (h : Pre [x] u) : ∃ k, u = blanks k ++ x := by
  obtain ⟨k, s, rfl, hs⟩ := Pre.cons_inv h
  rw [Pre.nil_inv hs]
  exact ⟨k, by simp⟩

theorem joinBlanks_pre (xs : List (List Char)) (bl : List Nat) :
    ∃ u k, joinBlanks bl xs = u ++ blanks k ∧ Pre xs u := by
  induction xs generalizing bl with
  | nil => exact ⟨[], bl.headD 0, by simp [joinBlanks, blanks], Pre.nil⟩
  | cons x xs ih =>
    obtain ⟨u, k, e, h⟩ := ih bl.tail
    exact ⟨blanks (bl.headD 0) ++ x ++ u, k, by simp [joinBlanks, e, blanks], Pre.cons _ x h⟩

/-- a lexeme: not empty and without blanks -/
def GoodLex (x : List Char) : Prop := x ≠ [] ∧ ∀ c ∈ x, isWs c = false

instance (x : List Char) : Decidable (GoodLex x) := by unfold GoodLex; infer_instance

theorem Pre.last_nonws {xs : List (List Char)} {u : List Char} (h : Pre xs u) (hne : xs ≠ [])
    (hg : ∀ x ∈ xs, GoodLex x) : ∃ y, u.getLast? = some y ∧ isWs y = false := by
  induction h with
  | nil => exact absurd rfl hne
  | @cons k x xs s hs ih =>
    have gx := hg x (by simp)
    cases xs with
    | nil =>
      rw [Pre.nil_inv hs]
      obtain ⟨hx, hall⟩ := gx
      refine ⟨x.getLast hx, ?_, hall _ (List.getLast_mem hx)⟩
      simp [List.getLast?_append, List.getLast?_eq_some_getLast hx]
    | cons x2 xs2 =>
      obtain ⟨y, hy, hw⟩ := ih (by simp) (fun z hz => hg z (by simp [hz]))
      refine ⟨y, ?_, hw⟩
      rw [List.getLast?_append, hy]; rfl

theorem Pre.length_le {xs : List (List Char)} {u : List Char} (h : Pre xs u)
    (hg : ∀ x ∈ xs, x ≠ []) : xs.length ≤ u.length := by
  induction h with
  | nil => simp
  | @cons k x xs s hs ih =>
    have := ih (fun z hz => hg z (by simp [hz]))
    have hx : 0 < x.length := List.length_pos_iff.mpr (hg x (by simp))
    simp; omega

theorem Pre.tight {x : List Char} {xs : List (List Char)} {s : List Char} (hs : Pre xs s)
    (hg : ∀ y ∈ x :: xs, GoodLex y) : Tight (x ++ s) := by
  have hp : Pre (x :: xs) (x ++ s) := Pre.cons0 x hs
  obtain ⟨y, hy, hyw⟩ := hp.last_nonws (by simp) hg
  obtain ⟨hx, hall⟩ := hg x (by simp)
  cases x with
  | nil => exact absurd rfl hx
  | cons c cs => exact ⟨c, y, rfl, hall c (by simp), hy, hyw⟩

/-- The argument string the scanner hands to the nested solver: the stripped text of a non-empty
    lexeme list is again such a text (no leading blanks). -/
theorem strip_text {xs : List (List Char)} {u : List Char} (k : Nat) (h : Pre xs u) (hne : xs ≠ [])
    (hg : ∀ x ∈ xs, GoodLex x) : Pre xs (strip (u ++ blanks k)) := by
  cases xs with
  | nil => exact absurd rfl hne
  | cons x xs =>
    obtain ⟨k0, s, rfl, hs⟩ := Pre.cons_inv h
    rw [show blanks k0 ++ x ++ s ++ blanks k = blanks k0 ++ (x ++ s) ++ blanks k by simp,
      strip_pad k0 k _ (Pre.tight hs hg)]
    exact Pre.cons0 x hs

/-- `nest w k`: the parenthesis depth after the text `w`, started at relative depth `k`; `none`
    when the depth would go below the start or a comma occurs at the starting depth.  `nest T 0 =
    some 0` says that `T` can stand as ONE argument of a call: balanced, no separator of its own. -/
def nest : List Char → Nat → Option Nat
  | [], k => some k
  | c :: cs, k =>
      if c = '(' then nest cs (k + 1)
      else if c = ')' then (if k = 0 then none else nest cs (k - 1))
      else if c = ',' then (if k = 0 then none else nest cs k)
      else nest cs k

theorem nest_nil (k : Nat) : nest [] k = some k := rfl

theorem nest_close (k : Nat) : nest [')'] (k + 1) = some k := rfl

theorem nest_sep (cs : List Char) (k : Nat) : nest (',' :: cs) (k + 1) = nest cs (k + 1) := rfl

/-- the character does not touch the nesting counter -/
def Neutral (c : Char) : Prop := c ≠ '(' ∧ c ≠ ')' ∧ c ≠ ','

instance : DecidablePred Neutral := fun c => by unfold Neutral; infer_instance

/-- what a character is to the parenthesis depth -/
inductive PClass | opn | cls | sep | other

def pclass (c : Char) : PClass :=
  if c = '(' then .opn else if c = ')' then .cls else if c = ',' then .sep else .other

theorem pclass_cases (c : Char) :
    (c = '(' ∧ pclass c = .opn) ∨ (c = ')' ∧ pclass c = .cls) ∨ (c = ',' ∧ pclass c = .sep) ∨
      (Neutral c ∧ pclass c = .other) := by
  unfold pclass Neutral
  by_cases h1 : c = '('
  · exact .inl ⟨h1, if_pos h1⟩
  · by_cases h2 : c = ')'
    · exact .inr (.inl ⟨h2, by rw [if_neg h1, if_pos h2]⟩)
    · by_cases h3 : c = ','
      · exact .inr (.inr (.inl ⟨h3, by rw [if_neg h1, if_neg h2, if_pos h3]⟩))
      · exact .inr (.inr (.inr ⟨⟨h1, h2, h3⟩, by rw [if_neg h1, if_neg h2, if_neg h3]⟩))

/-- What one character does to the parenthesis depth.  The two depth counters are folds of it:
    `bal` (of the specification, parentheses only) is the fold of `depthStep false`, `nest` (`bal` plus
    "no separator at depth 0") the fold of `depthStep true` (`bal_cons`, `nest_cons`). -/
def depthStep (comma : Bool) (c : Char) (k : Nat) : Option Nat :=
  match pclass c with
  | .opn => some (k + 1)
  | .cls => if k = 0 then none else some (k - 1)
  | .sep => if comma = true ∧ k = 0 then none else some k
  | .other => some k

theorem nest_cons (c : Char) (cs : List Char) (k : Nat) :
    nest (c :: cs) k = (depthStep true c k).bind (nest cs) := by
  rcases pclass_cases c with ⟨rfl, h⟩ | ⟨rfl, h⟩ | ⟨rfl, h⟩ | ⟨⟨h1, h2, h3⟩, h⟩
  · simp [depthStep, h, nest]
  · by_cases hk : k = 0 <;> simp [depthStep, h, nest, hk]
  · by_cases hk : k = 0 <;> simp [depthStep, h, nest, hk]
  · simp [depthStep, h, nest, h1, h2, h3]

theorem bal_cons (c : Char) (cs : List Char) (k : Nat) :
    bal (c :: cs) k = (depthStep false c k).bind (bal cs) := by
  rcases pclass_cases c with ⟨rfl, h⟩ | ⟨rfl, h⟩ | ⟨rfl, h⟩ | ⟨⟨h1, h2, _⟩, h⟩
  · simp [depthStep, h, bal]
  · by_cases hk : k = 0 <;> simp [depthStep, h, bal, hk]
  · simp [depthStep, h, bal]
  · simp [depthStep, h, bal, h1, h2]

theorem depthStep_shift (comma : Bool) (c : Char) (k k' j : Nat) (h : depthStep comma c k = some k') :
    depthStep comma c (k + j) = some (k' + j) := by
  unfold depthStep at h ⊢
  generalize pclass c = q at h ⊢
  cases q <;> simp only [] at h ⊢
  · cases h; exact congrArg some (Nat.add_right_comm k j 1)
  · cases k with
    | zero => cases h
    | succ k0 => cases h; rw [Nat.add_right_comm]; rfl
  · split at h
    · cases h
    · rename_i hk
      cases h; rw [if_neg (fun hh => hk ⟨hh.1, Nat.eq_zero_of_add_eq_zero_right hh.2⟩)]
  · cases h; rfl

theorem depthStep_none (c : Char) (d : Nat) (h : depthStep true c d = none) :
    d = 0 ∧ (c = ')' ∨ c = ',') := by
  rcases pclass_cases c with ⟨rfl, hc⟩ | ⟨rfl, hc⟩ | ⟨rfl, hc⟩ | ⟨_, hc⟩ <;>
    simp only [depthStep, hc] at h
  · cases h
  · split at h
    · exact ⟨‹_›, .inl rfl⟩
    · cases h
  · split at h
    · rename_i hk; exact ⟨hk.2, .inr rfl⟩
    · cases h
  · cases h

theorem depthStep_weaken (c : Char) (d k' : Nat) (h : depthStep true c d = some k') :
    depthStep false c d = some k' := by
  unfold depthStep at h ⊢
  generalize pclass c = q at h ⊢
  cases q <;> simp only [] at h ⊢
  · exact h
  · exact h
  · split at h
    · cases h
    · rw [if_neg (fun hh => nomatch hh.1)]; exact h
  · exact h

section
variable (step : Char → Nat → Option Nat) (f : List Char → Nat → Option Nat)
  (hnil : ∀ k, f [] k = some k) (hcons : ∀ c cs k, f (c :: cs) k = (step c k).bind (f cs))
include hnil hcons

theorem scan_append (u v : List Char) (k : Nat) : f (u ++ v) k = (f u k).bind (f v) := by
  induction u generalizing k with
  | nil => rw [hnil]; rfl
  | cons c cs ih =>
    rw [List.cons_append, hcons, hcons, Option.bind_assoc]
    exact congrArg _ (funext ih)

theorem scan_shift (hstep : ∀ c k k' j, step c k = some k' → step c (k + j) = some (k' + j))
    (w : List Char) : ∀ (k k' j : Nat), f w k = some k' → f w (k + j) = some (k' + j) := by
  induction w with
  | nil => intro k k' j h; rw [hnil] at h ⊢; simp only [Option.some.injEq] at h ⊢; omega
  | cons c cs ih =>
    intro k k' j h
    rw [hcons] at h ⊢
    cases hs : step c k with
    | none => rw [hs] at h; cases h
    | some k1 => rw [hs] at h; rw [hstep c k k1 j hs]; exact ih k1 k' j h
end

theorem nest_append (u v : List Char) (k : Nat) : nest (u ++ v) k = (nest u k).bind (nest v) :=
  scan_append _ nest nest_nil nest_cons u v k

theorem nest_shift (w : List Char) :
    ∀ (k k' j : Nat), nest w k = some k' → nest w (k + j) = some (k' + j) :=
  scan_shift _ nest nest_nil nest_cons (depthStep_shift true) w

theorem bal_append (u v : List Char) (k : Nat) : bal (u ++ v) k = (bal u k).bind (bal v) :=
  scan_append _ bal (fun _ => rfl) bal_cons u v k

theorem bal_shift (w : List Char) (k k' j : Nat) (h : bal w k = some k') : bal w (k + j) = some (k' + j) :=
  scan_shift _ bal (fun _ => rfl) bal_cons (depthStep_shift false) w k k' j h

theorem nest_neutral (u : List Char) (h : ∀ c ∈ u, Neutral c) (k : Nat) : nest u k = some k := by
  induction u with
  | nil => rfl
  | cons c cs ih =>
    obtain ⟨h1, h2, h3⟩ := h c (by simp)
    simp [nest, h1, h2, h3, ih (fun d hd => h d (by simp [hd]))]

theorem nest_blanks (j k : Nat) : nest (blanks j) k = some k :=
  nest_neutral _ (fun c hc => by
    have : c = ' ' := by simpa [blanks] using (List.mem_replicate.mp hc).2
    subst this; exact ⟨by decide, by decide, by decide⟩) k

/-- a symbol `p` that is a prefix of `a ++ r` is a prefix of `a`, or continues `a` by the first character
    of `r`: the only two ways an earlier-listed symbol can win where `a` stands (`clashChars`) -/
theorem prefix_split (p a r : List Char) (h : p.isPrefixOf (a ++ r) = true) :
    p.isPrefixOf a = true ∨
      ∃ c cs, p.drop a.length = c :: cs ∧ a.isPrefixOf p = true ∧ r.head? = some c := by
  induction a generalizing p with
  | nil =>
    cases p with
    | nil => left; rfl
    | cons c cs =>
      right
      cases r with
      | nil => simp at h
      | cons d ds =>
        simp only [List.nil_append, List.isPrefixOf, Bool.and_eq_true, beq_iff_eq] at h
        exact ⟨c, cs, rfl, by simp [List.isPrefixOf], by simp [h.1]⟩
  | cons x a ih =>
    cases p with
    | nil => left; rfl
    | cons y p =>
      simp only [List.cons_append, List.isPrefixOf, Bool.and_eq_true, beq_iff_eq] at h
      obtain ⟨rfl, h2⟩ := h
      rcases ih p h2 with h3 | ⟨c, cs, e1, e2, e3⟩
      · left; simp [List.isPrefixOf, h3]
      · right; exact ⟨c, cs, by simpa using e1, by simp [List.isPrefixOf, e2], e3⟩

/-- no symbol of `rows` (the rows listed before the one with symbol `a`) is a prefix of `a` -/
def earlierOK (rows : List OpRow) (a : List Char) : Bool :=
  rows.all (fun r => !(r.symbol.isPrefixOf a))

/-- the characters by which an earlier row's symbol continues `a` -/
def clashChars (rows : List OpRow) (a : List Char) : List Char :=
  rows.filterMap (fun r => if a.isPrefixOf r.symbol then (r.symbol.drop a.length).head? else none)

theorem findOpFrom_eq_none {rows : List OpRow} {j : Nat} {s : List Char} :
    findOpFrom j rows s = none ↔ ∀ r ∈ rows, r.symbol.isPrefixOf s = false := by
  induction rows generalizing j with
  | nil => simp [findOpFrom]
  | cons q qs ih => cases hq : q.symbol.isPrefixOf s <;> simp [findOpFrom, hq, ih]

theorem findOpFrom_eq_some {rows : List OpRow} {j k : Nat} {row : OpRow} {s : List Char} :
    findOpFrom j rows s = some (k, row) ↔ ∃ i, k = j + i ∧ rows[i]? = some row ∧
      row.symbol.isPrefixOf s = true ∧ ∀ q ∈ rows.take i, q.symbol.isPrefixOf s = false := by
  induction rows generalizing j with
  | nil => simp [findOpFrom]
  | cons q qs ih =>
    rw [findOpFrom]
    cases hq : q.symbol.isPrefixOf s
    · rw [if_neg Bool.false_ne_true, ih]
      constructor
      · rintro ⟨i, rfl, h1, h2, h3⟩
        exact ⟨i + 1, Nat.add_assoc j 1 i ▸ Nat.add_comm 1 i ▸ rfl, h1, h2,
          List.forall_mem_cons.mpr ⟨hq, h3⟩⟩
      · rintro ⟨i, rfl, h1, h2, h3⟩
        cases i with
        | zero => cases h1; rw [hq] at h2; cases h2
        | succ i =>
          exact ⟨i, Nat.add_assoc j 1 i ▸ Nat.add_comm 1 i ▸ rfl, h1, h2,
            (List.forall_mem_cons.mp h3).2⟩
    · rw [if_pos rfl]
      constructor
      · rintro ⟨⟩; exact ⟨0, rfl, rfl, hq, fun _ h => nomatch h⟩
      · rintro ⟨i, rfl, h1, h2, h3⟩
        cases i with
        | zero => cases h1; rfl
        | succ i => have := h3 q List.mem_cons_self; rw [hq] at this; cases this

theorem mem_clashChars {rows : List OpRow} {a : List Char} {c : Char} :
    c ∈ clashChars rows a ↔
      ∃ q ∈ rows, a.isPrefixOf q.symbol = true ∧ (q.symbol.drop a.length).head? = some c := by
  simp only [clashChars, List.mem_filterMap]
  constructor
  · rintro ⟨q, hq, h⟩
    split at h
    · exact ⟨q, hq, by assumption, h⟩
    · cases h
  · rintro ⟨q, hq, h1, h2⟩
    exact ⟨q, hq, by rw [if_pos h1]; exact h2⟩

theorem findOpFrom_first (rows : List OpRow) (i j : Nat) (row : OpRow) (r : List Char)
    (hrow : rows[i]? = some row)
    (he : earlierOK (rows.take i) row.symbol = true)
    (hc : ∀ c ∈ clashChars (rows.take i) row.symbol, r.head? ≠ some c) :
    findOpFrom j rows (row.symbol ++ r) = some (j + i, row) := by
  refine findOpFrom_eq_some.mpr ⟨i, rfl, hrow, List.isPrefixOf_iff_prefix.mpr (List.prefix_append _ _),
    fun q hq => ?_⟩
  cases hqq : q.symbol.isPrefixOf (row.symbol ++ r) with
  | false => rfl
  | true =>
    exfalso
    rcases prefix_split _ _ _ hqq with h1 | ⟨c, cs, e1, e2, e3⟩
    · have := List.all_eq_true.mp he q hq
      simp [h1] at this
    · exact hc c (mem_clashChars.mpr ⟨q, hq, e2, by rw [e1]; rfl⟩) e3

/-- the argument syntax of every call of the default table: `(` `,` `)` and `narg` arguments -/
def stdPar (narg : Nat) : ParSpec := ⟨['('], [','], [')'], narg⟩

/-- One iteration of the argument scanner, by what the character does to the depth relative to the call's
    own parenthesis: accepted, it is shifted; refused, it is the call's closing parenthesis or a separator. -/
theorem parScan_cons (narg n d : Nat) (l r : List Char) (c : Char) (args : List (List Char)) :
    parScan (stdPar narg) (n + 1) (d + 1) ⟨l, c :: r⟩ args =
      match depthStep true c d with
      | some k' => parScan (stdPar narg) n (k' + 1) ⟨l ++ [c], r⟩ args
      | none =>
        if c = ')' then some (⟨[], r⟩, args ++ [strip l])
        else parScan (stdPar narg) n 1 ⟨[], r⟩ (args ++ [strip l]) := by
  rcases pclass_cases c with ⟨rfl, h⟩ | ⟨rfl, h⟩ | ⟨rfl, h⟩ | ⟨⟨h1, h2, h3⟩, h⟩
  · simp [parScan, stdPar, List.isPrefixOf, depthStep, h, Ex.shift]
  · have e1 : ('(' == ')') = false := by decide
    have e2 : (',' == ')') = false := by decide
    cases d with
    | zero => simp [parScan, stdPar, List.isPrefixOf, depthStep, h, e1, e2, Ex.remove, Ex.popLeft]
    | succ d => simp [parScan, stdPar, List.isPrefixOf, depthStep, h, e1, e2, Ex.shift]
  · have e1 : ('(' == ',') = false := by decide
    have e3 : (')' == ',') = false := by decide
    have e4 : ¬ (',' = ')') := by decide
    cases d with
    | zero => simp [parScan, stdPar, List.isPrefixOf, depthStep, h, e1, e4, Ex.remove, Ex.popLeft]
    | succ d => simp [parScan, stdPar, List.isPrefixOf, depthStep, h, e1, e3, Ex.shift]
  · have e1 : ('(' == c) = false := by simp [Ne.symm h1]
    have e2 : (',' == c) = false := by simp [Ne.symm h3]
    have e3 : (')' == c) = false := by simp [Ne.symm h2]
    simp [parScan, stdPar, List.isPrefixOf, depthStep, h, e1, e2, e3, Ex.shift]

theorem parScan_nest (narg : Nat) (w : List Char) :
    ∀ (k k' n : Nat) (l r : List Char) (args : List (List Char)), nest w k = some k' →
      parScan (stdPar narg) (n + w.length) (k + 1) ⟨l, w ++ r⟩ args
        = parScan (stdPar narg) n (k' + 1) ⟨l ++ w, r⟩ args := by
  induction w with
  | nil => intro k k' n l r args h; cases h; simp
  | cons c cs ih =>
    intro k k' n l r args h
    rw [nest_cons] at h
    cases hs : depthStep true c k with
    | none => rw [hs] at h; cases h
    | some k1 =>
      rw [hs] at h
      rw [List.cons_append, show n + (c :: cs).length = (n + cs.length) + 1 from rfl, parScan_cons, hs]
      simpa using ih k1 k' n (l ++ [c]) r args h

end SciVerif.C01
