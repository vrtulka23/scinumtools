import SciVerif.Model.C10
import SciVerif.Lemmas.C10Attr
import SciVerif.Lemmas.Util.Scan
import SciVerif.Lemmas.Util.Digits
import Mathlib.Data.Rat.Cast.Defs

/-! C10: the character classes as arithmetic on character codes; the decimal digits of a count and their
    value under `int` / `float`; what the solver and `preprocess` both need of explicit text (its species texts,
    its ends).  In lemma names `rE` is `renderExplicit`. -/
namespace SciVerif.C10
open Util

/-- characters the tokenizer and `scanPar` pass over: none of `(`, `)`, `,`, and not blank (the operator
    symbols ` * `, ` + ` begin with a blank) -/
def PlainC (c : Char) : Prop := c ≠ '(' ∧ c ≠ ')' ∧ c ≠ ',' ∧ isWs c = false

instance : DecidablePred PlainC := fun c => by unfold PlainC; infer_instance

def Plain (s : Str) : Prop := ∀ c ∈ s, PlainC c

theorem PlainC.ne_space {c : Char} (h : PlainC c) : c ≠ ' ' := by
  intro e; subst e; exact absurd h.2.2.2 (by decide)

/-- characters at which the species pattern cannot start -/
def Inert (c : Char) : Prop := isUp c = false ∧ c ≠ '['

instance : DecidablePred Inert := fun c => by unfold Inert; infer_instance

/-! Every class of the model is an interval or a finite set of character codes, so every relation
between classes is linear arithmetic on `Char.toNat`:
`simp only [charcode, Char.reduceToNat] at *; omega`. -/

@[charcode] theorem char_eq_iff (c d : Char) : c = d ↔ c.toNat = d.toNat := Char.toNat_inj.symm

@[charcode] theorem isUp_iff (c : Char) : isUp c = true ↔ 65 ≤ c.toNat ∧ c.toNat ≤ 90 := by
  simp only [isUp, Bool.and_eq_true, decide_eq_true_eq]; exact Iff.rfl

@[charcode] theorem isLow_iff (c : Char) : isLow c = true ↔ 97 ≤ c.toNat ∧ c.toNat ≤ 122 := by
  simp only [isLow, Bool.and_eq_true, decide_eq_true_eq]; exact Iff.rfl

@[charcode] theorem isDig_iff (c : Char) : isDig c = true ↔ 48 ≤ c.toNat ∧ c.toNat ≤ 57 := by
  simp only [isDig, Bool.and_eq_true, decide_eq_true_eq]; exact Iff.rfl

@[charcode] theorem bool_eq_false_iff (b : Bool) : b = false ↔ ¬ b = true := by cases b <;> simp

attribute [charcode] isWs notSpec3 notSpec4 PlainC Inert Bool.or_eq_true Bool.not_eq_true' beq_iff_eq
  ne_eq Bool.or_eq_false_iff

/-- Letters and digits are ordinary characters for the tokenizer and for passes 3 and 4: the
    blanks and every symbol with a meaning (`( ) * + ,`) have codes below that of `'0'`. -/
theorem code_of_word (c : Char) (h : isUp c = true ∨ isLow c = true ∨ isDig c = true) :
    48 ≤ c.toNat := by
  simp only [charcode] at h
  omega

theorem plain_of_code (c : Char) (h : 48 ≤ c.toNat) : PlainC c ∧ c ≠ '*' := by
  simp only [charcode, Char.reduceToNat]
  omega

theorem notSpec_of_code (c : Char) (h : 48 ≤ c.toNat) : notSpec3 c = true ∧ notSpec4 c = true := by
  simp only [charcode, Char.reduceToNat]
  omega

theorem word_plain (c : Char) (h : isUp c = true ∨ isLow c = true ∨ isDig c = true) :
    PlainC c ∧ c ≠ '*' := plain_of_code c (code_of_word c h)

theorem notSpec_word (c : Char) (h : isUp c = true ∨ isLow c = true ∨ isDig c = true) :
    notSpec3 c = true ∧ notSpec4 c = true := notSpec_of_code c (code_of_word c h)

theorem notSpec3_look (l : Char) (h : notSpec3 l = true) : l ≠ '(' ∧ isWs l = false := by
  simp only [notSpec3, Bool.not_eq_true', Bool.or_eq_false_iff] at h
  exact ⟨by simpa using h.1.2, h.2⟩

theorem low_inert (c : Char) (h : isLow c = true) : Inert c := by
  simp only [charcode, Char.reduceToNat] at h ⊢
  omega

theorem inert_of_isDig (c : Char) (h : isDig c = true) : Inert c := by
  simp only [charcode, Char.reduceToNat] at h ⊢
  omega

theorem dig_not_letter (c : Char) (h : isDig c = true) : isUp c = false ∧ isLow c = false ∧ c ≠ '{' := by
  simp only [charcode, Char.reduceToNat] at h ⊢
  omega

theorem up_not_dig (c : Char) (h : isUp c = true) : isDig c = false ∧ isLow c = false ∧ c ≠ '{' := by
  simp only [charcode, Char.reduceToNat] at h ⊢
  omega

theorem head_facts (a : Char) (h : isUp a = true ∨ a = '[') :
    (isWs a = false ∧ a ≠ '(') ∧ (notSpec4 a = true ∧ isDig a = false) := by
  rcases h with h | rfl
  · exact ⟨⟨(word_plain a (Or.inl h)).1.2.2.2, (word_plain a (Or.inl h)).1.1⟩,
      (notSpec_word a (Or.inl h)).2, (up_not_dig a h).1⟩
  · decide

theorem digitsAux_eq (fuel : Nat) : ∀ (n : Nat) (acc : Str), n < fuel →
    digitsAux fuel n acc = Nat.toDigits 10 n ++ acc := by
  induction fuel with
  | zero => intro n acc h; exact absurd h (Nat.not_lt_zero n)
  | succ fuel ih =>
    intro n acc h
    rw [digitsAux, toDigits_eq]
    split
    · rfl
    · rw [ih _ _ (by omega), digitChar, List.append_assoc]; rfl

theorem digitsOf_eq (n : Nat) : digitsOf n = Nat.toDigits 10 n := by
  rw [digitsOf, digitsAux_eq _ _ _ (Nat.lt_succ_self n), List.append_nil]

theorem natOfDigits_digitsOf (n : Nat) : natOfDigits (digitsOf n) = n := by
  rw [digitsOf_eq]
  exact Nat.ofDigitChars_ten_toDigits

theorem digitsOf_all (n : Nat) : ∀ c ∈ digitsOf n, isDig c = true ∧ PlainC c := by
  intro c hc
  have hd : isDig c = true := isDigit_of_mem_toDigits (digitsOf_eq n ▸ hc)
  exact ⟨hd, (word_plain c (Or.inr (Or.inr hd))).1⟩

theorem digitsOf_ne_nil (n : Nat) : digitsOf n ≠ [] := digitsOf_eq n ▸ Nat.toDigits_ne_nil

theorem digitsOf_plain (n : Nat) : Plain (digitsOf n) := fun c hc => (digitsOf_all n c hc).2

theorem parseFloat_digitsOf (n : Nat) : parseFloat (digitsOf n) = some (n : Rat) := by
  have hs : (digitsOf n).span isDig = (digitsOf n, []) := by
    have := span_append_headNot (p := isDig) (b := []) (fun c hc => (digitsOf_all n c hc).1) .nil
    rwa [List.append_nil] at this
  have hne := digitsOf_ne_nil n
  unfold parseFloat
  simp only [hs]
  have : (digitsOf n).isEmpty = false := List.isEmpty_eq_false_iff.mpr hne
  simp [this, natOfDigits_digitsOf]

theorem strip_eq_trim : strip = trim isWs := rfl

/-- `w` is not empty and neither end is white space (`w ≠ [] ∧ Trimmed isWs w`) -/
def EdgeOK (w : Str) : Prop :=
  (∃ a t, w = a :: t ∧ isWs a = false) ∧ (∃ b t, w.reverse = b :: t ∧ isWs b = false)

theorem strip_of_edge (w : Str) (h : EdgeOK w) : strip w = w := by
  obtain ⟨⟨a, t, e, ha⟩, ⟨b, t', hb, hb'⟩⟩ := h
  rw [strip_eq_trim]
  exact trim_of_trimmed ⟨e ▸ .cons ha t, hb ▸ .cons hb' t'⟩

theorem edge_of_plain (w : Str) (hne : w ≠ []) (h : Plain w) : EdgeOK w := by
  constructor
  · cases w with
    | nil => exact absurd rfl hne
    | cons a t => exact ⟨a, t, rfl, (h a List.mem_cons_self).2.2.2⟩
  · cases hr : w.reverse with
    | nil => simp at hr; exact absurd hr hne
    | cons b t =>
      refine ⟨b, t, rfl, (h b ?_).2.2.2⟩
      have : b ∈ w.reverse := by rw [hr]; simp
      simpa using this

theorem edge_append (x m y : Str) (hx : EdgeOK x) (hy : EdgeOK y) : EdgeOK (x ++ m ++ y) := by
  obtain ⟨⟨a, t, rfl, ha⟩, _⟩ := hx
  obtain ⟨_, ⟨b, t', hb, hb'⟩⟩ := hy
  exact ⟨⟨a, t ++ m ++ y, by simp, ha⟩, ⟨b, t' ++ (m.reverse ++ (a :: t).reverse), by simp [hb], hb'⟩⟩

/-- every species text of `f` satisfies `P` -/
def F.spAll (P : Str → Prop) : F → Prop
  | .sp s => P s
  | .count f _ => f.spAll P
  | .mulx f _ => f.spAll P
  | .group f => f.spAll P
  | .seq _ a b => a.spAll P ∧ b.spAll P
  | .plus a b => a.spAll P ∧ b.spAll P

theorem spAll_mono {P Q : Str → Prop} (hPQ : ∀ s, P s → Q s) (f : F) (h : f.spAll P) : f.spAll Q := by
  induction f with
  | sp s => exact hPQ s h
  | count f n ih | mulx f n ih | group f ih => exact ih h
  | seq ws a b iha ihb | plus a b iha ihb => exact ⟨iha h.1, ihb h.2⟩

theorem edge_rE (f : F) (hs : f.spAll fun s => s ≠ [] ∧ Plain s) : EdgeOK (renderExplicit f) := by
  induction f with
  | sp s => exact edge_of_plain s hs.1 hs.2
  | count f n ih | mulx f n ih =>
    have := edge_append _ symMul _ (ih hs) (edge_of_plain _ (digitsOf_ne_nil n) (digitsOf_plain n))
    simpa [renderExplicit] using this
  | group f ih =>
    exact ⟨⟨'(', _, rfl, by decide⟩, ⟨')', (renderExplicit f).reverse ++ ['('], by simp [renderExplicit], by decide⟩⟩
  | seq ws a b iha ihb | plus a b iha ihb =>
    have := edge_append _ symAdd _ (iha hs.1) (ihb hs.2)
    simpa [renderExplicit] using this

/-- a species text the solver accepts; `valid s = true` stands for `Element(s)` succeeding -/
def SpeciesOK (valid : Str → Bool) (s : Str) : Prop :=
  s ≠ [] ∧ Plain s ∧ (∀ c t, s = c :: t → isDig c = false) ∧ valid s = true

end SciVerif.C10
