import SciVerif.Lemmas.C17Checks

/-! Refinement (C17): from the bare main loop (`foldlM step`) to the functions that are run
    against the real code — `parse` / `parseC` (main loop with `@case` state, then the final
    validation loop) — and the assembly of the initial environment (remote sources, base). -/
namespace SciVerif.C17

theorem conc_notCase (s : SStmt) (it : Item) (h : conc s = some it) : isCase it = false := by
  unfold conc at h
  split at h <;> first | (cases h; rfl) | cases h

theorem itemAt_notCase (i : Nat) (nm : Str) (it : Item) (h : isCase it = false) :
    isCase (itemAt i nm it) = false := by
  cases it with
  | node n => simp only [itemAt]; split <;> rfl
  | _ => exact h

theorem nline_item_notCase (l : NLine) (it : Item) (h : l.item = some it) : isCase it = false := by
  cases l with
  | imp i pre dest source q => cases h; rfl
  | base l0 =>
    cases l0 with
    | group i nm => cases h; rfl
    | prop path p => cases h; rfl
    | stmt i nm s =>
      obtain ⟨it0, hc, rfl⟩ := Option.map_eq_some_iff.mp h
      exact itemAt_notCase i nm it0 (conc_notCase s it0 hc)

theorem validate_of_inv (tbl : UnitTable) (env : Env) (h : Inv tbl env) : validate env = .ok env := by
  unfold validate
  have : env.nodes.any (fun n => n.defined && n.value.isNone) = false := by
    rw [List.any_eq_false]
    intro n hn
    obtain ⟨_, ⟨v, hv, _⟩, _⟩ := h.1 n hn
    simp [hv]
  simp [this]

theorem parse_of_fold (tbl : UnitTable) (env env' : Env) (items : List Item)
    (hf : items.foldlM (step tbl) env = .ok env') (hinv : Inv tbl env') :
    parse tbl env items = .ok env' := by
  simp only [parse, hf, validate_of_inv tbl env' hinv]

theorem parseC_of_fold (tbl : UnitTable) (env env' : Env) (items : List Item)
    (hnc : ∀ it ∈ items, isCase it = false)
    (hf : items.foldlM (step tbl) env = .ok env') (hinv : Inv tbl env') :
    parseC tbl env items = .ok env' := by
  simp only [parseC, foldlM_stepC_none tbl items env hnc, hf, validate_of_inv tbl env' hinv]

/-- a parsed remote file `envS` becomes the source `name` of `env` (`Environment.sources[name]`
    holds the nodes and the custom units of the nested parse) -/
def withSource (env : Env) (name : Str) (envS : Env) : Env :=
  { env with sources := env.sources ++ [(name, envS.nodes)], srcUnits := env.srcUnits ++ [(name, envS.units)] }

def sWithSource (s : SEnv) (name : Str) (sS : SEnv) : SEnv :=
  { s with sources := s.sources ++ [(name, sS.nodes)], srcUnits := s.srcUnits ++ [(name, sS.units)] }

theorem inv_withSource (tbl : UnitTable) (env envS : Env) (name : Str) (h : Inv tbl env) (hS : Inv tbl envS) :
    Inv tbl (withSource env name envS) := by
  refine ⟨h.1, ?_⟩
  intro s hs n hn
  simp only [withSource, List.mem_append, List.mem_singleton] at hs
  rcases hs with hs | rfl
  · exact h.2 s hs n hn
  · exact hS.1 n hn

theorem abs_withSource (env envS : Env) (name : Str) :
    absEnv (withSource env name envS) = sWithSource (absEnv env) name (absEnv envS) := by
  simp [absEnv, withSource, sWithSource]

/-- the check `k` on the environment a first parse returns; `true` when that parse fails -/
def afterB (tbl : UnitTable) (env : Env) (items : List Item) (k : Env → Bool) : Bool :=
  match parseC tbl env items with
  | .ok e => k e
  | .error _ => true

theorem refine_parse (tbl : UnitTable) (lines : List NLine) (items : List Item) (env : Env) (s' : SEnv)
    (hinv : Inv tbl env) (hchk : runNB tbl env lines = true) (hc : lines.mapM NLine.item = some items)
    (h : sRun tbl (absEnv env) (lines.filterMap NLine.stmt?) = .ok s') :
    ∃ env', parseC tbl env items = .ok env' ∧ parse tbl env items = .ok env' ∧ absEnv env' = s' ∧ Inv tbl env' := by
  obtain ⟨env', hf, ha, hi⟩ := refine_runN tbl lines items env s' hinv (runNB_sound tbl env lines hchk) hc h
  have hnc : ∀ it ∈ items, isCase it = false := fun it hit => by
    obtain ⟨l, _, hl⟩ := Util.mem_of_mapM_eq_some hc hit
    exact nline_item_notCase l it hl
  exact ⟨env', parseC_of_fold tbl env env' items hnc hf hi,
    parse_of_fold tbl env env' items hf hi, ha, hi⟩

/-- Two checked parses in a row, the second starting from `f` of the first result (`g` on the specification side,
    `hfg`): `f = id` is a base text, `f = withSource env name` a remote file installed as a source. -/
theorem refine_two_stage (tbl : UnitTable) (l1 l2 : List NLine) (i1 i2 : List Item) (env : Env) (s1 s2 : SEnv)
    (f : Env → Env) (g : SEnv → SEnv)
    (hfg : ∀ e, Inv tbl e → Inv tbl (f e) ∧ absEnv (f e) = g (absEnv e))
    (hinv : Inv tbl env) (hchk1 : runNB tbl env l1 = true) (hc1 : l1.mapM NLine.item = some i1)
    (h1 : sRun tbl (absEnv env) (l1.filterMap NLine.stmt?) = .ok s1)
    (hchk2 : afterB tbl env i1 (fun e => runNB tbl (f e) l2) = true) (hc2 : l2.mapM NLine.item = some i2)
    (h2 : sRun tbl (g s1) (l2.filterMap NLine.stmt?) = .ok s2) :
    ∃ e1 e2, parseC tbl env i1 = .ok e1 ∧ absEnv e1 = s1 ∧ parseC tbl (f e1) i2 = .ok e2 ∧
      absEnv e2 = s2 ∧ Inv tbl e2 := by
  obtain ⟨e1, hp1, _, ha1, hi1⟩ := refine_parse tbl l1 i1 env s1 hinv hchk1 hc1 h1
  have hr : runNB tbl (f e1) l2 = true := by simpa [afterB, hp1] using hchk2
  obtain ⟨hif, haf⟩ := hfg e1 hi1
  rw [← ha1, ← haf] at h2
  obtain ⟨e2, hp2, _, ha2, hi2⟩ := refine_parse tbl l2 i2 (f e1) s2 hif hr hc2 h2
  exact ⟨e1, e2, hp1, ha1, hp2, ha2, hi2⟩

end SciVerif.C17
