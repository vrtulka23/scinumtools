import SciVerif.Model.C18

/-!
The token machine over an arbitrary semantics, step table and grammar (C18).  A pass of level `k + 1`
(`LevelPass`: binary, prefix or sign-folding) reduces exactly the sub-trees whose top operator
binds at that level, left to right; a step table that, restricted to the keys of the solver, is the
ARGS pass followed by the passes of the levels `1 … kmax` (`RunsTo`) solves the token list of
every well-formed tree to the tree value (`Solves`, `machine_of_runsTo`); from there the recursive
tokenising `E.tk` and the whole `E.solve` (`tk_eq_toks`, `solve_eq_eval`).
-/
namespace SciVerif.C18

variable {Q A : Type}

theorem E.WF_of_wf (G : Grammar) (e : E A) (h : e.wf G = true) : e.WF G := by
  induction e with
  | lit a => trivial
  | par e ih => exact ih h
  | fn1 f a ih => simp only [E.wf, Bool.and_eq_true] at h; exact ⟨h.1, ih h.2⟩
  | fn2 f a b iha ihb => simp only [E.wf, Bool.and_eq_true] at h; exact ⟨h.1.1, iha h.1.2, ihb h.2⟩
  | pre u e ih =>
    simp only [E.wf, Bool.and_eq_true, decide_eq_true_eq] at h
    exact ⟨h.1.1.1, h.1.1.2, h.1.2, ih h.2⟩
  | bin o l r ihl ihr =>
    simp only [E.wf, Bool.and_eq_true, decide_eq_true_eq] at h
    exact ⟨h.1.1.1.1.1, h.1.1.1.1.2, h.1.1.1.2, h.1.1.2, ihl h.1.2, ihr h.2⟩

theorem binPass_nil (f : String → Option (Q → Q → Q)) (left : Toks Q) :
    binPass f left [] = some left.reverse := by rw [binPass]

theorem binPass_atom (f : String → Option (Q → Q → Q)) (left r : Toks Q) (q : Q) :
    binPass f left (.atom q :: r) = binPass f (.atom q :: left) r := by rw [binPass]

theorem binPass_skip (f : String → Option (Q → Q → Q)) (left r : Toks Q) (o : String)
    (h : f o = none) : binPass f left (.op o :: r) = binPass f (.op o :: left) r := by
  rw [binPass]; simp [h]

theorem binPass_apply (f : String → Option (Q → Q → Q)) (l r : Toks Q) (o : String) (a b : Q)
    (g : Q → Q → Q) (h : f o = some g) :
    binPass f (.atom a :: l) (.op o :: .atom b :: r) = binPass f (.atom (g a b) :: l) r := by
  rw [binPass]; simp [h]

theorem prePass_nil (f : String → Option (Q → Q)) (left : Toks Q) :
    prePass f left [] = some left.reverse := by rw [prePass]

theorem prePass_atom (f : String → Option (Q → Q)) (left r : Toks Q) (q : Q) :
    prePass f left (.atom q :: r) = prePass f (.atom q :: left) r := by rw [prePass]

theorem prePass_skip (f : String → Option (Q → Q)) (left r : Toks Q) (o : String)
    (h : f o = none) : prePass f left (.op o :: r) = prePass f (.op o :: left) r := by
  rw [prePass]; simp [h]

theorem prePass_apply (f : String → Option (Q → Q)) (left r : Toks Q) (o : String) (b : Q)
    (g : Q → Q) (h : f o = some g) :
    prePass f left (.op o :: .atom b :: r) = prePass f (.atom (g b) :: left) r := by
  rw [prePass]; simp [h]

section
variable {S : Sem Q} {binSem : String → Q → Q → Q} {preSem : String → Q → Q} {av : A → Q}
  {G : Grammar}

theorem collapse_of_top_le (k : Nat) (e : E A) (h : e.top G ≤ k) :
    e.collapse S binSem preSem av G k = [.atom (e.eval S binSem preSem av)] := by
  cases e <;> simp_all [E.collapse, E.top]

theorem collapse_pre_gt {k : Nat} {u : String} (e : E A) (h : k < G.lvlPre u) :
    (E.pre u e).collapse S binSem preSem av G k = .op u :: e.collapse S binSem preSem av G k := by
  rw [E.collapse, if_neg (Nat.not_le_of_gt h)]

theorem collapse_bin_gt {k : Nat} {o : String} (l r : E A) (h : k < G.lvl o) :
    (E.bin o l r).collapse S binSem preSem av G k =
      l.collapse S binSem preSem av G k ++ .op o :: r.collapse S binSem preSem av G k := by
  rw [E.collapse, if_neg (Nat.not_le_of_gt h)]

theorem collapse_ends (k : Nat) (e : E A) :
    (∃ t r, e.collapse S binSem preSem av G k = t :: r) ∧
    ∃ p q, e.collapse S binSem preSem av G k = p ++ [Tok.atom q] := by
  -- branches of `E.collapse`: prefix reduced / kept, binary reduced / kept, anything else
  fun_induction E.collapse S binSem preSem av G k e with
  | case1 => exact ⟨⟨_, _, rfl⟩, [], _, rfl⟩
  | case2 u e h ih =>
    obtain ⟨p, q, hq⟩ := ih.2
    rw [hq]; exact ⟨⟨_, _, rfl⟩, .op u :: p, q, rfl⟩
  | case3 => exact ⟨⟨_, _, rfl⟩, [], _, rfl⟩
  | case4 o l r h ihl ihr =>
    obtain ⟨t, r', ht⟩ := ihl.1
    obtain ⟨p, q, hq⟩ := ihr.2
    rw [hq, ht]; exact ⟨⟨_, _, rfl⟩, t :: r' ++ .op o :: p, q, by simp⟩
  | case5 => exact ⟨⟨_, _, rfl⟩, [], _, rfl⟩

end

section
variable (S : Sem Q) (binSem : String → Q → Q → Q) (preSem : String → Q → Q) (av : A → Q)
  (G : Grammar)

theorem collapse_mono (j k : Nat) (e : E A) (hjk : j ≤ k)
    (h : e.collapse S binSem preSem av G j = [.atom (e.eval S binSem preSem av)]) (ht : e.top G ≤ j) :
    e.collapse S binSem preSem av G k = [.atom (e.eval S binSem preSem av)] :=
  collapse_of_top_le k e (by omega)

end

section
variable (binSem : String → Q → Q → Q) (preSem : String → Q → Q) (G : Grammar)

/-- the top of `left` is not a value: the next token is in prefix position -/
def PrefixPos : Toks Q → Prop
  | [] => True
  | .op _ :: _ => True
  | _ => False

/-- What a pass `P` (stack `left`, input `right`) has to do with the tokens of a level-`k` list to
    be the pass of level `k + 1`. -/
structure LevelPass (P : Toks Q → Toks Q → Option (Toks Q)) (k : Nat) : Prop where
  nil : ∀ left, P left [] = some left.reverse
  atom : ∀ left r q, P left (.atom q :: r) = P (.atom q :: left) r
  binApply : ∀ o, G.okBin o = true → G.lvl o = k + 1 → ∀ a b left r,
    P (.atom a :: left) (.op o :: .atom b :: r) = P (.atom (binSem o a b) :: left) r
  binSkip : ∀ o, G.okBin o = true → k + 1 < G.lvl o → ∀ a left t r,
    P (.atom a :: left) (.op o :: t :: r) = P (.op o :: .atom a :: left) (t :: r)
  preApply : ∀ u, G.okPre u = true → G.lvlPre u = k + 1 → ∀ b left r, PrefixPos left →
    P left (.op u :: .atom b :: r) = P (.atom (preSem u b) :: left) r
  preSkip : ∀ u, G.okPre u = true → k + 1 < G.lvlPre u → ∀ left r, PrefixPos left →
    P left (.op u :: r) = P (.op u :: left) r

variable {binSem preSem G} {S : Sem Q} (av : A → Q)

/-- One tree induction for all passes, in continuation form (any stack `left`, any tokens `rest`
    behind the tree).  The invariant `PrefixPos left` is what tells a prefix sign from a binary
    ` - `: it holds at the start and after every operator that is moved, and fails after a value.
    `collapse_ends` is needed for `binSkip` alone, whose shape (a value on the stack, a token next)
    is all that the sign-folding pass guarantees about a binary operator it leaves alone. -/
theorem LevelPass.collapse {P : Toks Q → Toks Q → Option (Toks Q)} {k : Nat}
    (hP : LevelPass binSem preSem G P k) (e : E A) (hw : e.WF G) :
    ∀ left rest : Toks Q, PrefixPos left →
      P left (e.collapse S binSem preSem av G k ++ rest) =
        P ((e.collapse S binSem preSem av G (k + 1)).reverse ++ left) rest := by
  have reduced : ∀ x : E A, x.top G ≤ k → ∀ left rest : Toks Q,
      P left (x.collapse S binSem preSem av G k ++ rest) =
        P ((x.collapse S binSem preSem av G (k + 1)).reverse ++ left) rest := by
    intro x hx left rest
    rw [collapse_of_top_le k x hx,
      collapse_of_top_le (k + 1) x (Nat.le_succ_of_le hx)]
    exact hP.atom left rest _
  induction e with
  | pre u e ih =>
    intro left rest hl
    obtain ⟨hu, _, ht, hwe⟩ := hw
    by_cases h1 : G.lvlPre u ≤ k
    · exact reduced (.pre u e) h1 left rest
    · by_cases h2 : G.lvlPre u = k + 1
      · rw [collapse_pre_gt e (Nat.lt_of_not_le h1),
          collapse_of_top_le k e (Nat.le_of_lt_succ (Nat.lt_of_lt_of_eq ht h2)),
          collapse_of_top_le (k + 1) (.pre u e) (Nat.le_of_eq h2)]
        exact hP.preApply u hu h2 _ left rest hl
      · have h3 : k + 1 < G.lvlPre u := Nat.lt_of_le_of_ne (Nat.lt_of_not_le h1) (Ne.symm h2)
        rw [collapse_pre_gt e (Nat.lt_of_not_le h1),
          collapse_pre_gt e h3, List.cons_append,
          hP.preSkip u hu h3 left _ hl, ih hwe (.op u :: left) rest trivial, List.reverse_cons,
          List.append_assoc]
        rfl
  | bin o l r ihl ihr =>
    intro left rest hl
    obtain ⟨ho, _, htl, htr, hwl, hwr⟩ := hw
    by_cases h1 : G.lvl o ≤ k
    · exact reduced (.bin o l r) h1 left rest
    · rw [collapse_bin_gt l r (Nat.lt_of_not_le h1), List.append_assoc,
        ihl hwl left _ hl]
      by_cases h2 : G.lvl o = k + 1
      · rw [collapse_of_top_le (k + 1) l (Nat.le_trans htl (Nat.le_of_eq h2)),
          collapse_of_top_le k r (Nat.le_of_lt_succ (Nat.lt_of_lt_of_eq htr h2)),
          collapse_of_top_le (k + 1) (.bin o l r) (Nat.le_of_eq h2)]
        exact hP.binApply o ho h2 _ _ left rest
      · have h3 : k + 1 < G.lvl o := Nat.lt_of_le_of_ne (Nat.lt_of_not_le h1) (Ne.symm h2)
        obtain ⟨p, q, hq⟩ := (collapse_ends (k + 1) l).2
        obtain ⟨t, r', ht⟩ := (collapse_ends k r).1
        have step : P ((l.collapse S binSem preSem av G (k + 1)).reverse ++ left)
            (.op o :: (r.collapse S binSem preSem av G k ++ rest)) =
            P (.op o :: ((l.collapse S binSem preSem av G (k + 1)).reverse ++ left))
              (r.collapse S binSem preSem av G k ++ rest) := by
          rw [hq, ht, List.reverse_append]
          exact hP.binSkip o ho h3 q _ t _
        rw [List.cons_append, step, ihr hwr _ rest (by trivial),
          collapse_bin_gt l r h3]
        simp
  | _ => exact fun left rest _ => reduced _ (by exact Nat.zero_le k) left rest

end

/-- The admitted keys of a grammar enumerated: with it the agreement between the keys of a step and a
    level of the grammar is a statement over finite lists, decided for a concrete table. -/
structure Grammar.Listed (G : Grammar) (bins pres fn1s fn2s : List String) : Prop where
  bin : ∀ o, G.okBin o = true → o ∈ bins
  pre : ∀ u, G.okPre u = true → u ∈ pres
  fn1 : ∀ f, G.okFn1 f = true → f ∈ fn1s
  fn2 : ∀ f, G.okFn2 f = true → f ∈ fn2s

section
variable {S : Sem Q} {binSem : String → Q → Q → Q} {preSem : String → Q → Q} {G : Grammar}
  {bins pres fn1s fn2s : List String} (hG : G.Listed bins pres fn1s fn2s) (k : Nat)
  (ops : List String)
include hG

/-- A BINARY pass whose operators are exactly the admitted binary operators of level `k + 1`
    (and no prefix operator of that or a higher level).  A key may be both (` + `, ` - ` are prefix
    keys of level 1 and binary keys of level 4), hence the first alternative of the second conjunct:
    a prefix key among the step's keys is harmless once its prefix level is passed. -/
theorem binPass_levelPass (hsem : ∀ o, G.okBin o = true → S.bin o = some (binSem o))
    (hops : (∀ o ∈ bins, (o ∈ ops ↔ G.lvl o = k + 1)) ∧
      ∀ u ∈ pres, G.lvlPre u ≤ k ∨ (u ∉ ops ∧ G.lvlPre u ≠ k + 1)) :
    LevelPass binSem preSem G (binPass fun o => if o ∈ ops then S.bin o else none) k where
  nil := binPass_nil _
  atom := binPass_atom _
  binApply o ho hl a b left r := binPass_apply _ left r o a b _
    (by rw [if_pos ((hops.1 o (hG.bin o ho)).2 hl), hsem o ho])
  binSkip o ho hl a left t r := binPass_skip _ _ _ o
    (if_neg fun hm => absurd ((hops.1 o (hG.bin o ho)).1 hm) (Nat.ne_of_gt hl))
  preApply u hu hl := (hops.2 u (hG.pre u hu)).elim (fun h => by omega) (fun h => absurd hl h.2)
  preSkip u hu hl left r _ := binPass_skip _ left r u
    (if_neg ((hops.2 u (hG.pre u hu)).elim (fun h => by omega) (fun h => h.1)))

/-- A prefix (UNARY) pass whose operators are exactly the admitted prefix operators of level
    `k + 1` (and no binary operator of that level). -/
theorem prePass_levelPass (hsem : ∀ u ∈ ops, S.pre u = some (preSem u))
    (hops : (∀ u ∈ pres, (u ∈ ops ↔ G.lvlPre u = k + 1)) ∧
      ∀ o ∈ bins, o ∉ ops ∧ G.lvl o ≠ k + 1) :
    LevelPass binSem preSem G (prePass fun o => if o ∈ ops then S.pre o else none) k where
  nil := prePass_nil _
  atom := prePass_atom _
  binApply o ho hl := absurd hl (hops.2 o (hG.bin o ho)).2
  binSkip o ho _ a left t r := prePass_skip _ _ _ o (if_neg (hops.2 o (hG.bin o ho)).1)
  preApply u hu hl b left r _ := prePass_apply _ left r u b _
    (by rw [if_pos ((hops.1 u (hG.pre u hu)).2 hl), hsem u ((hops.1 u (hG.pre u hu)).2 hl)])
  preSkip u hu hl left r _ := prePass_skip _ left r u
    (if_neg fun hm => absurd ((hops.1 u (hG.pre u hu)).1 hm) (Nat.ne_of_gt hl))

end

/-- The sign-folding (UNARY add/sub) pass is the pass of level 1. -/
theorem signPass_levelPass (binSem : String → Q → Q → Q) (preSem : String → Q → Q) (G : Grammar)
    (neg : Q → Q) (ops : List String)
    (hpre : ∀ u, G.okPre u = true → u ∈ ops ∧ G.lvlPre u = 1 ∧
      preSem u = fun q => if (u == "sub") = true then neg q else q)
    (hbin : ∀ o, G.okBin o = true → 2 ≤ G.lvl o) :
    LevelPass binSem preSem G (signPass neg ops) 0 where
  nil left := by rw [signPass]
  atom left r q := by rw [signPass]
  binApply o ho hl := absurd (hbin o ho) (by omega)
  binSkip o _ _ a left t r := by
    -- a value on top of `left` fails all four folding tests of `signPass` (each asks for a non-value
    -- there), so a ` + ` / ` - ` after a value falls through to the last branch and is moved
    rw [signPass]
    by_cases hm : o ∈ ops
    · simp [hm, popLeft, Tok.isAtom]
    · simp [hm]
  preApply u hu _ b left r hl := by
    -- two shapes of a prefix position: on an empty stack the signed value goes to `left` at once; with an
    -- operator on top it is put back on `right` and moved by the next iteration (the last `rw [signPass]`)
    obtain ⟨hm, _, hsem⟩ := hpre u hu
    rw [hsem, signPass]
    cases left with
    | nil => simp [hm, popLeft, Tok.isAtom]
    | cons t l' =>
      cases t with
      | op o' => simp [hm, popLeft, Tok.isAtom, Tok.isOp]; rw [signPass]
      | _ => exact hl.elim
  preSkip u hu hl := absurd (hpre u hu).2.1 (by omega)

section
variable (S : Sem Q) (binSem : String → Q → Q → Q) (preSem : String → Q → Q) (av : A → Q)
  (G : Grammar)

theorem signPass_collapse (neg : Q → Q) (ops : List String)
    (hpre : ∀ u, G.okPre u = true → u ∈ ops ∧ G.lvlPre u = 1 ∧
      preSem u = fun q => if (u == "sub") = true then neg q else q)
    (hbin : ∀ o, G.okBin o = true → 2 ≤ G.lvl o)
    (e : E A) (hw : e.WF G) : ∀ left rest : Toks Q, PrefixPos left →
    signPass neg ops left (e.collapse S binSem preSem av G 0 ++ rest) =
      signPass neg ops ((e.collapse S binSem preSem av G 1).reverse ++ left) rest :=
  (signPass_levelPass binSem preSem G neg ops hpre hbin).collapse av e hw

theorem argsPass_append (fn : String → List Q → Q) (ops : List String) (a b : Toks Q) :
    argsPass fn ops (a ++ b) = argsPass fn ops a ++ argsPass fn ops b := by
  induction a with
  | nil => rfl
  | cons t a ih => cases t <;> simp [argsPass, ih]

theorem argsPass_toks (ops : List String) (hpar : "par" ∈ ops)
    (h1 : ∀ f, G.okFn1 f = true → f ∈ ops) (h2 : ∀ f, G.okFn2 f = true → f ∈ ops)
    (e : E A) (hw : e.WF G) :
    argsPass S.fn ops (e.toks (fun x => x.eval S binSem preSem av) av) =
      e.collapse S binSem preSem av G 0 := by
  induction e with
  | lit a => simp [E.toks, argsPass, E.collapse, E.eval]
  | par e _ => simp [E.toks, argsPass, E.collapse, E.eval, hpar]
  | fn1 f a _ => simp [E.toks, argsPass, E.collapse, E.eval, h1 f hw.1]
  | fn2 f a b _ _ => simp [E.toks, argsPass, E.collapse, E.eval, h2 f hw.1]
  | pre u e ih =>
    obtain ⟨hu, hl, ht, hwe⟩ := hw
    have : ¬ G.lvlPre u ≤ 0 := by omega
    simp [E.toks, argsPass, E.collapse, this, ih hwe]
  | bin o l r ihl ihr =>
    obtain ⟨ho, hl0, htl, htr, hwl, hwr⟩ := hw
    have : ¬ G.lvl o ≤ 0 := by omega
    simp [E.toks, argsPass_append, argsPass, E.collapse, this, ihl hwl, ihr hwr]

end

/-- A step with its operator keys restricted to those the solver instance has
    (`[self.operators[o] for o in ostep if o in keys]`). -/
def Step.restrict (keys : List String) (st : Step) : Step := ⟨st.ops.filter (fun o => o ∈ keys), st.otype⟩

/-- `runStep` on a restricted step. -/
def pass (S : Sem Q) (st : Step) (t : Toks Q) : Option (Toks Q) :=
  if st.ops.isEmpty then some t
  else if st.otype = 0 then some (argsPass S.fn st.ops t)
  else if st.otype = 1 then
    if st.ops.all (fun o => o == "add" || o == "sub") then signPass S.neg st.ops [] t
    else prePass (fun o => if o ∈ st.ops then S.pre o else none) [] t
  else binPass (fun o => if o ∈ st.ops then S.bin o else none) [] t

def passes (S : Sem Q) : List Step → Toks Q → Option (Toks Q)
  | [], t => some t
  | st :: rest, t => (pass S st t).bind (passes S rest)

theorem runSteps_eq_passes (S : Sem Q) (keys : List String) (steps : List Step) (t : Toks Q) :
    runSteps S keys steps t = passes S (steps.map (Step.restrict keys)) t := by
  induction steps generalizing t with
  | nil => rfl
  | cons st rest ih =>
    show (pass S (st.restrict keys) t).bind _ = (pass S (st.restrict keys) t).bind _
    exact congrArg _ (funext ih)

section
variable (S : Sem Q) (binSem : String → Q → Q → Q) (preSem : String → Q → Q) (av : A → Q)
  (G : Grammar)

/-- The (restricted) steps `ps` take the list `src e` of every well-formed tree to `dst e`; the
    instances chain it from `E.toks` through `E.collapse 0 … kmax` (`RunsTo.args`, `.level`, `.skip`). -/
def RunsTo (ps : List Step) (src dst : E A → Toks Q) : Prop :=
  ∀ e, e.WF G → passes S ps (src e) = some (dst e)

/-- The machine of a solver instance solves the token list of every well-formed tree — arguments
    already solved to their values — to the tree value.  `binSem`, `preSem` are the total versions
    of the Option-valued `S.bin`, `S.pre` that `E.eval` takes; that they agree on the admitted keys is
    a premise per instance (`hsem` of `binPass_levelPass`, `prePass_levelPass`). -/
def Solves (keys : List String) (steps : List Step) : Prop :=
  ∀ e : E A, e.WF G → machine S keys steps (e.toks (fun x => x.eval S binSem preSem av) av) =
    some (.atom (e.eval S binSem preSem av))

variable {S binSem preSem av G}

theorem RunsTo.nil (src : E A → Toks Q) : RunsTo S G [] src src := fun _ _ => rfl

theorem RunsTo.skip {ps : List Step} {src dst : E A → Toks Q} (ty : Nat) (h : RunsTo S G ps src dst) :
    RunsTo S G (⟨[], ty⟩ :: ps) src dst := h

theorem RunsTo.level {P : Toks Q → Toks Q → Option (Toks Q)} {k : Nat} {st : Step} {ps : List Step}
    {dst : E A → Toks Q} (hP : LevelPass binSem preSem G P k) (hst : ∀ t, pass S st t = P [] t)
    (h : RunsTo S G ps (fun e => e.collapse S binSem preSem av G (k + 1)) dst) :
    RunsTo S G (st :: ps) (fun e => e.collapse S binSem preSem av G k) dst := by
  intro e hw
  have hc := hP.collapse (S := S) av e hw [] [] trivial
  rw [List.append_nil, List.append_nil, hP.nil, List.reverse_reverse] at hc
  show (pass S st _).bind _ = _
  rw [hst, hc]
  exact h e hw

variable {bins pres fn1s fn2s : List String} (hG : G.Listed bins pres fn1s fn2s)
include hG

theorem RunsTo.args {ps : List Step} {dst : E A → Toks Q} (ops : List String)
    (hops : "par" ∈ ops ∧ ∀ f ∈ fn1s ++ fn2s, f ∈ ops)
    (h : RunsTo S G ps (fun e => e.collapse S binSem preSem av G 0) dst) :
    RunsTo S G (⟨ops, 0⟩ :: ps) (fun e => e.toks (fun x => x.eval S binSem preSem av) av) dst := by
  intro e hw
  have hne : ops.isEmpty = false := by cases ops with
    | nil => cases hops.1
    | cons _ _ => rfl
  simp only [passes, pass, hne, Bool.false_eq_true, if_false, if_true, Option.bind_some]
  rw [argsPass_toks S binSem preSem av G ops hops.1 (fun f hf => hops.2 f (List.mem_append_left _ (hG.fn1 f hf)))
    (fun f hf => hops.2 f (List.mem_append_right _ (hG.fn2 f hf))) e hw]
  exact h e hw

theorem machine_of_runsTo (keys : List String) (steps : List Step) (kmax : Nat)
    (h : RunsTo S G (steps.map (Step.restrict keys))
      (fun e => e.toks (fun x => x.eval S binSem preSem av) av)
      (fun e => e.collapse S binSem preSem av G kmax))
    (htop : (∀ o ∈ bins, G.lvl o ≤ kmax) ∧ ∀ u ∈ pres, G.lvlPre u ≤ kmax) :
    Solves S binSem preSem av G keys steps := by
  intro e hw
  have ht : e.top G ≤ kmax := by
    cases e with
    | pre u e => exact htop.2 u (hG.pre u hw.1)
    | bin o l r => exact htop.1 o (hG.bin o hw.1)
    | _ => exact Nat.zero_le _
  have hr : passes S _ (e.toks _ av) = some (e.collapse S binSem preSem av G kmax) := h e hw
  rw [machine, runSteps_eq_passes, hr, collapse_of_top_le kmax e ht]

end
section
variable (S : Sem Q) (binSem : String → Q → Q → Q) (preSem : String → Q → Q) (av : A → Q)
  (G : Grammar) (keys : List String) (steps : List Step)
  (hm : Solves S binSem preSem av G keys steps)
include hm

theorem finish_toks (e : E A) (hw : e.WF G) :
    finish S keys steps (e.toks (fun x => x.eval S binSem preSem av) av) = some (e.eval S binSem preSem av) := by
  rw [finish, hm e hw]

theorem tk_eq_toks (e : E A) (hw : e.WF G) :
    e.tk S keys steps av = some (e.toks (fun x => x.eval S binSem preSem av) av) := by
  induction e with
  | lit a => rfl
  | par e ih => simp [E.tk, ih hw, finish_toks S binSem preSem av G keys steps hm e hw, E.toks]
  | fn1 f a ih => simp [E.tk, ih hw.2, finish_toks S binSem preSem av G keys steps hm a hw.2, E.toks]
  | fn2 f a b iha ihb =>
    simp [E.tk, iha hw.2.1, ihb hw.2.2, finish_toks S binSem preSem av G keys steps hm a hw.2.1,
      finish_toks S binSem preSem av G keys steps hm b hw.2.2, E.toks]
  | pre u e ih => simp [E.tk, ih hw.2.2.2, E.toks]
  | bin o l r ihl ihr => simp [E.tk, ihl hw.2.2.2.2.1, ihr hw.2.2.2.2.2, E.toks]

theorem solve_eq_eval (e : E A) (hw : e.WF G) :
    e.solve S keys steps av = some (e.eval S binSem preSem av) := by
  rw [E.solve, tk_eq_toks S binSem preSem av G keys steps hm e hw, Option.bind_some,
    finish_toks S binSem preSem av G keys steps hm e hw]
end
end SciVerif.C18
