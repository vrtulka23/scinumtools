import SciVerif.Model.C02
import SciVerif.Model.C01Spec
import SciVerif.Generated.C01Tables

namespace SciVerif.C02
open SciVerif.C01

variable {A : Type}

theorem finish_ok_empty (b b' : Bufs A) (t : Tok A) (h : finish b = .ok (t, b')) :
    b' = ⟨[], []⟩ := by
  unfold finish at h
  split at h
  · cases h
  · rename_i hc
    simp only [Bool.or_eq_true, decide_eq_true_eq, not_or, Nat.not_lt] at hc
    obtain ⟨hl, hr⟩ := hc
    have hl' : b.left = [] := List.eq_nil_of_length_eq_zero (by omega)
    cases b with
    | mk l r =>
      simp only at hl' hr
      subst hl'
      match r, hr with
      | [], _ => simp [getRight] at h; exact h.2.symm
      | [x], _ => simp [getRight] at h; exact h.2.symm

theorem solveFromF_ok_empty (tbl : Table) (alg : AtomAlg A) (steps : List (List String × Otype))
    (n : Nat) (b0 b : Bufs A) (s : List Char) (t : Tok A) :
    solveFromF tbl alg steps n b0 s = (b, .ok t) → b = ⟨[], []⟩ := by
  -- branches of `solveFromF`: no fuel, the tokeniser / the step loop / the final test raises, and (5) success
  fun_cases solveFromF tbl alg steps n b0 s with
  | case5 => exact fun h => by cases h; exact finish_ok_empty _ _ _ ‹_›
  | _ => exact nofun

theorem solveArgs_reset (f : Bufs A → List Char → Bufs A × Except String (Tok A))
    (args : List (List Char)) :
    ∀ st0 st1, solveArgs (fun st a => f (resetBufs st) a) st0 args
      = solveArgs (fun st a => f (resetBufs st) a) st1 args := by
  induction args with
  | nil => intro _ _; rfl
  | cons a as ih =>
    intro st0 st1
    simp only [solveArgs]
    have e : f (resetBufs st0) a = f (resetBufs st1) a := rfl
    rw [e]

deriving instance DecidableEq for Tok, Bufs

@[instance_reducible]
def decEqExcept {ε α : Type} [DecidableEq ε] [DecidableEq α] : DecidableEq (Except ε α)
  | .ok a, .ok b => if h : a = b then isTrue (h ▸ rfl) else isFalse (fun h' => h (Except.ok.inj h'))
  | .error a, .error b =>
      if h : a = b then isTrue (h ▸ rfl) else isFalse (fun h' => h (Except.error.inj h'))
  | .ok _, .error _ => isFalse nofun
  | .error _, .ok _ => isFalse nofun

attribute [local instance] decEqExcept

open SciVerif.C01.Gen in
/-- `solve("1 + x")` raises at the atom `x` and leaves the atom `1` and the `+` operator behind
    (`.op 13`: `add` is row 13 of the live table, `idxOf_sign` in `Lemmas/C01Tokens.lean`) -/
theorem solveI_one_plus_x :
    solveI dflt termAlg dfltSteps ⟨[], []⟩ ['1', ' ', '+', ' ', 'x']
      = (⟨[], [.atom (.num ['1']), .op 13 []]⟩, .error "atom") := by decide +kernel

open SciVerif.C01.Gen in
theorem solveI_two :
    solveI dflt termAlg dfltSteps ⟨[], []⟩ ['2'] = (⟨[], []⟩, .ok (.atom (.num ['2']))) := by
  decide +kernel

open SciVerif.C01.Gen in
/-- the body of `solve("2")` started on those leftovers -/
theorem solveFrom_leftover_two :
    (solveFrom dflt termAlg dfltSteps ⟨[], [.atom (.num ['1']), .op 13 []]⟩ ['2']).2
      = .ok (.atom (.bin .add (.num ['1']) (.num ['2']))) := by decide +kernel

end SciVerif.C02
