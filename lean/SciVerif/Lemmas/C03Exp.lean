import Mathlib.Tactic.Ring
import Mathlib.Algebra.BigOperators.Group.List.Basic
import SciVerif.Model.C03Spec
import SciVerif.Lemmas.Util.FracQ

/-! # C03 helper lemmas: exponent bookkeeping of `*` and `/`, the binary pass as a left fold -/
namespace SciVerif.C03

theorem Frac.toRat_add (a b : Frac) (ha : a.den ≠ 0) (hb : b.den ≠ 0) :
    (a.add b).toRat = a.toRat + b.toRat :=
  Util.intDiv_add a.num a.den b.num b.den ha hb

theorem Frac.toRat_mul (a b : Frac) : (a.mul b).toRat = a.toRat * b.toRat := by
  unfold Frac.mul Frac.toRat
  push_cast
  rw [div_mul_div_comm]

theorem Frac.toRat_neg (a : Frac) : a.neg.toRat = - a.toRat := by
  unfold Frac.neg Frac.toRat
  push_cast
  ring

theorem toRat_of_num_zero (e : Frac) (h : e.num = 0) : e.toRat = 0 := by
  simp [Frac.toRat, h]

/-- `__sub__` is `__add__` of the negated fraction, on the nose: what is known of sums serves differences -/
theorem Frac.sub_eq_add_neg (a b : Frac) : a.sub b = a.add b.neg := by
  simp only [Frac.sub, Frac.add, Frac.neg, Int.neg_mul, Int.sub_eq_add_neg]

theorem Frac.toRat_sub (a b : Frac) (ha : a.den ≠ 0) (hb : b.den ≠ 0) :
    (a.sub b).toRat = a.toRat - b.toRat := by
  rw [Frac.sub_eq_add_neg, Frac.toRat_add a b.neg ha hb, Frac.toRat_neg, ← _root_.sub_eq_add_neg]

theorem Atom.div_eq_some {a b c : Atom} (h : a.div b = some c) :
    b.mag ≠ 0 ∧ c = ⟨a.mag / b.mag, a.units.mergeSub b.units⟩ := by
  revert h; fun_cases Atom.div a b <;> intro h <;> cases h
  exact ⟨‹_›, rfl⟩

/-- the exponent an exponent dict gives a unit, as a rational (0 if the unit is absent) -/
def expR (m : ExpMap) (u : UnitId) : Rat :=
  match m.get u with
  | some e => e.toRat
  | none => 0

/-- the sum of all exponents an entry list holds for a unit, as a rational -/
def sumR (m : ExpMap) (u : UnitId) : Rat :=
  (m.map (fun ue => if ue.1 = u then ue.2.toRat else 0)).sum

theorem expR_nil (v : UnitId) : expR [] v = 0 := rfl

theorem expR_cons (k : UnitId) (e : Frac) (t : ExpMap) (v : UnitId) :
    expR ((k, e) :: t) v = if k = v then e.toRat else expR t v := by
  rw [expR, ExpMap.get]
  by_cases h : k = v
  · rw [if_pos h, if_pos h]
  · rw [if_neg h, if_neg h]; rfl

theorem sumR_nil (v : UnitId) : sumR [] v = 0 := rfl

theorem sumR_cons (a : UnitId × Frac) (t : ExpMap) (v : UnitId) :
    sumR (a :: t) v = (if a.1 = v then a.2.toRat else 0) + sumR t v := List.sum_cons

theorem expOf_nil (v : UnitId) : expOf [] v = 0 := rfl

theorem expOf_cons (a : UnitId × Rat) (t : List (UnitId × Rat)) (v : UnitId) :
    expOf (a :: t) v = (if a.1 = v then a.2 else 0) + expOf t v := List.sum_cons

/-- the dict read as the specification's list of (unit, rational exponent) pairs -/
def ratPairs (m : ExpMap) : List (UnitId × Rat) := m.map (fun ue => (ue.1, ue.2.toRat))

theorem ratPairs_nil : ratPairs [] = [] := rfl

theorem ratPairs_cons (u : UnitId) (e : Frac) (m : ExpMap) : ratPairs ((u, e) :: m) = (u, e.toRat) :: ratPairs m := rfl

theorem ratPairs_append (a b : ExpMap) : ratPairs (a ++ b) = ratPairs a ++ ratPairs b := List.map_append

theorem expOf_ratPairs (m : ExpMap) (k : UnitId) : expOf (ratPairs m) k = sumR m k := by
  simp [expOf, ratPairs, sumR, List.map_map, Function.comp_def]

def densOk (m : ExpMap) : Prop := ∀ ue ∈ m, ue.2.den ≠ 0

theorem get_mem (m : ExpMap) (u : UnitId) (e : Frac) (h : m.get u = some e) : (u, e) ∈ m := by
  fun_induction ExpMap.get m u
  -- cases of `get`: 1 empty dict, 2 the key stands first, 3 the key is further on
  case case1 => cases h
  case case2 => cases h; exact List.mem_cons_self
  case case3 ih => exact List.mem_cons_of_mem _ (ih h)

theorem get_set_same (m : ExpMap) (u : UnitId) (e : Frac) : (m.set u e).get u = some e := by
  fun_induction ExpMap.set m u e <;> simp [ExpMap.get, *]

theorem get_set_other (m : ExpMap) (u v : UnitId) (e : Frac) (h : v ≠ u) :
    (m.set u e).get v = m.get v := by
  fun_induction ExpMap.set m u e
  -- cases of `set`: 1 empty dict, 2 the key stands first, 3 the key is further on
  case case1 => simp [ExpMap.get, h.symm]
  case case2 => simp [ExpMap.get, h.symm]
  case case3 k w t hk ih => simp only [ExpMap.get, ih]

theorem mem_set (m : ExpMap) (u : UnitId) (e : Frac) (x : UnitId × Frac) (h : x ∈ m.set u e) :
    x ∈ m ∨ x = (u, e) := by
  fun_induction ExpMap.set m u e
  case case1 => exact Or.inr (List.mem_singleton.mp h)
  case case2 =>
    exact (List.mem_cons.mp h).elim Or.inr fun h1 => Or.inl (List.mem_cons_of_mem _ h1)
  case case3 ih =>
    rcases List.mem_cons.mp h with h1 | h1
    · exact Or.inl (h1 ▸ List.mem_cons_self)
    · exact (ih h1).imp_left (List.mem_cons_of_mem _)

theorem densOk_set (m : ExpMap) (u : UnitId) (e : Frac) (hm : densOk m) (he : e.den ≠ 0) :
    densOk (m.set u e) := by
  intro x hx
  rcases mem_set m u e x hx with h | h
  · exact hm x h
  · rw [h]; exact he

theorem expR_set (m : ExpMap) (u v : UnitId) (e : Frac) :
    expR (m.set u e) v = if u = v then e.toRat else expR m v := by
  unfold expR
  by_cases h : u = v
  · subst h; simp [get_set_same]
  · have : v ≠ u := fun hh => h hh.symm
    simp [get_set_other m u v e this, h]

theorem addEntry_spec (m : ExpMap) (ue : UnitId × Frac) (v : UnitId) (hm : densOk m) (he : ue.2.den ≠ 0) :
    expR (m.addEntry ue) v = expR m v + (if ue.1 = v then ue.2.toRat else 0) ∧ densOk (m.addEntry ue) := by
  unfold ExpMap.addEntry
  cases hg : m.get ue.1 with
  | none =>
    refine ⟨?_, densOk_set m _ _ hm he⟩
    rw [expR_set]
    by_cases h : ue.1 = v
    · subst h; simp [expR, hg]
    · simp [h]
  | some w =>
    have hw : w.den ≠ 0 := hm _ (get_mem m _ _ hg)
    refine ⟨?_, densOk_set m _ _ hm ?_⟩
    · rw [expR_set]
      by_cases h : ue.1 = v
      · subst h; simp [expR, hg, Frac.toRat_add w ue.2 hw he]
      · simp [h]
    · simp only [Frac.add]; exact Int.mul_ne_zero hw he

theorem mergeAdd_spec (a b : ExpMap) (v : UnitId) (ha : densOk a) (hb : densOk b) :
    expR (a.mergeAdd b) v = expR a v + sumR b v ∧ densOk (a.mergeAdd b) := by
  unfold ExpMap.mergeAdd
  induction b generalizing a with
  | nil => exact ⟨by rw [sumR_nil, add_zero]; rfl, ha⟩
  | cons x t ih =>
    have hx : x.2.den ≠ 0 := hb x (by simp)
    have ht : densOk t := fun y hy => hb y (List.mem_cons_of_mem _ hy)
    obtain ⟨e1, d1⟩ := addEntry_spec a x v ha hx
    obtain ⟨e2, d2⟩ := ih (a.addEntry x) d1 ht
    refine ⟨?_, d2⟩
    simp only [List.foldl_cons]
    rw [e2, e1, sumR_cons, add_assoc]

def ExpMap.neg (m : ExpMap) : ExpMap := m.map fun ue => (ue.1, ue.2.neg)

theorem subEntry_eq (m : ExpMap) (ue : UnitId × Frac) : m.subEntry ue = m.addEntry (ue.1, ue.2.neg) := by
  unfold ExpMap.subEntry ExpMap.addEntry
  cases m.get ue.1 <;> simp only [Frac.sub_eq_add_neg]

/-- `Atom.__truediv__` merges as `Atom.__mul__` does with the negated dict -/
theorem mergeSub_eq (a b : ExpMap) : a.mergeSub b = a.mergeAdd b.neg := by
  rw [ExpMap.mergeSub, ExpMap.mergeAdd, ExpMap.neg, List.foldl_map]
  exact congrFun (congrFun (congrArg List.foldl (funext fun m => funext fun ue => subEntry_eq m ue)) a) b

theorem densOk_neg {m : ExpMap} (h : densOk m) : densOk m.neg := by
  intro x hx
  obtain ⟨y, hy, rfl⟩ := List.mem_map.mp hx
  exact h y hy

theorem sumR_neg (m : ExpMap) (v : UnitId) : sumR m.neg v = - sumR m v := by
  rw [sumR, sumR, List.sum_neg, ExpMap.neg, List.map_map, List.map_map]
  refine congrArg _ (List.map_congr_left fun ue _ => ?_)
  show (if ue.1 = v then ue.2.neg.toRat else 0) = -(if ue.1 = v then ue.2.toRat else 0)
  split
  · exact Frac.toRat_neg _
  · exact neg_zero.symm

theorem mergeSub_spec (a b : ExpMap) (v : UnitId) (ha : densOk a) (hb : densOk b) :
    expR (a.mergeSub b) v = expR a v - sumR b v ∧ densOk (a.mergeSub b) := by
  rw [mergeSub_eq, sub_eq_add_neg, ← sumR_neg]
  exact mergeAdd_spec a b.neg v ha (densOk_neg hb)

/-- the denominators of a merged dict, without a key to ask the exponent of -/
theorem densOk_mergeAdd {a b : ExpMap} (ha : densOk a) (hb : densOk b) : densOk (a.mergeAdd b) :=
  (mergeAdd_spec a b (.sys []) ha hb).2

theorem densOk_mergeSub {a b : ExpMap} (ha : densOk a) (hb : densOk b) : densOk (a.mergeSub b) :=
  mergeSub_eq a b ▸ densOk_mergeAdd ha (densOk_neg hb)

/-- `a0 op1 a1 op2 a2 …` evaluated from the left (`none`: division by a zero number) -/
def foldChain (a0 : Atom) : List (Bool × Atom) → Option Atom
  | [] => some a0
  | (true, b) :: rest => foldChain (a0.mul b) rest
  | (false, b) :: rest => match a0.div b with
    | some c => foldChain c rest
    | none => none

/-- the tokens of `op1 a1 op2 a2 …` (`true` = `*`, `false` = `/`) -/
def chainToks : List (Bool × Atom) → List Tok
  | [] => []
  | (m, b) :: rest => (if m then Tok.mul else Tok.div) :: Tok.val (some b) :: chainToks rest

theorem binPass_chain (a0 : Atom) (ops : List (Bool × Atom)) :
    binPass [.val (some a0)] (chainToks ops) =
      match foldChain a0 ops with
      | some r => .ok [.val (some r)]
      | none => .error .zeroDiv := by
  fun_induction foldChain a0 ops
  -- cases of `foldChain`: 1 no operand left, 2 `*`, 3 `/` by a non-zero number, 4 `/` by zero
  case case1 => simp [chainToks, binPass]
  case case2 ih => simp only [chainToks, if_true, binPass]; exact ih
  case case3 hd ih => simp only [chainToks, Bool.false_eq_true, if_false, binPass, hd]; exact ih
  case case4 hd => simp only [chainToks, Bool.false_eq_true, if_false, binPass, hd]

end SciVerif.C03
