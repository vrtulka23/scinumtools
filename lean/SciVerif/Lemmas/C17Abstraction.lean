import SciVerif.Lemmas.C17Paths

/-! Refinement of the model's parse loop to the path-keyed specification: abstraction function,
    invariants on stored nodes, the hierarchy stack, and what `processNode` does to a line at any
    indentation — a new node is appended, an existing one is assigned to — against the
    specification's update of the abstraction. -/
namespace SciVerif.C17

/-- the specification's view of a stored node: the dotted name read as a path (`split('.')`), raw value,
    reference, slice, indent and the bookkeeping flags forgotten -/
def absN (n : Node) : SNode :=
  ⟨splitDot n.name, n.kw, n.dims, n.unitsRaw, n.value, n.constant, n.condition, n.format, n.tags,
   n.options, n.description⟩

theorem absN_path (n : Node) : (absN n).path = splitDot n.name := rfl

/-- What the main loop keeps true of every stored node: typed, holding a value that its own cast leaves
    unchanged, a unit of the table.  No pending slice: `set_value` / `modify_value` drop it once applied.
    Integers carry no unit: the affine unit conversion of an assignment may leave ℤ (`numKw_float_or_unitless`). -/
def Good (tbl : UnitTable) (n : Node) : Prop :=
  isTyped n.kw = true ∧ (∃ v, n.value = some v ∧ conforms n.kw n.dims v = some v) ∧ n.slice = [] ∧
  unitOk tbl n.kw n.unitsRaw = true ∧ (n.kw = .int → n.unitsRaw = none)

/-- like `Good`, but the node may be declared only: IF it holds a value, the value conforms -/
def GoodD (tbl : UnitTable) (n : Node) : Prop :=
  isTyped n.kw = true ∧ (∀ v, n.value = some v → conforms n.kw n.dims v = some v) ∧ n.slice = [] ∧
  unitOk tbl n.kw n.unitsRaw = true ∧ (n.kw = .int → n.unitsRaw = none)

/-- The specification environment of a model environment: nodes and remote sources through `absN`, the
    hierarchy stack forgotten.  `mayReject` is `false`: the specification sets it only for an import that
    selects nothing, which the model refuses (`imp_empty_rejected`) and the side conditions exclude. -/
def absEnv (env : Env) : SEnv :=
  ⟨env.nodes.map absN, env.sources.map (fun s => (s.1, s.2.map absN)), false, env.units, env.srcUnits⟩

/-- the invariant of the refinement theorems: every stored node and every node of a remote source is `Good` -/
def Inv (tbl : UnitTable) (env : Env) : Prop :=
  (∀ n ∈ env.nodes, Good tbl n) ∧ (∀ s ∈ env.sources, ∀ n ∈ s.2, Good tbl n)

/-- declared nodes are allowed in the main node list; remote sources stay fully valued -/
def InvD (tbl : UnitTable) (env : Env) : Prop :=
  (∀ n ∈ env.nodes, GoodD tbl n) ∧ (∀ s ∈ env.sources, ∀ n ∈ s.2, Good tbl n)

theorem good_goodD {tbl : UnitTable} {n : Node} (h : Good tbl n) : GoodD tbl n := by
  obtain ⟨hk, ⟨v, hv, hc⟩, hsl, hu, hi⟩ := h
  refine ⟨hk, ?_, hsl, hu, hi⟩
  intro w hw
  rw [hv] at hw
  cases hw
  exact hc

theorem goodD_good {tbl : UnitTable} {n : Node} (h : GoodD tbl n) (hv : n.value.isSome = true) : Good tbl n := by
  obtain ⟨hk, hc, hsl, hu, hi⟩ := h
  cases hval : n.value with
  | none => simp [hval] at hv
  | some v => exact ⟨hk, ⟨v, hval, hc v hval⟩, hsl, hu, hi⟩

theorem inv_invD {tbl : UnitTable} {env : Env} (h : Inv tbl env) : InvD tbl env :=
  ⟨fun n hn => good_goodD (h.1 n hn), h.2⟩

theorem invD_inv {tbl : UnitTable} {env : Env} (h : InvD tbl env)
    (hv : ∀ n ∈ env.nodes, n.value.isSome = true) : Inv tbl env :=
  ⟨fun n hn => goodD_good (h.1 n hn) (hv n hn), h.2⟩

/-- A stored-node invariant between `Good` and `GoodD`.  The simulation lemmas below need of the
    stored nodes only what `GoodD` says and establish `Good` of every node they write, so they
    hold for `Inv` and for `InvD` alike. -/
structure NodeInv (tbl : UnitTable) (G : Node → Prop) : Prop where
  weaken : ∀ {n}, G n → GoodD tbl n
  ofGood : ∀ {n}, Good tbl n → G n

theorem nodeInv_good (tbl : UnitTable) : NodeInv tbl (Good tbl) := ⟨good_goodD, id⟩

theorem nodeInv_goodD (tbl : UnitTable) : NodeInv tbl (GoodD tbl) := ⟨id, good_goodD⟩

/-- the environment invariant over a node invariant `G`; `Inv tbl`, `InvD tbl` unfold to it at `Good tbl`, `GoodD tbl` -/
def InvG (tbl : UnitTable) (G : Node → Prop) (env : Env) : Prop :=
  (∀ n ∈ env.nodes, G n) ∧ (∀ s ∈ env.sources, ∀ n ∈ s.2, Good tbl n)

theorem absEnv_nodes (env : Env) (ns : List Node) (ps : List (Nat × Str)) :
    absEnv { env with parents := ps, nodes := ns } = { absEnv env with nodes := ns.map absN } := rfl

theorem good_conf {tbl : UnitTable} {n : Node} (hg : Good tbl n) :
    ∃ v, n.value = some v ∧ Conf n.kw v := by
  obtain ⟨_, ⟨v, hv, hc⟩, _⟩ := hg
  exact ⟨v, hv, (conforms_self n.kw n.dims v v hc).2⟩

theorem popParents_zero (ps : List (Nat × Str)) : popParents 0 ps = [] := by
  induction ps with
  | nil => rfl
  | cons p t ih => simp [popParents, ih]

theorem popParents_idem (i : Nat) (ps : List (Nat × Str)) :
    popParents i (popParents i ps) = popParents i ps := by
  induction ps with
  | nil => rfl
  | cons p t ih =>
    by_cases h : i ≤ p.1
    · simp only [popParents, h, if_true, ih]
    · simp only [popParents, h, if_false]

/-- the hierarchy stack after `HierarchyList.register` of a line (indent, name) -/
def regStackOf (ps : List (Nat × Str)) (i : Nat) (nm : Str) : List (Nat × Str) :=
  (i, nm) :: popParents i ps

/-- the dotted path `HierarchyList.register` gives that line -/
def regNameOf (ps : List (Nat × Str)) (i : Nat) (nm : Str) : Str :=
  joinDot ((regStackOf ps i nm).reverse.map Prod.snd)

theorem register_at (ps : List (Nat × Str)) (n : Node) :
    register ps n = (regStackOf ps n.indent n.name, { n with name := regNameOf ps n.indent n.name }) := rfl

theorem regStackOf_zero (ps : List (Nat × Str)) (nm : Str) : regStackOf ps 0 nm = [(0, nm)] := by
  rw [regStackOf, popParents_zero]

theorem regNameOf_zero (ps : List (Nat × Str)) (nm : Str) : regNameOf ps 0 nm = nm := by
  rw [regNameOf, regStackOf_zero]; rfl

/-- a line just registered is popped again by the next line of the same indent -/
theorem popParents_regStackOf (ps : List (Nat × Str)) (i : Nat) (nm : Str) :
    popParents i (regStackOf ps i nm) = popParents i ps := by
  simp only [regStackOf, popParents, Nat.le_refl, if_true, popParents_idem]

def strip (n : Node) : Node := { n with indent := 0 }

theorem absN_strip (n : Node) : absN (strip n) = absN n := rfl

/-- the hierarchy stack after registering the lines (indent, name) one after the other, starting from `ps` -/
def pushAll (ps : List (Nat × Str)) : List (Nat × Str) → List (Nat × Str)
  | [] => ps
  | x :: t => pushAll (regStackOf ps x.1 x.2) t

/-- the ancestors of a line of indentation `m` among the earlier lines (nearest first): the
    nearest earlier line with a smaller indentation, then that line's ancestors -/
def anc (m : Nat) : List (Nat × Str) → List (Nat × Str)
  | [] => []
  | p :: rest => if p.1 < m then p :: anc p.1 rest else anc m rest

/-- a line on top of its ancestors among the earlier lines (latest first): what `pushAll` leaves (`pushAll_stackOf`) -/
def stackOf : List (Nat × Str) → List (Nat × Str)
  | [] => []
  | x :: earlier => x :: anc x.1 earlier

theorem popParents_anc (d e : Nat) (h : d ≤ e) (rest : List (Nat × Str)) :
    popParents d (anc e rest) = anc d rest := by
  induction rest generalizing e with
  | nil => simp [anc, popParents]
  | cons p r ih =>
    simp only [anc]
    by_cases h1 : p.1 < e
    · simp only [h1, if_true, popParents]
      by_cases h2 : d ≤ p.1
      · have : ¬ p.1 < d := by omega
        simp only [h2, if_true, this, if_false]
        exact ih p.1 h2
      · have : p.1 < d := by omega
        simp [h2, this]
    · have : ¬ p.1 < d := by omega
      simp only [h1, if_false, this]
      exact ih e h

theorem popParents_stackOf (d : Nat) (earlier : List (Nat × Str)) :
    popParents d (stackOf earlier) = anc d earlier := by
  cases earlier with
  | nil => simp [stackOf, anc, popParents]
  | cons x rest =>
    simp only [stackOf, popParents, anc]
    by_cases h : d ≤ x.1
    · have : ¬ x.1 < d := by omega
      simp only [h, if_true, this, if_false]
      exact popParents_anc d x.1 h rest
    · have : x.1 < d := by omega
      simp [h, this]

theorem pushAll_stackOf_gen (ls earlier : List (Nat × Str)) :
    pushAll (stackOf earlier) ls = stackOf (ls.reverse ++ earlier) := by
  induction ls generalizing earlier with
  | nil => rfl
  | cons x t ih =>
    have : regStackOf (stackOf earlier) x.1 x.2 = stackOf (x :: earlier) := by
      show (x.1, x.2) :: popParents x.1 (stackOf earlier) = x :: anc x.1 earlier
      rw [popParents_stackOf]
    simp only [pushAll, this, ih (x :: earlier), List.reverse_cons, List.append_assoc, List.singleton_append]

/-- registering lines one after the other from the empty stack leaves the last line on top of its ancestors `anc` -/
theorem pushAll_stackOf (ls : List (Nat × Str)) : pushAll [] ls = stackOf ls.reverse := by
  have := pushAll_stackOf_gen ls []
  simpa [stackOf] using this

theorem unitCheck_ok (tbl : UnitTable) (n : Node) (hk : isTyped n.kw = true)
    (h : unitOk tbl n.kw n.unitsRaw = true) : unitCheck tbl n = .ok () := by
  cases n with
  | mk name indent kw dims raw ref slice unitsRaw value defined constant condition format tags options description imported =>
    -- `unitOk` of a typed keyword is what `unitCheck` tests: a table unit on int / float, none on str / bool
    cases kw <;> cases unitsRaw <;> (try simp_all [unitCheck, unitOk, isNumKw, isTyped])

theorem unitCheck_mod (tbl : UnitTable) (n : Node) (hk : n.kw = .mod) : unitCheck tbl n = .ok () := by
  unfold unitCheck
  rw [hk]

theorem modifyFirst_none (tbl : UnitTable) (m : Node) (ns : List Node)
    (h : ∀ t ∈ ns, t.name ≠ m.name) : modifyFirst tbl m ns = .ok none := by
  induction ns with
  | nil => rfl
  | cons t rest ih =>
    have h1 : t.name ≠ m.name := h t (by simp)
    simp [modifyFirst, h1, ih (fun x hx => h x (by simp [hx]))]

theorem setValue_def (n : Node) (r v' : Val) (hm : n.kw ≠ .mod) (hraw : n.raw = some r)
    (hval : n.value = none) (hc : castValue n r = some v') :
    setValue n = .ok { n with value := some v', slice := [] } := by
  simp [setValue, hraw, hm, hval, hc]

theorem setValue_copy (tbl : UnitTable) (c : Node) (hg : Good tbl c) (hraw : c.raw = c.value) :
    setValue c = .ok c := by
  obtain ⟨hk, ⟨v, hv, hcf⟩, hsl, _, _⟩ := hg
  have hcv : castValue c v = some v := by rw [castValue_eq_conforms c v hsl hk]; exact hcf
  have hr : c.raw = some v := by rw [hraw, hv]
  unfold setValue
  simp only [hr, (typed_ne hk).1, if_false, hv, hcv]
  -- the result is `c` with `value := some v`, `slice := []`: both fields hold that already
  congr 1
  cases c
  simp_all

/-- `processNode` opened once, for any line that is not a group line: `n2` is what `set_value` makes of the
    registered line; `r = some ns`: the first node of that name was assigned to, `r = none`: `n2` is appended. -/
theorem processNode_line (tbl : UnitTable) (env : Env) (n n2 : Node) (r : Option (List Node))
    (hu : unitCheck tbl n = .ok ()) (hg : n.kw ≠ .group)
    (hs : setValue { n with name := regNameOf env.parents n.indent n.name } = .ok n2)
    (hm : modifyFirst tbl n2 env.nodes = .ok r) (hmod : r = none → n2.kw ≠ .mod) :
    processNode tbl env n =
      .ok { env with parents := regStackOf env.parents n.indent n.name, nodes := r.getD (env.nodes ++ [n2]) } := by
  unfold processNode
  simp only [hu, register_at, hg, if_false, hs, hm]
  cases r with
  | some ns => rfl
  | none => simp [hmod rfl]

theorem fresh_of_any {ns : List Node} {nm : Str}
    (h : (ns.map absN).any (fun m => decide (m.path = splitDot nm)) = false) : ∀ t ∈ ns, t.name ≠ nm := by
  intro t ht e
  rw [List.any_eq_true.mpr ⟨absN t, List.mem_map_of_mem ht, by rw [absN_path, e]; simp⟩] at h
  cases h

/-- A typed line whose registered name no stored node carries is appended as `n2`, what `set_value` makes of it
    (`hk2`: still typed, so the branch "modifying an undefined node" is not taken). -/
theorem put_new (tbl : UnitTable) (env : Env) (n n2 : Node) (hk : isTyped n.kw = true)
    (hu : unitOk tbl n.kw n.unitsRaw = true)
    (hs : setValue { n with name := regNameOf env.parents n.indent n.name } = .ok n2) (hk2 : n2.kw = n.kw)
    (hfresh : ∀ t ∈ env.nodes, t.name ≠ n2.name) :
    processNode tbl env n =
      .ok { env with parents := regStackOf env.parents n.indent n.name, nodes := env.nodes ++ [n2] } :=
  processNode_line tbl env n n2 none (unitCheck_ok tbl n hk hu) (typed_ne hk).2.1 hs
    (modifyFirst_none tbl n2 env.nodes hfresh) (fun _ => by rw [hk2]; exact (typed_ne hk).1)

/-- `put_new` against the specification: the abstraction gains `absN n2` at the fresh path `path`; `G` is kept -/
theorem new_core (tbl : UnitTable) {G : Node → Prop} (env : Env) (hinv : InvG tbl G env) (n n2 : Node)
    (path : List Str) (hp : WFPath path) (hreg : regNameOf env.parents n.indent n.name = joinDot path)
    (hk : isTyped n.kw = true) (hu : unitOk tbl n.kw n.unitsRaw = true)
    (hno : (absEnv env).nodes.any (fun m => decide (m.path = path)) = false)
    (hs : setValue { n with name := joinDot path } = .ok n2) (hn2 : n2.name = joinDot path)
    (hk2 : n2.kw = n.kw) (hg : G n2) :
    ∃ env', processNode tbl env n = .ok env' ∧
      absEnv env' = { absEnv env with nodes := (absEnv env).nodes ++ [absN n2] } ∧ InvG tbl G env' :=
  ⟨_, put_new tbl env n n2 hk hu (by rw [hreg]; exact hs) hk2
      (fresh_of_any (by rw [hn2, splitDot_joinDot path hp]; exact hno)),
    by rw [absEnv_nodes, List.map_append]; rfl, List.forall_mem_append.mpr ⟨hinv.1, by simpa using hg⟩, hinv.2⟩

theorem numKw_float_or_unitless {k : Kw} {u : Option Str} (hn : isNumKw k = true) (hint : k = .int → u = none) :
    k = .float ∨ u = none := by
  cases k <;> simp_all [isNumKw]

/-- `modify_value` against `specModF`; the target may be declared only (`GoodD`), the result is `Good` -/
theorem modifyValue_absD (tbl : UnitTable) (t m : Node) (r : Val) (s' : SNode)
    (hg : GoodD tbl t) (hm : m.kw = .mod ∨ dtypeOf m.kw = dtypeOf t.kw) (hr : m.raw = some r)
    (hnc : t.constant = false)
    (h : specModF tbl r m.unitsRaw (absN t) = some s') :
    ∃ t', modifyValue tbl t m = .ok t' ∧ absN t' = s' ∧ Good tbl t' ∧ t'.name = t.name := by
  obtain ⟨hk, _, hsl, hun, hint⟩ := hg
  have hchk : ¬ (m.kw ≠ .mod ∧ dtypeOf m.kw ≠ dtypeOf t.kw) := by
    rcases hm with e | e <;> simp [e]
  have hcast : ∀ v', conforms t.kw t.dims r = some v' →
      castValue t r = some v' ∧ conforms t.kw t.dims v' = some v' := fun v' hc =>
    ⟨by rw [castValue_eq_conforms t r hsl hk]; exact hc,
     by obtain rfl := (conforms_self t.kw t.dims r v' hc).1; exact hc⟩
  revert h
  fun_cases specModF tbl r m.unitsRaw (absN t) <;> intro h
  · rename_i hc
    rw [show (absN t).constant = t.constant from rfl, hnc] at hc
    cases hc
  · cases h
  · cases h
  · rename_i _ v' hc hn hu
    obtain ⟨hcv, hidem⟩ := hcast v' hc
    obtain ⟨w, hw, rfl⟩ := Option.map_eq_some_iff.mp h
    have hw : convertVal tbl v' m.unitsRaw t.unitsRaw = some w := hw
    exact ⟨{ t with value := some w, slice := [] },
      by simp [modifyValue, hchk, hr, hcv, show isNumKw t.kw = true from hn,
        show ¬ (m.unitsRaw.isSome && t.unitsRaw.isNone) = true from hu, hw], rfl,
      ⟨hk, ⟨w, rfl, convertVal_conf tbl t.kw t.dims v' w m.unitsRaw t.unitsRaw
        (numKw_float_or_unitless hn hint) hidem hw⟩, rfl, hun, hint⟩, rfl⟩
  · cases h
  · rename_i _ v' hc hn hmu
    obtain ⟨hcv, hidem⟩ := hcast v' hc
    cases h
    exact ⟨{ t with value := some v', slice := [] },
      by simp [modifyValue, hchk, hr, hcv, show ¬ isNumKw t.kw = true from hn, hmu], rfl,
      ⟨hk, ⟨v', rfl, hidem⟩, rfl, hun, hint⟩, rfl⟩

/-- The model's "assign to the first node of that name" against the specification's `sUpdate` at that path.
    The update `F` is any restriction of `specModF` (`hF`): `specModF` itself for a modification line, for an
    imported node landing on an existing one `sImportOne`'s `if t.kw = s.kw then specModF … else none`. -/
theorem modifyFirst_sim (tbl : UnitTable) {G : Node → Prop} (hG : NodeInv tbl G) (m : Node) (r : Val)
    (ns : List Node) (ss' : List SNode) (F : SNode → Option SNode)
    (hF : ∀ t ∈ ns, ∀ s', F (absN t) = some s' →
      specModF tbl r m.unitsRaw (absN t) = some s' ∧ (m.kw = .mod ∨ dtypeOf m.kw = dtypeOf t.kw))
    (hg : ∀ n ∈ ns, G n) (hr : m.raw = some r)
    (h : sUpdate (splitDot m.name) F (ns.map absN) = some ss') :
    ∃ ns', modifyFirst tbl m ns = .ok (some ns') ∧ ns'.map absN = ss' ∧ (∀ n ∈ ns', G n) := by
  induction ns generalizing ss' with
  | nil => simp [sUpdate] at h
  | cons t rest ih =>
    simp only [List.map_cons, sUpdate] at h
    rw [List.forall_mem_cons] at hg hF
    by_cases hname : t.name = m.name
    · rw [if_pos (show (absN t).path = splitDot m.name by rw [absN_path, hname])] at h
      obtain ⟨s', hf0, rfl⟩ := Option.map_eq_some_iff.mp h
      obtain ⟨hf, hm⟩ := hF.1 s' hf0
      have hnc : t.constant = false := by
        cases hc : t.constant with
        | false => rfl
        | true => simp [specModF, absN, hc] at hf
      obtain ⟨t', ht', habs, hgood, _⟩ := modifyValue_absD tbl t m r s' (hG.weaken hg.1) hm hr hnc hf
      exact ⟨t' :: rest, by simp [modifyFirst, hname, hnc, ht'], by simp [habs],
        List.forall_mem_cons.mpr ⟨hG.ofGood hgood, hg.2⟩⟩
    · rw [if_neg (show ¬ (absN t).path = splitDot m.name from fun e => hname (splitDot_inj e))] at h
      obtain ⟨rs, hrec, rfl⟩ := Option.map_eq_some_iff.mp h
      obtain ⟨ns', h1, h2, h3⟩ := ih rs hF.2 hg.2 hrec
      exact ⟨t :: ns', by simp [modifyFirst, hname, h1], by simp [h2], List.forall_mem_cons.mpr ⟨hg.1, h3⟩⟩

/-- A line whose registered name a stored node carries is assigned to the first such node, as the
    specification's update `F` (a restriction of `specModF`, `hF`) says. -/
theorem put_assign (tbl : UnitTable) {G : Node → Prop} (hG : NodeInv tbl G) (env : Env) (n n2 : Node) (r : Val)
    (ss' : List SNode) (F : SNode → Option SNode) (hu : unitCheck tbl n = .ok ()) (hgr : n.kw ≠ .group)
    (hs : setValue { n with name := regNameOf env.parents n.indent n.name } = .ok n2)
    (hF : ∀ t ∈ env.nodes, ∀ s', F (absN t) = some s' →
      specModF tbl r n2.unitsRaw (absN t) = some s' ∧ (n2.kw = .mod ∨ dtypeOf n2.kw = dtypeOf t.kw))
    (hg : ∀ t ∈ env.nodes, G t) (hr : n2.raw = some r)
    (h : sUpdate (splitDot n2.name) F (env.nodes.map absN) = some ss') :
    ∃ ns', processNode tbl env n =
        .ok { env with parents := regStackOf env.parents n.indent n.name, nodes := ns' } ∧
      ns'.map absN = ss' ∧ ∀ t ∈ ns', G t := by
  obtain ⟨ns', hmf, habs, hg'⟩ := modifyFirst_sim tbl hG n2 r env.nodes ss' F hF hg hr h
  exact ⟨ns', processNode_line tbl env n n2 (some ns') hu hgr hs hmf (fun e => by cases e), habs, hg'⟩

/-- `put_assign` for a modification line: the specification's `sUpdate … specModF` at `path`, and the model's assignment -/
theorem mod_core (tbl : UnitTable) {G : Node → Prop} (hG : NodeInv tbl G) (env : Env) (hinv : InvG tbl G env)
    (m : Node) (path : List Str) (raw : Val) (ss' : List SNode) (hp : WFPath path)
    (hreg : regNameOf env.parents m.indent m.name = joinDot path) (hk : m.kw = .mod) (hraw : m.raw = some raw)
    (h : sUpdate path (specModF tbl raw m.unitsRaw) (absEnv env).nodes = some ss') :
    ∃ env', processNode tbl env m = .ok env' ∧
      absEnv env' = { absEnv env with nodes := ss' } ∧ InvG tbl G env' := by
  obtain ⟨ns', hpn, habs, hgood⟩ := put_assign tbl hG env m { m with name := joinDot path, value := some raw } raw
    ss' _ (unitCheck_mod tbl m hk) (by rw [hk]; decide) (by simp [setValue, hraw, hk, hreg])
    (fun t _ s' hs => ⟨hs, Or.inl hk⟩) hinv.1 hraw
    (by rw [show splitDot (joinDot path) = path from splitDot_joinDot path hp]; exact h)
  exact ⟨_, hpn, by rw [absEnv_nodes, habs], hgood, hinv.2⟩

end SciVerif.C17
