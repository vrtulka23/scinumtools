import SciVerif.Model.C13Spec
import SciVerif.Lemmas.Util.MapM
/-!
C14 refinement, inside the specification: processing the occurrences one after the
other with an "update the entry with that path, or append a new one" step gives the same result as
the declarative per-path specification `specNode` (`foldO_eq_perPath`; with the final test, `foldO_checkS_eq_specOcc`).
-/
namespace SciVerif.C13
open SciVerif.Util

/-- equal successes, or both failures (the kind of failure is not compared) -/
def ResEq {β : Type} (a b : R β) : Prop :=
  (∃ x, a = .ok x ∧ b = .ok x) ∨ (∃ e1 e2, a = .error e1 ∧ b = .error e2)

theorem resEq_iff {β : Type} (a b : R β) : ResEq a b ↔ a.toOption = b.toOption := by
  constructor
  · rintro (⟨x, rfl, rfl⟩ | ⟨e1, e2, rfl, rfl⟩) <;> rfl
  · intro h
    cases a with
    | ok x => cases b with
      | ok y => exact .inl ⟨x, rfl, by rw [Option.some.inj h]⟩
      | error y => cases h
    | error x => cases b with
      | ok y => cases h
      | error y => exact .inr ⟨x, y, rfl, rfl⟩

theorem toOption_bind {β γ : Type} (a : R β) (f : β → R γ) :
    (a.bind f).toOption = a.toOption.bind fun x => (f x).toOption := by
  cases a <;> rfl

/-- In `Option` a test that can only fail commutes with a computation whose result is not used: why two sides that
    make the same failing tests in different orders are `ResEq`. -/
theorem bind_ite_none {β γ : Type} (x : Option β) (c : Prop) [Decidable c] (y : Option γ) :
    (x.bind fun _ => if c then none else y) = if c then none else x.bind fun _ => y := by
  split
  · cases x <;> rfl
  · rfl

theorem ResEq.refl {β : Type} (a : R β) : ResEq a a := (resEq_iff a a).2 rfl

theorem ResEq.symm {β : Type} {a b : R β} (h : ResEq a b) : ResEq b a := (resEq_iff b a).2 ((resEq_iff a b).1 h).symm

theorem ResEq.trans {β : Type} {a b c : R β} (h1 : ResEq a b) (h2 : ResEq b c) : ResEq a c :=
  (resEq_iff a c).2 (((resEq_iff a b).1 h1).trans ((resEq_iff b c).1 h2))

theorem ResEq.bind {β γ : Type} {a b : R β} (h : ResEq a b) (f g : β → R γ) (hfg : ∀ x, ResEq (f x) (g x)) :
    ResEq (a.bind f) (b.bind g) := by
  rw [resEq_iff, toOption_bind, toOption_bind, (resEq_iff a b).1 h]
  exact congrArg _ (funext fun x => (resEq_iff _ _).1 (hfg x))

variable {α : Type}

def snames (ns : List SNode) : List Str := ns.map (·.name)

/-- the entry with path `p`, if there is one -/
def findS (p : Str) (ns : List SNode) : Option SNode := ns.find? (fun s => s.name == p)

/-- `s'` in place of the first entry with its path -/
def replaceS (s' : SNode) : List SNode → List SNode
  | [] => []
  | s :: t => if s.name == s'.name then s' :: t else s :: replaceS s' t

/-- one occurrence: assigned to the entry with its path, or, the path being new, a new entry at the end -/
def stepO (I : Interp α) (conv : Str → Str → Rat → R Rat) (uk : Str → Bool)
    (ns : List SNode) (o : Option Str × Payload α) : R (List SNode) :=
  match o.1 with
  | none => .error .fail
  | some p =>
    match findS p ns with
    | some s => (assignTo I conv uk s o.2).map (fun s' => replaceS s' ns)
    | none => (firstOf I uk p o.2).map (fun s => ns ++ [s])

/-- the occurrences one after the other, from the entries `ns` -/
def foldO (I : Interp α) (conv : Str → Str → Rat → R Rat) (uk : Str → Bool) :
    List SNode → List (Option Str × Payload α) → R (List SNode)
  | ns, [] => .ok ns
  | ns, o :: t => do
      let ns' ← stepO I conv uk ns o
      foldO I conv uk ns' t

/-- the per-path specification relative to an initial list of entries -/
def nodeFrom (I : Interp α) (conv : Str → Str → Rat → R Rat) (uk : Str → Bool)
    (ns0 : List SNode) (os : List (Option Str × Payload α)) (p : Str) : R SNode :=
  match findS p ns0 with
  | some s => foldAssign I conv uk s (occOf p os)
  | none =>
    match occOf p os with
    | [] => .error .fail
    | f :: later => do
        let s ← firstOf I uk p f
        foldAssign I conv uk s later

/-- the paths the fold ends with: those of the entries it starts from, then the new ones in order of first
    occurrence -/
def pathsFrom (ns0 : List SNode) (os : List (Option Str × Payload α)) : List Str :=
  snames ns0 ++ dedupFrom (snames ns0) (os.filterMap (fun o => o.1))

theorem assignValue_name (I : Interp α) (conv : Str → Str → Rat → R Rat) (s s' : SNode) (u : Option Str) (r : α)
    (h : assignValue I conv s u r = .ok s') : s'.name = s.name := by
  obtain ⟨v, _, h⟩ := bind_eq_ok h
  split at h
  · cases h; rfl
  · obtain ⟨v', _, h⟩ := bind_eq_ok h
    cases h; rfl

theorem assignTo_name (I : Interp α) (conv : Str → Str → Rat → R Rat) (uk : Str → Bool) (s s' : SNode)
    (p : Payload α) (h : assignTo I conv uk s p = .ok s') : s'.name = s.name := by
  revert h
  -- cases of `assignTo`: 1 `!constant`; 2-5 a typed line refused; 6 a typed line; 7 frozen; 8 a modification; 9 other
  fun_cases assignTo I conv uk s p <;> intro h
  case case1 => cases h; rfl
  case case6 => obtain ⟨_, _, h⟩ := bind_eq_ok h; exact assignValue_name I conv s s' _ _ h
  case case8 => exact assignValue_name I conv s s' _ _ h
  all_goals cases h
theorem firstOf_name (I : Interp α) (uk : Str → Bool) (p : Str) (pl : Payload α) (s : SNode)
    (h : firstOf I uk p pl = .ok s) : s.name = p := by
  revert h
  -- cases of `firstOf`: 1 the unit refused; 2 a definition with a value; 3 a declaration; 4 not a typed line
  fun_cases firstOf I uk p pl <;> intro h
  case case2 => obtain ⟨w, _, h⟩ := bind_eq_ok h; cases h; rfl
  case case3 => cases h; rfl
  all_goals cases h

theorem findS_some {p : Str} {ns : List SNode} {s : SNode} (h : findS p ns = some s) : s ∈ ns ∧ s.name = p := by
  simp only [findS] at h
  exact ⟨List.mem_of_find?_eq_some h, by simpa using List.find?_some h⟩

theorem findS_none {p : Str} {ns : List SNode} (h : findS p ns = none) : p ∉ snames ns := by
  simp only [findS, List.find?_eq_none] at h
  intro hm
  obtain ⟨s, hs, hn⟩ := List.mem_map.mp hm
  exact h s hs (by simp [hn])

theorem findS_replace (s' : SNode) (q : Str) : ∀ ns : List SNode,
    findS q (replaceS s' ns) =
      if q = s'.name then (if (findS q ns).isSome then some s' else none) else findS q ns := by
  intro ns
  induction ns with
  | nil => simp [replaceS, findS]
  | cons s t ih =>
    by_cases h1 : s.name = s'.name
    · by_cases h2 : q = s'.name
      · subst h2; simp [replaceS, findS, h1]
      · have : ¬ s.name = q := fun e => h2 (by rw [← e, h1])
        have h3 : ¬ s'.name = q := fun e => h2 e.symm
        simp [replaceS, findS, h1, h2, h3]
    · simp only [replaceS, beq_iff_eq, h1, if_false]
      by_cases h2 : s.name = q
      · have : ¬ q = s'.name := fun e => h1 (by rw [h2, e])
        simp [findS, h2, this]
      · have e1 : findS q (s :: replaceS s' t) = findS q (replaceS s' t) := by simp [findS, h2]
        have e2 : findS q (s :: t) = findS q t := by simp [findS, h2]
        rw [e1, e2, ih]

theorem snames_replace (s' : SNode) : ∀ ns : List SNode, snames (replaceS s' ns) = snames ns := by
  intro ns
  induction ns with
  | nil => rfl
  | cons s t ih =>
    by_cases h : s.name = s'.name
    · simp [replaceS, snames, h]
    · simp only [replaceS, beq_iff_eq, h, if_false]
      simp only [snames, List.map_cons] at ih ⊢
      rw [ih]

theorem findS_append_single (ns : List SNode) (s : SNode) (q : Str) (hnot : s.name ∉ snames ns) :
    findS q (ns ++ [s]) = if q = s.name then some s else findS q ns := by
  rw [findS, List.find?_append]
  by_cases h : q = s.name
  · subst h
    have : ns.find? (fun x => x.name == s.name) = none :=
      List.find?_eq_none.mpr fun x hx e => hnot (List.mem_map.mpr ⟨x, hx, eq_of_beq e⟩)
    rw [if_pos rfl, this]
    simp
  · rw [if_neg h]
    have : ¬ s.name = q := fun e => h e.symm
    simp [findS, this]

theorem occOf_cons_same (p : Str) (pl : Payload α) (t : List (Option Str × Payload α)) :
    occOf p ((some p, pl) :: t) = pl :: occOf p t := by
  simp [occOf]

theorem occOf_cons_other (p q : Str) (pl : Payload α) (t : List (Option Str × Payload α)) (h : q ≠ p) :
    occOf q ((some p, pl) :: t) = occOf q t := by
  have : (some p == some q) = false := by simp [Ne.symm h]
  simp [occOf, this]

theorem dedupFrom_congr : ∀ (l s1 s2 : List Str), (∀ x, x ∈ s1 ↔ x ∈ s2) → dedupFrom s1 l = dedupFrom s2 l := by
  intro l
  induction l with
  | nil => intro _ _ _; rfl
  | cons a t ih =>
    intro s1 s2 h
    have hc : s1.contains a = s2.contains a := by
      by_cases ha : a ∈ s1
      · simp [ha, (h a).mp ha]
      · have : a ∉ s2 := fun h2 => ha ((h a).mpr h2)
        simp [ha, this]
    simp only [dedupFrom, hc]
    split
    · exact ih s1 s2 h
    · rw [ih (a :: s1) (a :: s2) (fun x => by simp [h x])]

theorem mapM_congr' {β γ : Type} (f g : β → R γ) : ∀ l : List β, (∀ x ∈ l, f x = g x) → l.mapM f = l.mapM g :=
  fun _ h => mapM_congr h

theorem mapM_find_self : ∀ ns : List SNode, (snames ns).Nodup →
    ∀ (big : List SNode), (∀ s ∈ ns, findS s.name big = some s) →
    (snames ns).mapM (fun q => match findS q big with | some s => (Except.ok s : R SNode) | none => .error .fail) = .ok ns := by
  intro ns
  induction ns with
  | nil => intro _ _ _; rfl
  | cons s t ih =>
    intro hn big h
    simp only [snames, List.map_cons, List.nodup_cons] at hn
    simp only [snames, List.map_cons, List.mapM_cons, h s (by simp), bind, Except.bind]
    have := ih hn.2 big (fun x hx => h x (List.mem_cons_of_mem _ hx))
    simp only [snames] at this
    rw [this]
    rfl

theorem findS_self_of_nodup : ∀ ns : List SNode, (snames ns).Nodup → ∀ s ∈ ns, findS s.name ns = some s := by
  intro ns
  induction ns with
  | nil => intro _ s hs; cases hs
  | cons a t ih =>
    intro hn s hs
    simp only [snames, List.map_cons, List.nodup_cons] at hn
    rcases List.mem_cons.mp hs with rfl | hs'
    · simp [findS]
    · have hne : a.name ≠ s.name := fun e => hn.1 (by rw [e]; exact List.mem_map.mpr ⟨s, hs', rfl⟩)
      have : findS s.name (a :: t) = findS s.name t := by simp [findS, hne]
      rw [this]
      exact ih hn.2 s hs'

theorem nodeFrom_nil (I : Interp α) (conv : Str → Str → Rat → R Rat) (uk : Str → Bool) (ns0 : List SNode) :
    nodeFrom I conv uk ns0 ([] : List (Option Str × Payload α)) =
      (fun q => match findS q ns0 with | some s => (Except.ok s : R SNode) | none => .error .fail) := by
  funext q
  simp only [nodeFrom]
  cases findS q ns0 with
  | none => simp [occOf]
  | some s => simp [occOf, foldAssign]

theorem stepO_found (I : Interp α) (conv : Str → Str → Rat → R Rat) (uk : Str → Bool) (ns : List SNode)
    (p : Str) (pl : Payload α) (s : SNode) (h : findS p ns = some s) :
    stepO I conv uk ns (some p, pl) = (assignTo I conv uk s pl).map (fun s' => replaceS s' ns) := by
  simp [stepO, h]

theorem stepO_new (I : Interp α) (conv : Str → Str → Rat → R Rat) (uk : Str → Bool) (ns : List SNode)
    (p : Str) (pl : Payload α) (h : findS p ns = none) :
    stepO I conv uk ns (some p, pl) = (firstOf I uk p pl).map (fun s => ns ++ [s]) := by
  simp [stepO, h]

theorem foldO_cons (I : Interp α) (conv : Str → Str → Rat → R Rat) (uk : Str → Bool) (ns : List SNode)
    (o : Option Str × Payload α) (t : List (Option Str × Payload α)) :
    foldO I conv uk ns (o :: t) = (stepO I conv uk ns o).bind (fun ns' => foldO I conv uk ns' t) := rfl

/-- the entry an occurrence of `p` makes: the entry with that path after the assignment, or a new one -/
def occEntry (I : Interp α) (conv : Str → Str → Rat → R Rat) (uk : Str → Bool) (ns : List SNode) (p : Str)
    (pl : Payload α) : R SNode :=
  match findS p ns with
  | some s => assignTo I conv uk s pl
  | none => firstOf I uk p pl

/-- What one occurrence does to the entries, whether it replaces or appends: the entry made stands under `p`, every
    other path is looked up as before, and `p` joins the paths at the end if it was not among them. -/
theorem stepO_char (I : Interp α) (conv : Str → Str → Rat → R Rat) (uk : Str → Bool) (ns : List SNode) (p : Str)
    (pl : Payload α) :
    ∃ put : SNode → List SNode, stepO I conv uk ns (some p, pl) = (occEntry I conv uk ns p pl).map put ∧
      ∀ s', occEntry I conv uk ns p pl = .ok s' →
        (∀ q, findS q (put s') = if q = p then some s' else findS q ns) ∧
        snames (put s') = if p ∈ snames ns then snames ns else snames ns ++ [p] := by
  unfold occEntry
  cases hf : findS p ns with
  | some s =>
    refine ⟨fun s' => replaceS s' ns, stepO_found I conv uk ns p pl s hf, fun s' ha => ?_⟩
    obtain ⟨hs_mem, hs_name⟩ := findS_some hf
    have hname : s'.name = p := by rw [assignTo_name I conv uk s s' pl ha, hs_name]
    have hp_in : p ∈ snames ns := by rw [← hs_name]; exact List.mem_map.mpr ⟨s, hs_mem, rfl⟩
    exact ⟨fun q => by rw [findS_replace, hname]; by_cases hq : q = p <;> simp [hq, hf],
      by rw [snames_replace, if_pos hp_in]⟩
  | none =>
    refine ⟨fun s' => ns ++ [s'], stepO_new I conv uk ns p pl hf, fun s' hfo => ?_⟩
    have hname : s'.name = p := firstOf_name I uk p pl s' hfo
    have hnot := findS_none hf
    exact ⟨fun q => by rw [findS_append_single ns s' q (by rw [hname]; exact hnot), hname],
      by rw [if_neg hnot]; simp [snames, hname]⟩

theorem nodeFrom_head (I : Interp α) (conv : Str → Str → Rat → R Rat) (uk : Str → Bool) (ns : List SNode) (p : Str)
    (pl : Payload α) (t : List (Option Str × Payload α)) :
    nodeFrom I conv uk ns ((some p, pl) :: t) p =
      (occEntry I conv uk ns p pl).bind (fun s' => foldAssign I conv uk s' (occOf p t)) := by
  unfold nodeFrom occEntry
  rw [occOf_cons_same]
  cases findS p ns <;> rfl

theorem mem_pathsFrom_head (ns : List SNode) (p : Str) (pl : Payload α) (t : List (Option Str × Payload α)) :
    p ∈ pathsFrom ns ((some p, pl) :: t) := by
  by_cases h : p ∈ snames ns <;> simp [pathsFrom, dedupFrom, h]

theorem pathsFrom_step (ns ns' : List SNode) (p : Str) (pl : Payload α) (t : List (Option Str × Payload α))
    (h : snames ns' = if p ∈ snames ns then snames ns else snames ns ++ [p]) :
    pathsFrom ns' t = pathsFrom ns ((some p, pl) :: t) := by
  by_cases hp : p ∈ snames ns
  · rw [if_pos hp] at h
    simp [pathsFrom, dedupFrom, hp, h]
  · rw [if_neg hp] at h
    have hc : (snames ns).contains p = false := by simpa using hp
    simp only [pathsFrom, h, List.filterMap_cons, dedupFrom, hc, Bool.false_eq_true, if_false, List.append_assoc,
      List.singleton_append]
    congr 2
    exact dedupFrom_congr _ _ _ (fun x => by simp [or_comm])

/-- after one occurrence of `p` the per-path specification relative to the new entries is the one relative to
    the old entries with that occurrence in front: `s'` stands for `p`, every other path is looked up as before -/
theorem nodeFrom_step (I : Interp α) (conv : Str → Str → Rat → R Rat) (uk : Str → Bool) (ns0 ns' : List SNode)
    (p : Str) (pl : Payload α) (t : List (Option Str × Payload α)) (s' : SNode)
    (hfind : ∀ q, findS q ns' = if q = p then some s' else findS q ns0)
    (hnode : nodeFrom I conv uk ns0 ((some p, pl) :: t) p = foldAssign I conv uk s' (occOf p t)) :
    nodeFrom I conv uk ns' t = nodeFrom I conv uk ns0 ((some p, pl) :: t) := by
  funext q
  by_cases hq : q = p
  · subst hq
    rw [hnode]
    simp [nodeFrom, hfind]
  · simp only [nodeFrom, hfind q, if_neg hq, occOf_cons_other p q pl t hq]

/-- The fold over the occurrences is the per-path specification.  The induction generalises the entries the fold
    starts from: one step moves the head occurrence into them (`stepO_char`, `nodeFrom_step`). -/
theorem foldO_eq_perPath (I : Interp α) (conv : Str → Str → Rat → R Rat) (uk : Str → Bool) :
    ∀ (os : List (Option Str × Payload α)) (ns0 : List SNode), (snames ns0).Nodup → (∀ o ∈ os, o.1.isSome = true) →
      ResEq (foldO I conv uk ns0 os) ((pathsFrom ns0 os).mapM (nodeFrom I conv uk ns0 os)) := by
  intro os
  induction os with
  | nil =>
    intro ns0 hn _
    refine .inl ⟨ns0, rfl, ?_⟩
    simp only [pathsFrom, List.filterMap_nil, dedupFrom, List.append_nil, nodeFrom_nil]
    exact mapM_find_self ns0 hn ns0 (findS_self_of_nodup ns0 hn)
  | cons o t ih =>
    intro ns0 hn hsome
    obtain ⟨op, pl⟩ := o
    have hop := hsome (op, pl) (by simp)
    cases op with
    | none => simp at hop
    | some p =>
      obtain ⟨put, hstep, hput⟩ := stepO_char I conv uk ns0 p pl
      rw [foldO_cons, hstep]
      cases ho : occEntry I conv uk ns0 p pl with
      | error e =>
        -- the occurrence fails: so does the per-path specification of `p`
        obtain ⟨e2, h2⟩ := mapM_error_of_mem (f := nodeFrom I conv uk ns0 ((some p, pl) :: t))
          ⟨p, mem_pathsFrom_head ns0 p pl t, e, by rw [nodeFrom_head, ho]; rfl⟩
        exact .inr ⟨e, e2, rfl, h2⟩
      | ok s' =>
        obtain ⟨hfind, hnames⟩ := hput s' ho
        have hn1 : (snames (put s')).Nodup := by
          rw [hnames]
          split
          · exact hn
          · rename_i hp
            exact List.nodup_append.mpr ⟨hn, by simp, fun a ha b hb => by
              rw [List.mem_singleton.mp hb]; exact fun e => hp (e ▸ ha)⟩
        have hIH := ih (put s') hn1 (fun o ho => hsome o (List.mem_cons_of_mem _ ho))
        rw [nodeFrom_step I conv uk ns0 (put s') p pl t s' hfind (by rw [nodeFrom_head, ho]; rfl),
          pathsFrom_step ns0 (put s') p pl t hnames] at hIH
        exact hIH

theorem foldO_none_fails (I : Interp α) (conv : Str → Str → Rat → R Rat) (uk : Str → Bool) :
    ∀ (os : List (Option Str × Payload α)) (ns0 : List SNode), (∃ o ∈ os, o.1.isNone = true) →
      ∃ e, foldO I conv uk ns0 os = .error e := by
  intro os
  induction os with
  | nil => intro _ ⟨o, ho, _⟩; cases ho
  | cons o t ih =>
    intro ns0 ⟨o', ho', hnone⟩
    simp only [foldO, bind, Except.bind]
    cases hs : stepO I conv uk ns0 o with
    | error e => exact ⟨e, rfl⟩
    | ok ns1 =>
      rcases List.mem_cons.mp ho' with rfl | h
      · obtain ⟨op, pl⟩ := o'
        cases op with
        | none => simp [stepO] at hs
        | some p => simp at hnone
      · exact ih ns1 ⟨o', h, hnone⟩

/-- the final test of the specification: no entry may be left without a value object -/
def checkS (ns : List SNode) : R (List SNode) :=
  if ns.any (fun s => s.value.isNone) then .error .fail else .ok ns

theorem foldO_checkS_eq_specOcc (I : Interp α) (conv : Str → Str → Rat → R Rat) (uk : Str → Bool)
    (os : List (Option Str × Payload α)) :
    ResEq ((foldO I conv uk [] os).bind checkS) (specOcc I conv uk os) := by
  simp only [specOcc]
  by_cases hnone : os.any (fun o => o.1.isNone) = true
  · -- a `!constant` with nothing to mark
    obtain ⟨o, ho, hoo⟩ := List.any_eq_true.mp hnone
    obtain ⟨e, he⟩ := foldO_none_fails I conv uk os [] ⟨o, ho, hoo⟩
    rw [he, if_pos hnone]
    exact .inr ⟨e, .fail, rfl, rfl⟩
  · rw [if_neg hnone]
    have hall : ∀ o ∈ os, o.1.isSome = true := by
      intro o ho
      cases h : o.1 with
      | some p => rfl
      | none => exact absurd (List.any_eq_true.mpr ⟨o, ho, by simp [h]⟩) hnone
    have hper := foldO_eq_perPath I conv uk os [] (by simp [snames]) hall
    have hpaths : pathsFrom [] os = pathsOf os := by simp [pathsFrom, pathsOf, snames]
    have hnode : nodeFrom I conv uk [] os = (fun p => specNode I conv uk p os) := by
      funext p
      simp only [nodeFrom, specNode, findS, List.find?_nil]
      cases occOf p os <;> rfl
    rw [hpaths, hnode] at hper
    have := hper.bind checkS checkS (fun x => ResEq.refl _)
    simpa [checkS, bind, Except.bind] using this

end SciVerif.C13
