import SciVerif.Lemmas.C14SpecFold
import SciVerif.Lemmas.C13Run
import SciVerif.Lemmas.C13Hierarchy
/-!
C14 refinement, the model against the specification (the two halves meet in `C14_parse_refines_spec`,
Props/C14.lean): one iteration of the main loop of the model corresponds to one occurrence step of the specification
fold (`stepO`), with the parent stack = the ancestor chain and the node list = the list of specified entries (`Inv`,
`StepSim`).  Per kind of line `stepSim_*`, from `stepSim_occ` (the bookkeeping of `occurrences`) and a correspondence
on the entries (`lookup_lift` with `entry_mod` / `entry_typed`, `constant_lift`); all lines `stepSim_all`; the loop
`foldSteps_sim`.
-/
namespace SciVerif.C13
open SciVerif.Util

/-- what the specification sees of an environment node -/
def toS (e : ENode) : SNode :=
  { name := e.name, ty := e.ty, info := e.info, dims := e.dims, units := e.units, value := e.value,
    frozen := e.constant }

theorem toS_name (e : ENode) : (toS e).name = e.name := rfl

/-- the abstract line of a lexed node (tables are expanded beforehand) -/
def toALine (nd : Node) : ALine Raw :=
  match nd.kind, nd.name, nd.raw with
  | .group, some nm, _ => { indent := nd.indent, name := nm, p := .group }
  | .constant, _, _ => { indent := nd.indent, name := [], p := .const }
  | .mod, some nm, some r => { indent := nd.indent, name := nm, p := .mod nd.units r }
  | .typed t, some nm, r => { indent := nd.indent, name := nm, p := .typed t nd.info nd.dims nd.units r }
  | _, _, _ => { indent := nd.indent, name := [], p := .skip }

/-- `modify_value` seen through `toS` -/
theorem modify_toS (P : Params) (e : ENode) (nd : Node) : (modify P e nd).map toS =
    if tyMismatch nd (toS e).ty then .error .fail
    else match nd.raw with
      | none => if (toS e).value.isNone then .error .fail else .error .unsupported
      | some r => assignValue (castInterp P) P.conv (toS e) nd.units r := by
  simp only [toS]
  -- cases of `modify`: type mismatch; no raw value (2); cells; a text
  fun_cases modify P e nd
  case case1 hm => simp only [hm, if_true]; rfl
  case case2 hm hr hn => simp only [hm, hr, hn, if_true]; rfl
  case case3 hm hr hn => simp only [hm, hr, hn]; rfl
  case case4 hm j l hr => simp only [hm, hr]; simp [assignValue, castInterp, bind, Except.bind, Except.map]
  case case5 hm s hr =>
    simp only [hm, hr, assignValue, castInterp, bind, Except.bind]
    cases P.castText e.ty e.dims s with
    | error x => rfl
    | ok v =>
      simp only
      by_cases hv : v = Val.none
      · simp only [hv, if_true]; rfl
      · simp only [hv, if_false, convertVal]
        cases convertG P.conv e.ty e.units nd.units v <;> rfl
theorem findS_map_pre (path : Str) (pre : List ENode) (e : ENode) (post : List ENode)
    (he : e.name = path) (hpre : ∀ x ∈ pre, x.name ≠ path) :
    findS path ((pre ++ e :: post).map toS) = some (toS e) := by
  induction pre with
  | nil => simp [findS, toS_name, he]
  | cons a t ih =>
    have ha : a.name ≠ path := hpre a (by simp)
    have : findS path ((a :: t ++ e :: post).map toS) = findS path ((t ++ e :: post).map toS) := by
      simp [findS, toS_name, ha]
    rw [this]
    exact ih (fun x hx => hpre x (List.mem_cons_of_mem _ hx))

theorem findS_map_none (path : Str) (ns : List ENode) (h : ∀ e ∈ ns, e.name ≠ path) :
    findS path (ns.map toS) = none := by
  simp only [findS, List.find?_eq_none, List.mem_map]
  intro s ⟨e, he, hs⟩
  rw [← hs]
  simpa [toS_name] using h e he

theorem replaceS_map_pre (s' : SNode) (pre : List ENode) (e : ENode) (post : List ENode)
    (hs : s'.name = e.name) (hpre : ∀ x ∈ pre, x.name ≠ e.name) :
    replaceS s' ((pre ++ e :: post).map toS) = pre.map toS ++ s' :: post.map toS := by
  induction pre with
  | nil => simp [replaceS, toS_name, hs]
  | cons a t ih =>
    have ha : a.name ≠ e.name := hpre a (by simp)
    have : ¬ (toS a).name = s'.name := by rw [hs]; exact ha
    simp only [List.cons_append, List.map_cons, replaceS, beq_iff_eq, this, if_false]
    rw [ih (fun x hx => hpre x (List.mem_cons_of_mem _ hx))]

theorem preCheck_unitsOk (P : Params) (nd : Node) (t : Ty) (hk : nd.kind = .typed t) :
    (preCheck P nd = .ok () ∧ unitsOk P.unitKnown (Payload.typed t nd.info nd.dims nd.units nd.raw) = true) ∨
    (preCheck P nd = .error .fail ∧ unitsOk P.unitKnown (Payload.typed t nd.info nd.dims nd.units nd.raw) = false) := by
  unfold preCheck
  rw [hk]
  cases hu : nd.units with
  | none => left; cases t <;> simp [unitsOk]
  | some u =>
    cases t with
    | bool => right; simp [unitsOk]
    | str => right; simp [unitsOk]
    | int =>
      by_cases hkn : P.unitKnown u = true
      · left; simp [unitsOk, hkn]
      · right; simp [unitsOk, hkn]
    | float =>
      by_cases hkn : P.unitKnown u = true
      · left; simp [unitsOk, hkn]
      · right; simp [unitsOk, hkn]

theorem pathOf_push_stackAfter (earlier : List (Nat × Str)) (d : Nat) (nm : Str) :
    pathOf (push (stackAfter earlier) d nm) = specPath earlier d nm := by
  rw [push_stackAfter]
  simp [stackAfter, pathOf, specPath]

theorem setLastConstant_concat (ns : List ENode) (e : ENode) :
    setLastConstant (ns ++ [e]) = .ok (ns ++ [{ e with constant := true }]) := by
  induction ns with
  | nil => rfl
  | cons a t ih =>
    cases t with
    | nil => simp [setLastConstant, Except.map]
    | cons b t2 =>
      simp only [List.cons_append] at ih ⊢
      simp [setLastConstant, ih, Except.map]

/-- what links a state of the main loop to the name-bearing lines read so far (latest first): the stack is their
    ancestor chain, the paths are pairwise different -/
def Inv (st : State) (earlier : List (Nat × Str)) : Prop :=
  st.stack = stackAfter earlier ∧ (names st).Nodup

/-- the name-bearing lines read so far, with one more line -/
def earlierStep (earlier : List (Nat × Str)) (nd : Node) : List (Nat × Str) :=
  match nd.kind, nd.name with
  | .group, some nm | .mod, some nm | .typed _, some nm => (nd.indent, nm) :: earlier
  | _, _ => earlier

/-- the stack half of `Inv`, for every kind of line at once -/
theorem stepPlain_stackAfter {P : Params} {st st' : State} {nd : Node} {earlier : List (Nat × Str)}
    (hst : st.stack = stackAfter earlier) (h : stepPlain P st nd = .ok st') :
    st'.stack = stackAfter (earlierStep earlier nd) := by
  rw [stepPlain_eq] at h
  obtain ⟨_, _, rfl⟩ := map_eq_ok h
  show stackStep st.stack nd = _
  rw [hst]
  unfold stackStep earlierStep
  cases nd.kind <;> cases nd.name <;> first | exact push_stackAfter _ _ _ | rfl

theorem earlierStep_named (earlier : List (Nat × Str)) (nd : Node) (nm : Str)
    (hk : nd.kind = .group ∨ nd.kind = .mod ∨ ∃ t, nd.kind = .typed t) (hn : nd.name = some nm) :
    earlierStep earlier nd = (nd.indent, nm) :: earlier := by
  rcases hk with hk | hk | ⟨t, hk⟩ <;> simp only [earlierStep, hk, hn]

abbrev specFold (P : Params) := foldO (castInterp P) P.conv P.unitKnown

/-- What the per-kind lemmas `stepSim_*` prove for one line: the model's step succeeds, the paths stay pairwise
    different, and the specification's fold over this line's occurrence followed by ANY rest (`∀ rest`: the lemma is
    used under the induction of `foldSteps_sim`) continues from the new entries — with the list `seen` of `occurrences`
    kept equal to `names st`; or both sides fail. -/
def StepSim (P : Params) (st : State) (earlier : List (Nat × Str)) (nd : Node) : Prop :=
  (∃ st', stepPlain P st nd = .ok st' ∧ (names st').Nodup ∧
      ∀ rest, specFold P (st.nodes.map toS) (occurrences earlier (names st) (toALine nd :: rest)) =
        specFold P (st'.nodes.map toS) (occurrences (earlierStep earlier nd) (names st') rest)) ∨
  ((∃ e, stepPlain P st nd = .error e) ∧
      ∀ rest, ∃ e2, specFold P (st.nodes.map toS) (occurrences earlier (names st) (toALine nd :: rest)) = .error e2)

theorem snames_map_toS (ns : List ENode) : snames (ns.map toS) = ns.map (·.name) := by
  simp [snames, toS_name, Function.comp_def]

theorem stepSim_skip (P : Params) (st : State) (earlier : List (Nat × Str)) (nd : Node) (hinv : Inv st earlier)
    (hs : stepPlain P st nd = .ok st) (hl : (toALine nd).p = .skip) (he : earlierStep earlier nd = earlier) :
    StepSim P st earlier nd := by
  refine .inl ⟨st, hs, hinv.2, ?_⟩
  intro rest
  simp [occurrences, hl, he]

theorem stepPlain_value_state (P : Params) (st st' : State) (nd : Node) (nm : Str)
    (hk : nd.kind = .mod ∨ ∃ t, nd.kind = .typed t) (hn : nd.name = some nm) (hnd : (names st).Nodup)
    (h : stepPlain P st nd = .ok st') :
    (names st').Nodup ∧
    names st' = (if (names st).contains (pathOf (push st.stack nd.indent nm)) then names st
      else names st ++ [pathOf (push st.stack nd.indent nm)]) := by
  obtain ⟨_, hcases⟩ := stepPlain_value_ok P st st' nd nm hk hn h
  refine ⟨(stepPlain_grows P st st' nd h).choose_spec.2 hnd, ?_⟩
  rcases hcases with ⟨pre, e, e', post, h1, h2, he, _, _, hm⟩ | ⟨t, v, _, hno, _, h2⟩
  · have hmem : pathOf (push st.stack nd.indent nm) ∈ names st := by simp [names, h1, he]
    rw [if_pos (by simpa using hmem)]
    simp [names, h1, h2, modify_name P e e' nd hm]
  · have hnot : pathOf (push st.stack nd.indent nm) ∉ names st := by
      intro hm
      obtain ⟨x, hx, hxn⟩ := List.mem_map.mp hm
      exact hno x hx hxn
    rw [if_neg (by simpa using hnot)]
    simp [names, h2, newEntry]

theorem stepPlain_nodes_toS (P : Params) (st : State) (nd : Node) :
    (stepPlain P st nd).map (fun s => s.nodes.map toS) =
      (entriesStep P (pathOf (stackStep st.stack nd)) st.nodes nd).map (List.map toS) := by
  rw [stepPlain_eq]
  cases entriesStep P (pathOf (stackStep st.stack nd)) st.nodes nd <;> rfl

/-- Every line that makes an occurrence `(key, pl)`: given what `occurrences` makes of the line and the paths it goes
    on with (`seen'`), `StepSim` is the correspondence of the model's step with `stepO` on that occurrence.  From kind
    to kind only `key`, `pl` and `seen'` differ. -/
theorem stepSim_occ (P : Params) (st : State) (earlier : List (Nat × Str)) (nd : Node) (key : Option Str)
    (pl : Payload Raw) (seen' : List Str)
    (hocc : ∀ rest, occurrences earlier (names st) (toALine nd :: rest) =
      (key, pl) :: occurrences (earlierStep earlier nd) seen' rest)
    (hnames : ∀ st', stepPlain P st nd = .ok st' → (names st').Nodup ∧ names st' = seen')
    (hres : ResEq ((stepPlain P st nd).map fun s => s.nodes.map toS)
      (stepO (castInterp P) P.conv P.unitKnown (st.nodes.map toS) (key, pl))) :
    StepSim P st earlier nd := by
  rcases hres with ⟨x, h1, h2⟩ | ⟨e1, e2, h1, h2⟩
  · obtain ⟨st', hs, rfl⟩ := map_eq_ok h1
    obtain ⟨hnd, rfl⟩ := hnames st' hs
    exact .inl ⟨st', hs, hnd, fun rest => by rw [hocc rest, specFold, foldO_cons, h2]; rfl⟩
  · cases hs : stepPlain P st nd with
    | ok st' => rw [hs] at h1; cases h1
    | error e => exact .inr ⟨⟨e, hs⟩, fun rest => ⟨e2, by rw [hocc rest, specFold, foldO_cons, h2]; rfl⟩⟩

/-- a line with a value: its occurrence is keyed by its own path, which is recorded as seen -/
theorem stepSim_value (P : Params) (st : State) (earlier : List (Nat × Str)) (nd : Node) (nm : Str)
    (pl : Payload Raw) (hinv : Inv st earlier) (hk : nd.kind = .mod ∨ ∃ t, nd.kind = .typed t) (hn : nd.name = some nm)
    (hl : toALine nd = { indent := nd.indent, name := nm, p := pl })
    (hvb : pl.valueBearing = true)
    (hres : ResEq ((entriesStep P (pathOf (push st.stack nd.indent nm)) st.nodes nd).map (List.map toS))
      (stepO (castInterp P) P.conv P.unitKnown (st.nodes.map toS) (some (pathOf (push st.stack nd.indent nm)), pl))) :
    StepSim P st earlier nd := by
  -- `hres` speaks of `entriesStep` under the path of the pushed stack, `stepSim_occ` of `stepPlain`: through `stackStep` and back
  rw [← stackStep_value st.stack nd nm hk hn, ← stepPlain_nodes_toS, stackStep_value st.stack nd nm hk hn] at hres
  have hpath : pathOf (push st.stack nd.indent nm) = specPath earlier nd.indent nm := by
    rw [hinv.1]; exact pathOf_push_stackAfter earlier nd.indent nm
  refine stepSim_occ P st earlier nd _ pl _ (fun rest => ?_)
    (fun st' hs => stepPlain_value_state P st st' nd nm hk hn hinv.2 hs) hres
  rw [hl, earlierStep_named earlier nd nm (.inr hk) hn, hpath]
  cases pl with
  | typed ty info dims u v => simp [occurrences]
  | mod u v => simp [occurrences]
  | skip | group | const => cases hvb

theorem tyMismatch_typed (nd : Node) (t ty : Ty) (hk : nd.kind = .typed t) : tyMismatch nd ty = (t != ty) := by
  simp [tyMismatch, hk, kindTy]

theorem bind_map {β γ δ : Type} (x : R δ) (m : R β) (F : β → γ) :
    (x.bind fun _ => m.map F) = (x.bind fun _ => m).map F := by
  cases x <;> rfl

/-- The model's lookup by path against `stepO`, whatever the line (`x`: what it computes before it looks at the entry
    found, `onNew`: what it does with a new path): it is enough that the entries correspond, the found and the new. -/
theorem lookup_lift (P : Params) (path : Str) (pl : Payload Raw) (nd : Node) (ns : List ENode) {δ : Type} (x : R δ)
    (onNew : R (List ENode))
    (hnew : (∀ e ∈ ns, e.name ≠ path) → ResEq (onNew.map (List.map toS))
      ((firstOf (castInterp P) P.unitKnown path pl).map fun s => ns.map toS ++ [s]))
    (hfound : ∀ e, ResEq ((x.bind fun _ => if e.constant then .error .fail else modify P e nd).map toS)
      (assignTo (castInterp P) P.conv P.unitKnown (toS e) pl)) :
    ResEq ((match updateFirst P path nd ns with
        | some r => x.bind fun _ => r
        | none => onNew).map (List.map toS))
      (stepO (castInterp P) P.conv P.unitKnown (ns.map toS) (some path, pl)) := by
  rcases updateFirst_char P path nd ns with ⟨hno, hu⟩ | ⟨pre, e, post, hns, he, hpre, hu⟩
  · rw [hu, stepO_new _ _ _ _ _ _ (findS_map_none _ _ hno)]
    exact hnew hno
  · rw [hu, hns, stepO_found _ _ _ _ _ _ _ (findS_map_pre path pre e post he hpre)]
    simp only []
    rw [bind_map]
    rcases hfound e with ⟨s, h1, h2⟩ | ⟨e1, e2, h1, h2⟩
    · obtain ⟨e', hM, rfl⟩ := map_eq_ok h1
      have hname : e'.name = e.name := by
        obtain ⟨_, _, h⟩ := bind_eq_ok hM
        split at h
        · cases h
        · exact modify_name P e e' nd h
      rw [hM, h2]
      refine .inl ⟨_, rfl, ?_⟩
      simp only [Except.map]
      rw [replaceS_map_pre (toS e') pre e post hname (by rw [he]; exact hpre)]
      simp
    · rw [h2]
      cases hM : (x.bind fun _ => if e.constant = true then Except.error Err.fail else modify P e nd) with
      | ok y => rw [hM] at h1; cases h1
      | error y => exact .inr ⟨y, e2, rfl, rfl⟩

/-- an existing entry under a modification line: constant test, then `modify_value`, on both sides in this order -/
theorem entry_mod (P : Params) (nd : Node) (e : ENode) (r : Raw) (hk : nd.kind = .mod) (hr : nd.raw = some r) :
    ResEq ((if e.constant then .error .fail else modify P e nd).map toS)
      (assignTo (castInterp P) P.conv P.unitKnown (toS e) (.mod nd.units r)) := by
  have hfz : (toS e).frozen = e.constant := rfl
  have htm : tyMismatch nd (toS e).ty = false := by simp [tyMismatch, hk, kindTy]
  simp only [assignTo, hfz]
  by_cases hc : e.constant = true
  · simp only [hc, if_true]; exact .inr ⟨.fail, .fail, rfl, rfl⟩
  · simp only [hc, Bool.false_eq_true, if_false]
    rw [modify_toS, htm, hr]
    exact ResEq.refl _

theorem stepSim_mod (P : Params) (st : State) (earlier : List (Nat × Str)) (nd : Node) (nm : Str) (r : Raw)
    (hinv : Inv st earlier) (hk : nd.kind = .mod) (hn : nd.name = some nm) (hr : nd.raw = some r) :
    StepSim P st earlier nd := by
  have hl : toALine nd = { indent := nd.indent, name := nm, p := .mod nd.units r } := by
    simp [toALine, hk, hn, hr]
  apply stepSim_value P st earlier nd nm (.mod nd.units r) hinv (.inl hk) hn hl rfl
  rw [entriesStep_mod hk hn]
  -- a modification computes nothing before the lookup: `x := .ok ()`, and `(.ok ()).bind fun _ => r` is `r` by unfolding
  exact lookup_lift P _ _ nd st.nodes (.ok ()) (.error .fail) (fun _ => .inr ⟨.fail, .fail, rfl, rfl⟩)
    (fun e => entry_mod P nd e r hk hr)

/-- an existing entry under a typed line: the model tests "own value fits own type", constant, type in one order,
    the specification in another; as options they agree -/
theorem entry_typed (P : Params) (nd : Node) (t : Ty) (e : ENode) (hk : nd.kind = .typed t)
    (huo : unitsOk P.unitKnown (Payload.typed t nd.info nd.dims nd.units nd.raw) = true) :
    ResEq (((initValue P t nd.dims nd.raw).bind fun _ => if e.constant then .error .fail else modify P e nd).map toS)
      (assignTo (castInterp P) P.conv P.unitKnown (toS e) (.typed t nd.info nd.dims nd.units nd.raw)) := by
  rw [resEq_iff, ← bind_map, apply_ite (Except.map toS), modify_toS, tyMismatch_typed nd t _ hk,
    show Except.map toS (.error .fail : R ENode) = .error .fail from rfl]
  have herr : ∀ {β : Type} (x : Err), (Except.error x : R β).toOption = none := fun _ => rfl
  have hfz : (toS e).frozen = e.constant := rfl
  have hty : (toS e).ty = e.ty := rfl
  simp only [assignTo, huo, Bool.not_true, Bool.false_eq_true, if_false, hfz, hty, toOption_bind, apply_ite Except.toOption, herr]
  cases hr : nd.raw with
  | none =>
    have h2 : ∀ b : Bool, (if b = true then (Except.error Err.fail : R SNode) else .error .unsupported).toOption = none := by
      intro b; cases b <;> rfl
    simp only [h2, herr, ite_self]
    cases (initValue P t nd.dims none).toOption <;> rfl
  | some r =>
    have hinitI : (castInterp P).init t nd.dims r = initValue P t nd.dims (some r) := rfl
    simp only [hinitI]
    rw [bind_ite_none, bind_ite_none]
    cases initValue P t nd.dims (some r) <;> rfl

theorem stepSim_typed (P : Params) (st : State) (earlier : List (Nat × Str)) (nd : Node) (nm : Str) (t : Ty)
    (hinv : Inv st earlier) (hk : nd.kind = .typed t) (hn : nd.name = some nm) :
    StepSim P st earlier nd := by
  have hl : toALine nd = { indent := nd.indent, name := nm, p := .typed t nd.info nd.dims nd.units nd.raw } := by
    simp [toALine, hk, hn]
  apply stepSim_value P st earlier nd nm (.typed t nd.info nd.dims nd.units nd.raw) hinv (.inr ⟨t, hk⟩) hn hl rfl
  rw [entriesStep_typed hk hn]
  rcases preCheck_unitsOk P nd t hk with ⟨hpc, huo⟩ | ⟨hpc, huo⟩
  rotate_left
  · -- a unit the type does not take, or an unknown unit
    rw [hpc]
    refine .inr ⟨.fail, .fail, rfl, ?_⟩
    cases hf : findS (pathOf (push st.stack nd.indent nm)) (st.nodes.map toS) with
    | none => rw [stepO_new _ _ _ _ _ _ hf]; simp [firstOf, huo, Except.map]
    | some s => rw [stepO_found _ _ _ _ _ _ _ hf]; simp [assignTo, huo, Except.map]
  · rw [hpc, show ∀ f : Unit → R (List ENode), (Except.ok () : R Unit).bind f = f () from fun _ => rfl]
    refine lookup_lift P _ _ nd st.nodes _ _ (fun _ => ?_) (fun e => entry_typed P nd t e hk huo)
    -- first occurrence
    simp only [firstOf, huo, Bool.not_true, Bool.false_eq_true, if_false]
    cases hr : nd.raw with
    | none => exact .inl ⟨_, rfl, by simp [Except.map, newEntry, toS]⟩
    | some r =>
      have hinitI : (castInterp P).init t nd.dims r = initValue P t nd.dims (some r) := rfl
      simp only [hinitI, bind, Except.bind]
      cases hi : initValue P t nd.dims (some r) with
      | error x => exact .inr ⟨x, x, rfl, rfl⟩
      | ok w => exact .inl ⟨_, rfl, by simp [Except.map, newEntry, toS]⟩

theorem stepSim_group (P : Params) (st : State) (earlier : List (Nat × Str)) (nd : Node) (nm : Str)
    (hinv : Inv st earlier) (hk : nd.kind = .group) (hn : nd.name = some nm) : StepSim P st earlier nd := by
  refine .inl ⟨{ st with stack := push st.stack nd.indent nm }, by simp [stepPlain, hk, hn], hinv.2, ?_⟩
  intro rest
  have hl : toALine nd = { indent := nd.indent, name := nm, p := .group } := by simp [toALine, hk, hn]
  rw [hl, earlierStep_named earlier nd nm (.inl hk) hn]
  simp [occurrences, names]

/-- `!constant` on the entries: the last entry is frozen, and the specification, which looks for the last path, finds
    exactly that entry because the paths are pairwise different -/
theorem constant_lift (P : Params) (ns : List ENode) (hnd : (ns.map (·.name)).Nodup) :
    ResEq ((setLastConstant ns).map (List.map toS))
      (stepO (castInterp P) P.conv P.unitKnown (ns.map toS) ((ns.map (·.name)).getLast?, .const)) := by
  rcases List.eq_nil_or_concat ns with rfl | ⟨pre, e, rfl⟩
  · exact .inr ⟨.fail, .fail, rfl, rfl⟩
  · rw [List.concat_eq_append] at hnd ⊢
    have hpre : ∀ x ∈ pre, x.name ≠ e.name := by
      simp only [List.map_append, List.map_cons, List.map_nil] at hnd
      intro x hx heq
      exact (List.nodup_append.mp hnd).2.2 x.name (List.mem_map.mpr ⟨x, hx, rfl⟩) e.name (by simp) heq
    have hlast : ((pre ++ [e]).map (·.name)).getLast? = some e.name := by simp
    rw [setLastConstant_concat, hlast, stepO_found _ _ _ _ _ _ _ (findS_map_pre e.name pre e [] rfl hpre)]
    refine .inl ⟨_, rfl, ?_⟩
    simp only [assignTo, Except.map]
    rw [replaceS_map_pre _ pre e [] rfl hpre]
    simp [toS]

/-- `!constant`: `seen = names st`, so the occurrence is recorded under the last entry's path -/
theorem stepSim_constant (P : Params) (st : State) (earlier : List (Nat × Str)) (nd : Node)
    (hinv : Inv st earlier) (hk : nd.kind = .constant) : StepSim P st earlier nd := by
  refine stepSim_occ P st earlier nd (names st).getLast? .const (names st) (fun rest => ?_) (fun st' h => ?_) ?_
  · rw [show toALine nd = { indent := nd.indent, name := [], p := .const } by simp [toALine, hk],
      show earlierStep earlier nd = earlier by simp only [earlierStep, hk]]
    simp [occurrences]
  · rw [stepPlain_eq] at h
    obtain ⟨ns', he, rfl⟩ := map_eq_ok h
    simp only [entriesStep, hk] at he
    have hn : names { stack := stackStep st.stack nd, nodes := ns' } = names st := setLastConstant_names _ _ he
    exact ⟨by rw [hn]; exact hinv.2, hn⟩
  · rw [stepPlain_nodes_toS]
    simp only [entriesStep, hk]
    exact constant_lift P st.nodes hinv.2

/-- every kind of line: `NodeWF` supplies the name and the value the per-kind lemmas ask for -/
theorem stepSim_all (P : Params) (st : State) (earlier : List (Nat × Str)) (nd : Node)
    (hwf : NodeWF nd) (hinv : Inv st earlier) : StepSim P st earlier nd := by
  obtain ⟨hnt, hmod, htyp⟩ := hwf
  cases hk : nd.kind with
  | empty | unit =>
    exact stepSim_skip P st earlier nd hinv (by simp [stepPlain, hk]) (by simp [toALine, hk])
      (by simp only [earlierStep, hk])
  | table => exact absurd hk hnt
  | constant => exact stepSim_constant P st earlier nd hinv hk
  | group =>
    cases hn : nd.name with
    | none =>
      exact stepSim_skip P st earlier nd hinv (by simp [stepPlain, hk, hn]) (by simp [toALine, hk, hn])
        (by simp only [earlierStep, hk, hn])
    | some nm => exact stepSim_group P st earlier nd nm hinv hk hn
  | mod =>
    obtain ⟨h1, h2⟩ := hmod hk
    cases hn : nd.name with
    | none => rw [hn] at h1; cases h1
    | some nm =>
      cases hr : nd.raw with
      | none => rw [hr] at h2; cases h2
      | some r => exact stepSim_mod P st earlier nd nm r hinv hk hn hr
  | typed t =>
    have h1 := htyp t hk
    cases hn : nd.name with
    | none => rw [hn] at h1; cases h1
    | some nm => exact stepSim_typed P st earlier nd nm t hinv hk hn

/-- The loop: by induction on the lines, `Inv` carried along (`stepPlain_stackAfter` for the stack, `StepSim` for the
    paths), each step moving one occurrence from the specification's list into its entries. -/
theorem foldSteps_sim (P : Params) : ∀ (nds : List Node) (st : State) (earlier : List (Nat × Str)),
    (∀ nd ∈ nds, NodeWF nd) → Inv st earlier →
    ResEq ((foldSteps P st nds).map (fun s => s.nodes.map toS))
      (specFold P (st.nodes.map toS) (occurrences earlier (names st) (nds.map toALine))) := by
  intro nds
  induction nds with
  | nil => intro st earlier _ _; exact .inl ⟨_, rfl, rfl⟩
  | cons nd t ih =>
    intro st earlier hwf hinv
    rcases stepSim_all P st earlier nd (hwf nd (by simp)) hinv with ⟨st', hs, hnd', heq⟩ | ⟨⟨e, hs⟩, herr⟩
    · simp only [foldSteps, hs, bind, Except.bind, List.map_cons]
      rw [heq (t.map toALine)]
      exact ih st' _ (fun x hx => hwf x (List.mem_cons_of_mem _ hx)) ⟨stepPlain_stackAfter hinv.1 hs, hnd'⟩
    · obtain ⟨e2, h2⟩ := herr (t.map toALine)
      simp only [foldSteps, hs, bind, Except.bind, List.map_cons, Except.map]
      exact .inr ⟨e, e2, rfl, h2⟩

theorem validate_toS (ns : List ENode) : (validate ns).map (List.map toS) = checkS (ns.map toS) := by
  simp only [validate, checkS, List.any_map]
  have : (fun e : ENode => e.value.isNone) = ((fun s : SNode => s.value.isNone) ∘ toS) := rfl
  rw [this]
  split <;> rfl

theorem parseNodes_toS (P : Params) (nds : List Node) (hplain : ∀ nd ∈ nds, nd.kind ≠ .table) :
    (parseNodes P nds).map (List.map toS) = ((foldSteps P {} nds).map (fun s => s.nodes.map toS)).bind checkS := by
  simp only [parseNodes, runNodes_plain P nds {} hplain, bind, Except.bind]
  cases foldSteps P {} nds with
  | error e => rfl
  | ok s => exact validate_toS s.nodes

end SciVerif.C13
