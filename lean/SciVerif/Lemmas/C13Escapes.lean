import SciVerif.Lemmas.C13Blocks
/-!
The escape marks of `_determine_node`: `\\'`, `\\"` and newlines are replaced by `$@00`, `$@01`, `$@02` before the
scanners run and put back afterwards.  `escQ` writes a value with its quote characters escaped, `encQ` is what the
scanners see; `decode ∘ encQ` is the identity on text without `$`, for the two quote characters and for newlines
(block values).  The two results: a value with escaped quotes is lexed like the description whose quoted value is the
marked text (`determine_escaped`), and a triple-quoted block over several lines comes back as its lines joined by
newlines (`block_value_roundtrip`).
-/
namespace SciVerif.C13
open SciVerif.Util

/-- the value as written: every occurrence of the quote character `q` preceded by a backslash -/
def escQ (q : Char) : Str → Str
  | [] => []
  | c :: t => if c = q then '\\' :: q :: escQ q t else c :: escQ q t

/-- the value as the scanners see it: every `q` replaced by the mark -/
def encQ (q : Char) (mark : Str) : Str → Str
  | [] => []
  | c :: t => if c = q then mark ++ encQ q mark t else c :: encQ q mark t

theorem escQ_eq (q : Char) (s : Str) : escQ q s = s.flatMap (fun c => if c = q then ['\\', q] else [c]) := by
  induction s with
  | nil => rfl
  | cons c t ih => by_cases h : c = q <;> simp [escQ, h, ih]

theorem encQ_eq (q : Char) (mark s : Str) : encQ q mark s = s.flatMap (fun c => if c = q then mark else [c]) := by
  induction s with
  | nil => rfl
  | cons c t ih => by_cases h : c = q <;> simp [encQ, h, ih]

theorem encQ_append (q : Char) (mark a b : Str) : encQ q mark (a ++ b) = encQ q mark a ++ encQ q mark b := by
  simp only [encQ_eq, List.flatMap_append]

theorem replaceAll_single (q : Char) (mark : Str) : ∀ s : Str, replaceAll [q] mark s = encQ q mark s := by
  intro s
  have := replaceAll_flatMap [q] mark (fun c => [c]) (fun c => if c = q then mark else [c]) [] s (fun c _ tl => by
    by_cases h : c = q
    · rw [if_pos h, h]; exact replaceAll_hit [q] mark tl (by simp)
    · rw [if_neg h]; exact replaceAll_head _ _ c (by simpa using Ne.symm h) tl)
  simpa [encQ_eq, replaceAll_nil] using this

theorem encQ_noQ (q : Char) (mark : Str) (s : Str) (h : ∀ c ∈ s, c ≠ q) : encQ q mark s = s := by
  rw [← replaceAll_single]
  exact replaceAll_id [q] mark q rfl s h

theorem replaceAll_other_escQ (q q' : Char) (hqq : q' ≠ q) (hq : q ≠ '\\') (rep rest : Str)
    (hrest : replaceAll ['\\', q'] rep rest = rest) (s : Str) (hs : ∀ c ∈ s, c ≠ '\\') :
    replaceAll ['\\', q'] rep (escQ q s ++ rest) = escQ q s ++ rest := by
  rw [escQ_eq, replaceAll_flatMap _ _ _ _ rest s, hrest]
  intro c hc tl
  by_cases h : c = q
  · simp only [h, if_true, List.cons_append, List.nil_append]
    rw [replaceAll_step _ _ '\\' _ (by simp [List.isPrefixOf, hqq]), replaceAll_head _ _ q (by simpa using Ne.symm hq)]
  · simp only [h, if_false]
    exact replaceAll_head _ _ c (by simpa using Ne.symm (hs c hc)) tl

theorem replaceAll_own_escQ (q : Char) (mark rest : Str) (hrest : replaceAll ['\\', q] mark rest = rest)
    (s : Str) (hs : ∀ c ∈ s, c ≠ '\\') :
    replaceAll ['\\', q] mark (escQ q s ++ rest) = encQ q mark s ++ rest := by
  rw [escQ_eq, encQ_eq, replaceAll_flatMap _ _ _ (fun c => if c = q then mark else [c]) rest s, hrest]
  intro c hc tl
  by_cases h : c = q
  · simp only [h, if_true]; exact replaceAll_hit _ _ tl (by simp)
  · simp only [h, if_false]
    exact replaceAll_head _ _ c (by simpa using Ne.symm (hs c hc)) tl

theorem encQ_chars (q : Char) (mark : Str) (p : Char → Prop) (hm : ∀ c ∈ mark, p c) (s : Str)
    (hs : ∀ c ∈ s, c ≠ q → p c) : ∀ c ∈ encQ q mark s, p c := by
  intro c hc
  rw [encQ_eq] at hc
  obtain ⟨x, hx, hcx⟩ := List.mem_flatMap.mp hc
  by_cases h : x = q
  · rw [if_pos h] at hcx; exact hm c hcx
  · rw [if_neg h, List.mem_singleton] at hcx; exact hcx ▸ hs x hx h

theorem replaceAll_mark_encQ (q : Char) (mark : Str) (m1 m2 m3 : Char) (hmark : mark = ['$', m1, m2, m3])
    (s : Str) (hs : ∀ c ∈ s, c ≠ '$') : replaceAll mark [q] (encQ q mark s) = s := by
  have := replaceAll_flatMap mark [q] (fun c => if c = q then mark else [c]) (fun c => [c]) [] s (by
    intro c hc tl
    by_cases h : c = q
    · simp only [h, if_true]; exact replaceAll_hit _ _ tl (by rw [hmark]; simp)
    · simp only [h, if_false]
      exact replaceAll_head _ _ c (by rw [hmark]; simpa using Ne.symm (hs c hc)) tl)
  simpa [encQ_eq, replaceAll_nil] using this

theorem replaceAll_othermark_encQ (q : Char) (m3 m3' : Char) (hne : m3' ≠ m3) (hm3 : m3 ≠ '$') (rep : Str)
    (s : Str) (hs : ∀ c ∈ s, c ≠ '$') :
    replaceAll ['$', '@', '0', m3'] rep (encQ q ['$', '@', '0', m3] s) = encQ q ['$', '@', '0', m3] s := by
  have := replaceAll_flatMap ['$', '@', '0', m3'] rep (fun c => if c = q then ['$', '@', '0', m3] else [c])
    (fun c => if c = q then ['$', '@', '0', m3] else [c]) [] s (by
    intro c hc tl
    by_cases h : c = q
    · simp only [h, if_true, List.cons_append, List.nil_append]
      rw [replaceAll_step _ _ '$' _ (by simp [List.isPrefixOf, hne]), replaceAll_head _ _ '@' (by simp),
        replaceAll_head _ _ '0' (by simp), replaceAll_head _ _ m3 (by simpa using Ne.symm hm3)]
    · simp only [h, if_false]
      exact replaceAll_head _ _ c (by simpa using Ne.symm (hs c hc)) tl)
  simpa [encQ_eq, replaceAll_nil] using this

/-- the two quote characters of the value grammar, each with the mark of its escaped form and its literal form -/
inductive Quote where
  | dq | sq

abbrev Quote.ch : Quote → Char
  | .dq => '"' | .sq => '\''

abbrev Quote.mark : Quote → Str
  | .dq => enc1 | .sq => enc0

abbrev Quote.lit : Quote → Str → Lit
  | .dq => Lit.dq | .sq => Lit.sq

theorem enc0_eq : enc0 = ['$', '@', '0', '0'] := String.toList_ofList
theorem enc1_eq : enc1 = ['$', '@', '0', '1'] := String.toList_ofList
theorem enc2_eq : enc2 = ['$', '@', '0', '2'] := String.toList_ofList

theorem quote_mark (q : Quote) : NoEsc q.mark ∧ ∀ c ∈ q.mark, c ≠ q.ch := by
  cases q
  · show NoEsc enc1 ∧ ∀ c ∈ enc1, c ≠ '"'
    rw [enc1_eq]; decide
  · show NoEsc enc0 ∧ ∀ c ∈ enc0, c ≠ '\''
    rw [enc0_eq]; decide

theorem decode_encQ (q : Quote) (s : Str) (h : ∀ c ∈ s, c ≠ '$') : decode (encQ q.ch q.mark s) = s := by
  cases q
  · show decode (encQ '"' enc1 s) = s
    simp only [decode]
    rw [enc0_eq, enc1_eq, replaceAll_othermark_encQ '"' '1' '0' (by decide) (by decide) _ s h,
      replaceAll_mark_encQ '"' _ '@' '0' '1' rfl s h,
      replaceAll_id _ _ '$' (by decide) s h]
  · show decode (encQ '\'' enc0 s) = s
    simp only [decode]
    rw [enc0_eq, replaceAll_mark_encQ '\'' _ '@' '0' '0' rfl s h,
      replaceAll_id _ _ '$' (by decide) s h, replaceAll_id _ _ '$' (by decide) s h]

theorem decode_encQ_dq (s : Str) (h : ∀ c ∈ s, c ≠ '$') : decode (encQ '"' enc1 s) = s := decode_encQ .dq s h

theorem decode_encQ_nl (s : Str) (h : ∀ c ∈ s, c ≠ '$') : decode (encQ '\n' enc2 s) = s := by
  simp only [decode]
  rw [enc0_eq, enc1_eq, enc2_eq, replaceAll_othermark_encQ '\n' '2' '0' (by decide) (by decide) _ s h,
    replaceAll_othermark_encQ '\n' '2' '1' (by decide) (by decide) _ s h,
    replaceAll_mark_encQ '\n' _ '@' '0' '2' rfl s h]

theorem encode_noBackslash (s : Str) (h : ∀ c ∈ s, c ≠ '\\') : encode s = encQ '\n' enc2 s := by
  simp only [encode]
  rw [replaceAll_id _ _ '\\' rfl s h, replaceAll_id _ _ '\\' rfl s h, replaceAll_single]

/-- the twin of `encode_escaped` for block values: the only marks set are those for the newlines of `s` -/
theorem encode_newlines (A B s : Str) (hA : NoEsc A) (hB : NoEsc B) (hs : ∀ c ∈ s, c ≠ '\\') :
    encode (A ++ (s ++ B)) = A ++ (encQ '\n' enc2 s ++ B) := by
  rw [encode_noBackslash _ (by
      simp only [List.mem_append]
      rintro x (h | h | h)
      · exact (hA x h).1
      · exact hs x h
      · exact (hB x h).1),
    encQ_append, encQ_append, encQ_noQ _ _ A (fun x hx => (hA x hx).2), encQ_noQ _ _ B (fun x hx => (hB x hx).2)]

theorem encode_escaped (q : Quote) (A B s : Str) (hA : NoEsc A) (hB : NoEsc B) (hs : ∀ c ∈ s, c ≠ '\\' ∧ c ≠ '\n') :
    encode (A ++ q.ch :: (escQ q.ch s ++ q.ch :: B)) = A ++ q.ch :: (encQ q.ch q.mark s ++ q.ch :: B) := by
  have hsb : ∀ c ∈ s, c ≠ '\\' := fun c hc => (hs c hc).1
  have hq : NoEsc [q.ch] := by cases q <;> decide
  have hBq : ∀ (pat rep : Str), pat.head? = some '\\' → replaceAll pat rep (q.ch :: B) = q.ch :: B := fun pat rep hp =>
    replaceAll_id pat rep '\\' hp _ (fun c hc => (NoEsc_append hq hB c hc).1)
  -- the marked line holds no backslash and no newline: the passes that follow leave it alone
  have hres : NoEsc (A ++ q.ch :: (encQ q.ch q.mark s ++ q.ch :: B)) :=
    NoEsc_append hA (NoEsc_append hq (NoEsc_append (encQ_chars _ _ _ (quote_mark q).1 s (fun c hc _ => hs c hc)) (NoEsc_append hq hB)))
  simp only [encode]
  cases q
  · rw [replaceAll_prefix_id _ _ '\\' rfl _ A (fun c hc => (hA c hc).1), replaceAll_head _ _ '"' (by decide),
      replaceAll_other_escQ '"' '\'' (by decide) (by decide) _ _ (hBq _ _ rfl) s hsb,
      replaceAll_prefix_id _ _ '\\' rfl _ A (fun c hc => (hA c hc).1), replaceAll_head _ _ '"' (by decide),
      replaceAll_own_escQ '"' _ _ (hBq _ _ rfl) s hsb]
    exact replaceAll_id _ _ '\n' rfl _ (fun c hc => (hres c hc).2)
  · rw [replaceAll_prefix_id _ _ '\\' rfl _ A (fun c hc => (hA c hc).1), replaceAll_head _ _ '\'' (by decide),
      replaceAll_own_escQ '\'' _ _ (hBq _ _ rfl) s hsb,
      replaceAll_id _ _ '\\' rfl _ (fun c hc => (hres c hc).1), replaceAll_id _ _ '\n' rfl _ (fun c hc => (hres c hc).2)]

theorem encode_escaped_sq (A B s : Str) (hA : NoEsc A) (hB : NoEsc B) (hs : ∀ c ∈ s, c ≠ '\\' ∧ c ≠ '\n') :
    encode (A ++ '\'' :: (escQ '\'' s ++ '\'' :: B)) = A ++ '\'' :: (encQ '\'' enc0 s ++ '\'' :: B) :=
  encode_escaped .sq A B s hA hB hs

/-- a modification line up to, not including, its value: `name = ` with the blanks written -/
def modifyPrefix (nm : Str) (a b : Nat) : Str := nm ++ (List.replicate (a + 1) ' ' ++ '=' :: List.replicate b ' ')

theorem modify_render_prefix (nm : Str) (a b : Nat) (v : ValD) :
    (LineD.modify nm a b v).render = modifyPrefix nm a b ++ v.render := by
  simp [LineD.render, modifyPrefix, List.append_assoc]

theorem NoEsc_modifyPrefix (nm : Str) (a b : Nat) (hn : NameOk nm) : NoEsc (modifyPrefix nm a b) := by
  unfold modifyPrefix
  refine NoEsc_append (NoEsc_name nm hn) (NoEsc_append (NoEsc_spaces _) ?_)
  intro x hx
  rcases List.mem_cons.mp hx with rfl | hx
  · exact ⟨by decide, by decide⟩
  · exact NoEsc_spaces b x hx

/-- the node a modification line denotes when its value text is `text` -/
def modNode (k : Nat) (nm : Str) (text : Str) (unit : Option (Nat × Str)) : Node :=
  { kind := .mod, indent := k, name := some nm, raw := some (.text text), units := unit.map Prod.snd }

/-- **Escaped quotes.**  A line `A` `q…q` `[unit] [# comment]` whose value writes every quote character of the
    intended text `s` as backslash-quote, `A` being the part of a described line in front of its value: the marks
    go in, the scanners find the closing quote, and the line is lexed like the description whose quoted value is
    the marked text. -/
theorem determine_escaped (q : Quote) (k : Nat) (A : Str) (mk : ValD → LineD) (s : Str) (unit cm : Option (Nat × Str))
    (hA : NoEsc A) (hr : ∀ v, (mk v).render = A ++ v.render) (hok : ∀ v, v.Ok → (mk v).Ok)
    (hu : ∀ n x, unit = some (n, x) → UnitOk x) (htail : NoEsc (renderTail unit cm))
    (hs : ∀ ch ∈ s, ch ≠ '\\' ∧ ch ≠ '\n') :
    determine (List.replicate k ' ' ++ (A ++ q.ch :: (escQ q.ch s ++ q.ch :: renderTail unit cm))) =
      .ok { (mk { lit := q.lit (encQ q.ch q.mark s), unit := unit, cm := cm }).node with indent := k } := by
  have hlit : (q.lit (encQ q.ch q.mark s)).Ok := by
    have := encQ_chars q.ch q.mark (fun x => x ≠ q.ch) (quote_mark q).2 s (fun x _ hx => hx)
    cases q <;> exact this
  apply determine_render_enc k _ _ (hok _ ⟨hlit, hu⟩)
  rw [encode_escaped q A _ s hA htail hs, hr]
  cases q <;> simp [ValD.render, Lit.render]

/-- first conjunct: `_get_queue` joins the head line, the block lines and the closing line into ONE logical line;
    second: that line is lexed to the definition node whose value is the block lines joined by newlines -/
theorem block_value_roundtrip (k j : Nat) (nm : Str) (a : Nat) (ty : TyD) (dims : Option (List DimD)) (b c : Nat)
    (blk rest : List Str) (unit cm : Option (Nat × Str))
    (hn : NameOk nm) (hd : DimsOk dims) (hu : ∀ n x, unit = some (n, x) → UnitOk x)
    (htail : NoEsc (renderTail unit cm))
    (hblk : ∀ l ∈ blk, ∀ x ∈ l, x ≠ '"' ∧ x ≠ '\\' ∧ x ≠ '$') :
    let logical := List.replicate k ' ' ++ (definePrefix nm a ty dims b c ++
      ('"' :: '"' :: '"' :: (blockText blk ++ '"' :: '"' :: '"' :: renderTail unit cm)))
    getQueue ((List.replicate k ' ' ++ (definePrefix nm a ty dims b c ++ ['"', '"', '"'])) ::
        (blk ++ (List.replicate j ' ' ++ '"' :: '"' :: '"' :: renderTail unit cm) :: rest)) =
      (getQueue rest).map (fun q => logical :: q) ∧
    determine logical = .ok (blockNode k nm ty dims (blockText blk) unit) := by
  intro logical
  have htext : ∀ x ∈ blockText blk, x ≠ '"' ∧ x ≠ '\\' ∧ x ≠ '$' := by
    apply joinWith_chars (fun x => x ≠ '"' ∧ x ≠ '\\' ∧ x ≠ '$') '\n' ⟨by decide, by decide, by decide⟩
    exact hblk
  constructor
  · have h1 : hasTriple (List.replicate k ' ' ++ (definePrefix nm a ty dims b c ++ ['"', '"', '"'])) = true := by
      have := hasTriple_suffix [] (List.replicate k ' ' ++ definePrefix nm a ty dims b c)
      simpa [List.append_assoc] using this
    have h2 : hasTriple (List.replicate j ' ' ++ '"' :: '"' :: '"' :: renderTail unit cm) = true :=
      hasTriple_suffix _ _
    have h3 : ∀ l ∈ blk, hasTriple l = false := fun l hl => hasTriple_noQuote l (fun x hx => (hblk l hl x hx).1)
    rw [getQueue_block _ _ blk rest h1 h3 h2]
    have hls : lstrip (List.replicate j ' ' ++ '"' :: '"' :: '"' :: renderTail unit cm) =
        '"' :: '"' :: '"' :: renderTail unit cm := dropWs_spaces_cons j '"' _ (by decide)
    rw [hls]
    have : (List.replicate k ' ' ++ (definePrefix nm a ty dims b c ++ ['"', '"', '"']) ++ joinWith ['\n'] blk ++
        '"' :: '"' :: '"' :: renderTail unit cm) = logical := by
      simp [logical, blockText, List.append_assoc]
    rw [this]
  · have hq3 : NoEsc ['"', '"', '"'] := by decide
    let v : ValD := { lit := .tq (encQ '\n' enc2 (blockText blk)), unit := unit, cm := cm }
    have hlit : v.lit.Ok :=
      encQ_chars '\n' enc2 (fun x => x ≠ '"') (by rw [enc2_eq]; decide) _ (fun x hx _ => (htext x hx).1)
    -- no backslash anywhere: `encode` only marks the newlines, and those are all inside the block text
    have henc : encode (definePrefix nm a ty dims b c ++ (['"', '"', '"'] ++ (blockText blk ++
        (['"', '"', '"'] ++ renderTail unit cm)))) = (LineD.define nm a ty dims b c v).render := by
      rw [← List.append_assoc, encode_newlines _ _ _ (NoEsc_append (NoEsc_definePrefix nm a ty dims b c hn hd) hq3)
        (NoEsc_append hq3 htail) (fun x hx => (htext x hx).2.1)]
      simp [define_render_prefix, ValD.render, Lit.render, v]
    have := determine_render_enc k _ (.define nm a ty dims b c v) ⟨hn, hd, hlit, hu⟩ henc
    simp only [LineD.node, v, Lit.text, decode_encQ_nl _ (fun x hx => (htext x hx).2.2)] at this
    exact this

end SciVerif.C13
