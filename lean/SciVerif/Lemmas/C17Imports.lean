import SciVerif.Lemmas.C17Requests

/-! Refinement (C17): import lines (`{?*}`, `{?p.*}`, `{?p}`; bare or prefixed; at any indentation).
    `ImportNode.parse` gives every imported copy the indent of the import line; the main loop then
    registers each copy with the hierarchy stack, so every copy lands below the same chain of
    parents (each copy pops its predecessor, which has the same indent). -/
namespace SciVerif.C17

theorem splitDot_impName (dest : List Str) (hd : WFDest dest) (nm : Str) :
    splitDot (impName dest nm) = dest ++ splitDot nm := by
  cases dest with
  | nil => simp [impName]
  | cons d ds => exact splitDot_join_append (d :: ds) ⟨by simp, hd⟩ nm

theorem importName_impLine (dest : List Str) (ref nm : Str) (hd : '{' ∉ joinDot dest) (hr : '{' ∉ ref) :
    importName (impLineName dest ref) nm = impName dest nm := by
  cases dest with
  | nil => exact importName_bare ref nm hr
  | cons d ds => exact importName_prefixed (joinDot (d :: ds)) ref nm hd hr

/-- the copy `ImportNode.parse` hands to the main loop -/
def mkCopy (imp : Node) (n : Node) : Node :=
  { n with name := importName imp.name n.name, indent := imp.indent, imported := true,
           raw := rawValue n, ref := none }

theorem importNodes_eq (env : Env) (imp : Node) (r : Str) (ns : List Node) (hr : imp.ref = some r)
    (hrq : request env r .any = .ok ns) :
    importNodes env imp = if ns.isEmpty then .error "import: no nodes" else .ok (ns.map (mkCopy imp)) := by
  unfold importNodes
  simp only [hr, hrq]
  cases ns <;> rfl

theorem importNodes_ok {env : Env} {imp : Node} {res : List Node} (h : importNodes env imp = .ok res) :
    ∃ r ns, imp.ref = some r ∧ request env r .any = .ok ns ∧ ns ≠ [] ∧ res = ns.map (mkCopy imp) := by
  revert h
  fun_cases importNodes env imp <;> intro h
  · cases h
  · cases h
  · cases h
  · rename_i r hr ns hne hq
    cases h
    exact ⟨r, ns, hr, hq, fun e => hne e, rfl⟩

/-- an imported copy as the main loop receives it: `Good`, and carrying its current value as raw value, so that
    `set_value` leaves it as it is (`setValue_copy`); `indent = 0` is asked of the flat twin `flatOf P c` only -/
def CopyOK (tbl : UnitTable) (c : Node) : Prop := c.indent = 0 ∧ Good tbl c ∧ c.raw = c.value

/-- the flat twin of a copy that stands at indent `c.indent` below the parents `P`: indent 0, the full dotted name;
    for `P = popParents c.indent ps` that name is `regNameOf ps c.indent c.name`, by `rfl` -/
def flatOf (P : List (Nat × Str)) (c : Node) : Node :=
  { c with name := joinDot (((c.indent, c.name) :: P).reverse.map Prod.snd), indent := 0 }

/-- the copy of a selected node, seen below the parents `P` of the import line, is the specification's re-rooted node;
    `hname` is `ImpPathOK` (below) for `P = popParents i ps` and the prefix the line's name carries -/
theorem reroot_at (q : SQuery) (hq : WFQ q) (dest : List Str) (hd : WFDest dest) (P : List (Nat × Str))
    (imp n : Node)
    (hname : ∀ nm, joinDot (((imp.indent, importName imp.name nm) :: P).reverse.map Prod.snd) = impName dest nm)
    (hm : qMatches (toQuery q) n = true) :
    absN (flatOf P (mkCopy imp (qRename (toQuery q) n))) = sReroot dest q (absN n) := by
  have hpath : splitDot (flatOf P (mkCopy imp (qRename (toQuery q) n))).name = (sReroot dest q (absN n)).path := by
    show splitDot (joinDot (((imp.indent, importName imp.name (qRename (toQuery q) n).name) :: P).reverse.map
      Prod.snd)) = _
    rw [hname, splitDot_impName dest hd]
    cases q with
    | all => simp [toQuery, qRename, sReroot, absN]
    | children p =>
      simp only [toQuery, qMatches] at hm
      have := (children_match p hq.1 n.name).2 hm
      simp only [toQuery, qRename, sReroot, absN, this]
    | exact p =>
      simp only [toQuery, qRename, sReroot, absN, splitDot_lastComp]
  -- the paths agree (`hpath`); every other field of the copy is the field of `n`
  cases q <;> (simp only [sReroot] at hpath ⊢; rw [← hpath]; rfl)

theorem import_sel_at (q : SQuery) (hq : WFQ q) (dest : List Str) (hd : WFDest dest) (P : List (Nat × Str))
    (imp : Node)
    (hname : ∀ nm, joinDot (((imp.indent, importName imp.name nm) :: P).reverse.map Prod.snd) = impName dest nm)
    (ns : List Node) :
    ((query ns (toQuery q)).map (mkCopy imp)).map (fun c => absN (flatOf P c)) =
      (select q (ns.map absN)).map (sReroot dest q) := by
  rw [select_abs q hq ns]
  simp only [query, List.map_map]
  exact List.map_congr_left fun n hn => reroot_at q hq dest hd P imp n hname (List.mem_filter.mp hn).2

theorem copies_ok (tbl : UnitTable) (P : List (Nat × Str)) (imp : Node) (q : Query) (ns : List Node)
    (hgood : ∀ n ∈ ns, Good tbl n) :
    ∀ c ∈ (query ns q).map (mkCopy imp), c.indent = imp.indent ∧ CopyOK tbl (flatOf P c) := by
  intro c hcm
  obtain ⟨m, hm, rfl⟩ := List.mem_map.mp hcm
  obtain ⟨n, hn, _, rfl⟩ := (mem_query ns q m).mp hm
  obtain ⟨hk, ⟨v, hv, hcf⟩, hsl, hu, hint⟩ := hgood n hn
  obtain ⟨nm, e⟩ := qRename_eq q n
  rw [e]
  exact ⟨rfl, rfl, ⟨hk, ⟨v, hv, hcf⟩, hsl, hu, hint⟩, (rawValue_some hv).trans hv.symm⟩

/-- One imported copy through the main loop, along the branches of `sImportOne`: on a fresh path it is appended,
    on an existing one it is assigned to that node, the update being `specModF` restricted to equal types. -/
theorem import_one_at (tbl : UnitTable) (env : Env) (hgood : ∀ n ∈ env.nodes, Good tbl n) (c : Node)
    (hc : CopyOK tbl (flatOf (popParents c.indent env.parents) c)) (ss' : List SNode)
    (h : sImportOne tbl (env.nodes.map absN) (absN (flatOf (popParents c.indent env.parents) c)) = some ss') :
    ∃ env', processNode tbl env c = .ok env' ∧ env'.nodes.map absN = ss' ∧
      (∀ n ∈ env'.nodes, Good tbl n) ∧ env'.sources = env.sources ∧ env'.units = env.units ∧
      env'.srcUnits = env.srcUnits ∧ env'.parents = regStackOf env.parents c.indent c.name := by
  have hg : Good tbl c := hc.2.1
  have hraw : c.raw = c.value := hc.2.2
  have hsv : setValue { c with name := regNameOf env.parents c.indent c.name } = .ok _ :=
    setValue_copy tbl _ hg hraw
  obtain ⟨v, hv, _⟩ := good_conf hg
  revert h
  fun_cases sImportOne tbl (env.nodes.map absN) (absN (flatOf (popParents c.indent env.parents) c)) <;> intro h
  · cases h
  · rename_i _ w hw
    obtain rfl : v = w := Option.some.inj (hv.symm.trans hw)
    obtain ⟨ns', hpn, habs, hg'⟩ := put_assign tbl (nodeInv_good tbl) env c _ v ss' _
      (unitCheck_ok tbl c hg.1 hg.2.2.2.1) (typed_ne hg.1).2.1 hsv
      (fun t _ s' hs => by
        split at hs
        · rename_i hkw
          exact ⟨hs, Or.inr (by rw [show t.kw = c.kw from hkw])⟩
        · cases hs)
      hgood (by rw [hraw, hv]) h
    exact ⟨_, hpn, habs, hg', rfl, rfl, rfl, rfl⟩
  · rename_i hany
    cases h
    exact ⟨_, put_new tbl env c _ hg.1 hg.2.2.2.1 hsv rfl (fresh_of_any ((Bool.not_eq_true _).mp hany)),
      by simp [absN, flatOf, regNameOf, regStackOf],
      List.forall_mem_append.mpr ⟨hgood, fun t ht => by rw [List.mem_singleton.mp ht]; exact hg⟩, rfl, rfl, rfl, rfl⟩

/-- All copies of one import line.  Kept along the fold: what is left of the stack below the line's indent is `P`
    (`hP`) — each copy pops its predecessor, which has the same indent. -/
theorem import_all_at (tbl : UnitTable) (i : Nat) (P : List (Nat × Str)) (cs : List Node) (env : Env)
    (hP : popParents i env.parents = P)
    (hgood : ∀ n ∈ env.nodes, Good tbl n)
    (hok : ∀ c ∈ cs, c.indent = i ∧ CopyOK tbl (flatOf P c)) (ss' : List SNode)
    (h : sImportAll tbl (env.nodes.map absN) (cs.map (fun c => absN (flatOf P c))) = some ss') :
    ∃ env', cs.foldlM (processNode tbl) env = .ok env' ∧ env'.nodes.map absN = ss' ∧
      (∀ n ∈ env'.nodes, Good tbl n) ∧ env'.sources = env.sources ∧ env'.units = env.units ∧
      env'.srcUnits = env.srcUnits := by
  induction cs generalizing env with
  | nil =>
    simp only [List.map_nil, sImportAll, Option.some.injEq] at h
    exact ⟨env, rfl, h, hgood, rfl, rfl, rfl⟩
  | cons c rest ih =>
    simp only [List.map_cons, sImportAll] at h
    obtain ⟨hci, hcok⟩ := hok c (by simp)
    have hPc : popParents c.indent env.parents = P := by rw [hci]; exact hP
    cases h1 : sImportOne tbl (env.nodes.map absN) (absN (flatOf P c)) with
    | none => simp [h1] at h
    | some s1 =>
      simp only [h1] at h
      obtain ⟨env1, hp, habs, hg1, hs1, hu1, hq1, hpar⟩ := import_one_at tbl env hgood c
        (by rw [hPc]; exact hcok) s1 (by rw [hPc]; exact h1)
      rw [← habs] at h
      have hP1 : popParents i env1.parents = P := by
        rw [hpar, hci, popParents_regStackOf]
        exact hP
      obtain ⟨env', hrun, habs', hg', hs', hu', hq'⟩ := ih env1 hP1 hg1 (fun x hx => hok x (by simp [hx])) h
      refine ⟨env', ?_, habs', hg', hs'.trans hs1, hu'.trans hu1, hq'.trans hq1⟩
      rw [Util.foldlM_cons_ok hp]
      exact hrun

theorem nodup_of_map {α β : Type} (f : α → β) (l : List α) (h : (l.map f).Nodup) : l.Nodup :=
  List.Pairwise.of_map f (fun _ _ hne e => hne (congrArg f e)) h

theorem fold_copies (tbl : UnitTable) (cs : List Node) (env : Env)
    (hok : ∀ c ∈ cs, CopyOK tbl c) (hnd : (cs.map (·.name)).Nodup)
    (hfresh : ∀ c ∈ cs, ∀ t ∈ env.nodes, t.name ≠ c.name) :
    ∃ env', cs.foldlM (processNode tbl) env = .ok env' ∧ env'.nodes = env.nodes ++ cs ∧
      env'.sources = env.sources ∧ env'.units = env.units := by
  induction cs generalizing env with
  | nil => exact ⟨env, rfl, by simp, rfl, rfl⟩
  | cons c rest ih =>
    obtain ⟨hi, hg, hraw⟩ := hok c (by simp)
    have e : ({ c with name := regNameOf env.parents c.indent c.name } : Node) = c := by
      cases c
      simp only at hi
      subst hi
      simp only [regNameOf_zero]
    have h1 := put_new tbl env c c hg.1 hg.2.2.2.1 (by rw [e]; exact setValue_copy tbl c hg hraw) rfl
      (hfresh c (by simp))
    simp only [List.map_cons, List.nodup_cons] at hnd
    obtain ⟨env', hrun, hnodes, hsrc, hun⟩ := ih
      { env with parents := regStackOf env.parents c.indent c.name, nodes := env.nodes ++ [c] }
      (fun x hx => hok x (by simp [hx])) hnd.2
      (by
        intro x hx t ht
        simp only [List.mem_append, List.mem_singleton] at ht
        rcases ht with ht | rfl
        · exact hfresh x (by simp [hx]) t ht
        · intro e
          exact hnd.1 (by rw [e]; exact List.mem_map_of_mem hx))
    refine ⟨env', ?_, by rw [hnodes]; simp, hsrc, hun⟩
    rw [Util.foldlM_cons_ok h1]
    exact hrun

/-- the import line `pre {source?q}` (or `{source?q}` when `pre = []`) written at indent `i` -/
def impAt (i : Nat) (pre : List Str) (source : Option Str) (q : SQuery) : Node :=
  { impLine pre source q with indent := i }

/-- the hierarchy puts every node imported by the line `pre {…}` written at indent `i` below
    `dest`: the chain of parents of that line, then `pre`, then the node's re-rooted name, is
    `dest` followed by that name (the left side is `regNameOf ps i (impName pre nm)` written out) -/
def ImpPathOK (ps : List (Nat × Str)) (i : Nat) (pre dest : List Str) : Prop :=
  ∀ nm, joinDot (((i, impName pre nm) :: popParents i ps).reverse.map Prod.snd) = impName dest nm

/-- An import line with written prefix `pre` at indent `i` against the specification's import to `dest` (`hpath`: the
    parents of the line, then `pre`, are `dest`).  The root line `conc` writes is the case `i = 0`, `pre = dest`. -/
theorem refine_imp_at (tbl : UnitTable) (env : Env) (hinv : Inv tbl env) (i : Nat) (pre dest : List Str)
    (source : Option Str) (q : SQuery) (s' : SEnv)
    (hfrag : InFrag (absEnv env) (.imp dest source q)) (hpre : '{' ∉ joinDot pre)
    (hpath : ImpPathOK env.parents i pre dest)
    (h : sStep tbl (absEnv env) (.imp dest source q) = .ok s') :
    ∃ env', step tbl env (.node (impAt i pre source q)) = .ok env' ∧ absEnv env' = s' ∧ Inv tbl env' := by
  obtain ⟨hws, hd, _, hb2, hq, hsel⟩ := hfrag
  simp only [sStep] at h
  cases hl : sLookup (absEnv env) source with
  | none => simp [hl] at h
  | some ss =>
    have hne := hsel ss hl
    obtain ⟨ns, hrq, hss, hgood⟩ := request_abs tbl (nodeInv_good tbl) env hinv source hws q hq ss hl .any
    have hselabs := import_sel_at q hq dest hd (popParents i env.parents) (impAt i pre source q)
      (fun nm => by
        rw [show importName (impAt i pre source q).name nm = impName pre nm from
          importName_impLine pre _ nm hpre hb2]
        exact hpath nm) ns
    rw [← hss] at hselabs
    have hemp : ((select q ss).map (sReroot dest q)).isEmpty = false := by
      simpa [List.isEmpty_iff] using hne
    simp only [hl, hemp, Bool.false_eq_true, if_false] at h
    cases hall : sImportAll tbl (absEnv env).nodes ((select q ss).map (sReroot dest q)) with
    | none => simp [hall] at h
    | some ss' =>
      simp only [hall, Except.ok.injEq] at h
      have hqs : (query ns (toQuery q)).isEmpty = false := by simpa [← hselabs] using hemp
      have himp := importNodes_eq env (impAt i pre source q) _ _ rfl hrq
      rw [hqs] at himp
      rw [← hselabs] at hall
      obtain ⟨env', hrun, habs, hg', hsrcs, hunits, hsu⟩ :=
        import_all_at tbl i (popParents i env.parents) _ env rfl hinv.1
          (copies_ok tbl _ (impAt i pre source q) (toQuery q) ns hgood) ss' hall
      refine ⟨env', ?_, ?_, ⟨hg', by rw [hsrcs]; exact hinv.2⟩⟩
      · have hk : (impAt i pre source q).kw = .imp := rfl
        simp only [step, hk, if_true, himp]
        exact hrun
      · rw [← h]
        simp only [absEnv, habs, hsrcs, hunits, hsu]

theorem imp_empty_rejected (tbl : UnitTable) (env : Env) (hinv : Inv tbl env) (i : Nat) (pre : List Str)
    (source : Option Str) (q : SQuery) (hws : WFSource source) (hq : WFQ q) (ss : List SNode)
    (hl : sLookup (absEnv env) source = some ss) (hsel : select q ss = []) :
    ∃ e, step tbl env (.node (impAt i pre source q)) = .error e := by
  obtain ⟨ns, hrq, hss, _⟩ := request_abs tbl (nodeInv_good tbl) env hinv source hws q hq ss hl .any
  have hq0 : query ns (toQuery q) = [] :=
    List.eq_nil_of_length_eq_zero (by rw [query_length_abs q hq ns, ← hss, hsel]; rfl)
  have himp := importNodes_eq env (impAt i pre source q) _ _ rfl hrq
  rw [hq0] at himp
  have hk : (impAt i pre source q).kw = .imp := rfl
  exact ⟨"import: no nodes", by simp [step, hk, himp]⟩

theorem joinDot_snoc (a : List Str) (x : Str) : joinDot (a ++ [x]) = impName a x := by
  cases a with
  | nil => rfl
  | cons d ds =>
    have := joinDot_append (d :: ds) [x] (by simp) (by simp)
    simpa [impName, joinDot_singleton] using this

theorem impPathOK_parents (ps : List (Nat × Str)) (i : Nat) (pre : List Str) :
    ImpPathOK ps i pre (((popParents i ps).reverse.map Prod.snd) ++ pre) := by
  intro nm
  simp only [List.reverse_cons, List.map_append, List.map_cons, List.map_nil]
  generalize (popParents i ps).reverse.map Prod.snd = base
  rw [joinDot_snoc]
  cases pre with
  | nil => simp [impName]
  | cons p pt =>
    cases base with
    | nil => simp [impName]
    | cons d ds =>
      have h1 := joinDot_append (d :: ds) (p :: pt) (by simp) (by simp)
      simp only [impName, List.cons_append] at h1 ⊢
      rw [h1]
      simp

/-- the destination path of an import line `pre {…}` at indent `i`; joined and split again at
    the dots because a group line may itself carry a dotted name -/
def impDest (ps : List (Nat × Str)) (i : Nat) (pre : List Str) : List Str :=
  match (popParents i ps).reverse.map Prod.snd ++ pre with
  | [] => []
  | d :: ds => splitDot (joinDot (d :: ds))

theorem impDest_ok (ps : List (Nat × Str)) (i : Nat) (pre : List Str) :
    ImpPathOK ps i pre (impDest ps i pre) ∧ WFDest (impDest ps i pre) := by
  have h0 := impPathOK_parents ps i pre
  unfold impDest
  cases hL : (popParents i ps).reverse.map Prod.snd ++ pre with
  | nil =>
    rw [hL] at h0
    exact ⟨h0, by simp [WFDest]⟩
  | cons d ds =>
    rw [hL] at h0
    simp only
    have hwf := wf_splitDot (joinDot (d :: ds))
    refine ⟨?_, hwf.2⟩
    intro nm
    rw [h0 nm]
    cases hsd : splitDot (joinDot (d :: ds)) with
    | nil => exact absurd hsd hwf.1
    | cons e es =>
      show joinDot (d :: ds) ++ '.' :: nm = joinDot (e :: es) ++ '.' :: nm
      rw [← hsd, joinDot_splitDot]

end SciVerif.C17
