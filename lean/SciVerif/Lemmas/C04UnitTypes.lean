import SciVerif.Lemmas.C04
import SciVerif.Model.C05
import SciVerif.Generated.C05Tables

/-! The classes that stand before `StandardUnitType` in `UNIT_TYPES`: they decline on units
    outside their process lists, and the regenerated list names them in the order temperature,
    logarithmic, standard. -/
namespace SciVerif.C04
open SciVerif.C05

variable {K : Type} [Add K] [Mul K] [LogOps K]

theorem temperature_declines {T : Tables} {b1 b2 : BU K} (h : touches T.tempProcess b1 b2 = false) :
    (temperature T : Rule K) b1 b2 = .decline := by
  simp only [temperature, h, Bool.false_eq_true, if_false]

theorem logarithmic_declines [Div K] {T : Tables} {b1 b2 : BU K}
    (h : touches T.logProcess b1 b2 = false) : (logarithmic T : Rule K) b1 b2 = .decline := by
  simp only [logarithmic, h, Bool.false_eq_true, if_false]

theorem unitTypes_gen [Div K] [One K] :
    (unitTypes Gen.tables : List (Rule K)) =
      [temperature Gen.tables, logarithmic Gen.tables, standard] := by
  simp [unitTypes, Gen.tables, Gen.unitTypes, ruleOf]

end SciVerif.C04
