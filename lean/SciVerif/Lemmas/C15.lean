import SciVerif.Model.C15

/-! The functions of the C15 machine one by one.  Both stacks are closed by indentation, so every fact
    is stated relative to what lies below an indent `k` (`Below`, `BelowP`); a clause line is described
    totally in each of the two situations it can find at its indent (`step_clause_new`,
    `step_clause_found`). -/
namespace SciVerif.C15

theorem run_cons_ok {s s1 s2 : St} {l : Line} {ls : List Line} {o1 o2 : List Eff}
    (h1 : step s l = .ok (s1, o1)) (h2 : run s1 ls = .ok (s2, o2)) :
    run s (l :: ls) = .ok (s2, o1 ++ o2) := by
  simp only [run, h1, h2]

theorem run_append (s : St) (l1 l2 : List Line) :
    run s (l1 ++ l2) = (run s l1).bind fun r1 => (run r1.1 l2).map fun r2 => (r2.1, r1.2 ++ r2.2) := by
  -- branches of `run`: no line; the step fails; the rest fails; both succeed
  fun_induction run s l1 with
  | case1 s => show run s l2 = (run s l2).map _; cases run s l2 <;> rfl
  | case2 s l ls e h => simp only [List.cons_append, run, h]; rfl
  | case3 s l ls s1 o1 h e hr ih => simp only [List.cons_append, run, h, ih, hr]; rfl
  | case4 s l ls s1 o1 h s2 o2 hr ih =>
    simp only [List.cons_append, run, h, ih, hr, Except.bind]
    cases run s2 l2 with
    | error e => rfl
    | ok r3 => exact congrArg (fun o => Except.ok (r3.1, o)) (List.append_assoc ..).symm

theorem run_append_ok {s s1 s2 : St} {l1 l2 : List Line} {o1 o2 : List Eff}
    (h1 : run s l1 = .ok (s1, o1)) (h2 : run s1 l2 = .ok (s2, o2)) :
    run s (l1 ++ l2) = .ok (s2, o1 ++ o2) := by
  rw [run_append, h1]
  exact congrArg (Except.map _) h2

theorem run_append_error {s : St} {l1 l2 : List Line} (h1 : run s l1 = .error ()) :
    run s (l1 ++ l2) = .error () := by
  rw [run_append, h1]
  rfl

theorem run_append_ok_error {s s1 : St} {l1 l2 : List Line} {o1 : List Eff}
    (h1 : run s l1 = .ok (s1, o1)) (h2 : run s1 l2 = .error ()) :
    run s (l1 ++ l2) = .error () := by
  rw [run_append, h1]
  exact congrArg (Except.map _) h2

/-- Only the top is constrained: the loops `closeGE` / `popGE` stop at the first entry indented less
    than `k` and never look below it. -/
def Below (k : Nat) (B : List Branch) : Prop := ∀ b, B.head? = some b → b.cur.indent < k

def BelowP (k : Nat) (P : List (Nat × List Comp)) : Prop := ∀ p, P.head? = some p → p.1 < k

theorem Below.mono {k k' : Nat} {B : List Branch} (h : Below k B) (hk : k ≤ k') : Below k' B :=
  fun b hb => Nat.lt_of_lt_of_le (h b hb) hk

theorem BelowP.mono {k k' : Nat} {P : List (Nat × List Comp)} (h : BelowP k P) (hk : k ≤ k') : BelowP k' P :=
  fun b hb => Nat.lt_of_lt_of_le (h b hb) hk

theorem below_nil (k : Nat) : Below k [] := fun _ hb => by cases hb

theorem belowP_nil (k : Nat) : BelowP k [] := fun _ hb => by cases hb

theorem below_cons {k : Nat} {b : Branch} {B : List Branch} (h : b.cur.indent < k) : Below k (b :: B) := by
  intro b' hb'; cases hb'; exact h

theorem belowP_cons {k : Nat} {p : Nat × List Comp} {P : List (Nat × List Comp)} (h : p.1 < k) : BelowP k (p :: P) := by
  intro b' hb'; cases hb'; exact h

theorem closeGE_of_below {k : Nat} {B : List Branch} (h : Below k B) : closeGE k B = B := by
  cases B with
  | nil => rfl
  | cons b bs => exact if_neg (Nat.not_le.mpr (h b rfl))

theorem popGE_of_below {k : Nat} {P : List (Nat × List Comp)} (h : BelowP k P) : popGE k P = P := by
  cases P with
  | nil => rfl
  | cons b bs => exact if_neg (Nat.not_le.mpr (h b rfl))

theorem closeGE_cons_ge {k : Nat} {b : Branch} (bs : List Branch) (h : k ≤ b.cur.indent) :
    closeGE k (b :: bs) = closeGE k bs := if_pos h

theorem popGE_cons_ge {k : Nat} {p : Nat × List Comp} (ps : List (Nat × List Comp)) (h : k ≤ p.1) :
    popGE k (p :: ps) = popGE k ps := if_pos h

theorem closeGE_closeGE_le {k k' : Nat} (hk : k ≤ k') (st : List Branch) :
    closeGE k (closeGE k' st) = closeGE k st := by
  induction st with
  | nil => rfl
  | cons b bs ih =>
    by_cases h : k' ≤ b.cur.indent
    · rw [closeGE_cons_ge bs h, closeGE_cons_ge bs (Nat.le_trans hk h), ih]
    · rw [closeGE_of_below (below_cons (Nat.not_le.mp h))]

theorem popGE_popGE_le {k k' : Nat} (hk : k ≤ k') (st : List (Nat × List Comp)) :
    popGE k (popGE k' st) = popGE k st := by
  induction st with
  | nil => rfl
  | cons b bs ih =>
    by_cases h : k' ≤ b.1
    · rw [popGE_cons_ge bs h, popGE_cons_ge bs (Nat.le_trans hk h), ih]
    · rw [popGE_of_below (belowP_cons (Nat.not_le.mp h))]

theorem closeGE_mono {k k' : Nat} {st B : List Branch} (h : closeGE k' st = B) (hk : k ≤ k')
    (hb : Below k B) : closeGE k st = B := by
  rw [← closeGE_closeGE_le hk, h, closeGE_of_below hb]

theorem popGE_mono {k k' : Nat} {st P : List (Nat × List Comp)} (h : popGE k' st = P) (hk : k ≤ k')
    (hb : BelowP k P) : popGE k st = P := by
  rw [← popGE_popGE_le hk, h, popGE_of_below hb]

theorem closeGE_below (k : Nat) (st : List Branch) : Below k (closeGE k st) := by
  induction st with
  | nil => exact below_nil k
  | cons b bs ih =>
    by_cases h : k ≤ b.cur.indent
    · rw [closeGE_cons_ge bs h]; exact ih
    · rw [closeGE_of_below (below_cons (Nat.not_le.mp h))]; exact below_cons (Nat.not_le.mp h)

theorem popGE_below (k : Nat) (st : List (Nat × List Comp)) : BelowP k (popGE k st) := by
  induction st with
  | nil => exact belowP_nil k
  | cons b bs ih =>
    by_cases h : k ≤ b.1
    · rw [popGE_cons_ge bs h]; exact ih
    · rw [popGE_of_below (belowP_cons (Nat.not_le.mp h))]; exact belowP_cons (Nat.not_le.mp h)

theorem popGE_zero (ps : List (Nat × List Comp)) : popGE 0 ps = [] := by
  induction ps with
  | nil => rfl
  | cons p ps ih => rw [popGE_cons_ge ps (Nat.zero_le _), ih]

theorem popGE_top {k : Nat} {P : List (Nat × List Comp)} (c : List Comp) (hP : BelowP k P) :
    popGE k ((k, c) :: P) = P :=
  (popGE_cons_ge P (Nat.le_refl k)).trans (popGE_of_below hP)

theorem popGE_of_deeper {k k' : Nat} {ps P : List (Nat × List Comp)} (c : List Comp) (hk : k ≤ k')
    (h : popGE k' ps = (k, c) :: P) (hP : BelowP k P) : popGE k ps = P := by
  rw [← popGE_popGE_le hk, h, popGE_top c hP]

theorem closeGE_of_top {k : Nat} {st B : List Branch} {blk : Branch} (h : closeGE (k + 1) st = blk :: B)
    (hi : blk.cur.indent = k) (hb : Below k B) : closeGE k st = B := by
  rw [← closeGE_closeGE_le (Nat.le_succ k), h, closeGE_cons_ge B (Nat.le_of_eq hi.symm), closeGE_of_below hb]

theorem closeFor_closeGE (k : Nat) (path : List Comp) (st : List Branch) :
    closeFor k path st = closeFor k path (closeGE (k + 1) st) := by
  induction st with
  | nil => rfl
  | cons b bs ih =>
    by_cases hge : k + 1 ≤ b.cur.indent
    · rw [closeGE_cons_ge bs hge, ← ih, closeFor, if_neg (by omega), if_neg (by omega)]
    · rw [closeGE_of_below (below_cons (Nat.not_le.mp hge))]

theorem closeFor_of_below {k : Nat} (path : List Comp) {B : List Branch} (hb : Below k B) :
    closeFor k path B = (B, false) := by
  cases B with
  | nil => rfl
  | cons b bs => exact if_pos (hb b rfl)

theorem closeFor_cons_eq {k : Nat} (path : List Comp) {b : Branch} (bs : List Branch) (hi : b.cur.indent = k) :
    closeFor k path (b :: bs) = if b.cur.path = path then (b :: bs, true) else closeFor k path bs := by
  rw [closeFor, if_neg (by omega)]
  by_cases hp : b.cur.path = path
  · rw [if_pos ⟨hi, hp⟩, if_pos hp]
  · rw [if_neg (fun h => hp h.2), if_neg hp]

theorem closeFor_new {k : Nat} {path : List Comp} {st B : List Branch}
    (h : closeGE (k + 1) st = B) (hb : Below k B) : closeFor k path st = (B, false) := by
  rw [closeFor_closeGE, h, closeFor_of_below path hb]

theorem closeFor_same {k : Nat} {path : List Comp} {st B : List Branch} {blk : Branch}
    (h : closeGE (k + 1) st = blk :: B) (hi : blk.cur.indent = k) (hp : blk.cur.path = path) :
    closeFor k path st = (blk :: B, true) := by
  rw [closeFor_closeGE, h, closeFor_cons_eq path B hi, if_pos hp]

theorem closeFor_other {k : Nat} {path : List Comp} {st B : List Branch} {blk : Branch}
    (h : closeGE (k + 1) st = blk :: B) (hi : blk.cur.indent = k) (hp : blk.cur.path ≠ path)
    (hb : Below k B) : closeFor k path st = (B, false) := by
  rw [closeFor_closeGE, h, closeFor_cons_eq path B hi, if_neg hp, closeFor_of_below path hb]

theorem fullName_cons (p : Nat × List Comp) (P : List (Nat × List Comp)) : fullName (p :: P) = fullName P ++ p.2 := by
  simp [fullName]

theorem cleanName_append (a b : List Comp) : cleanName (a ++ b) = cleanName a ++ cleanName b :=
  List.filterMap_append

theorem cleanName_nms (l : List String) : cleanName (nms l) = l := by
  induction l with
  | nil => rfl
  | cons a t ih => exact congrArg (a :: ·) ih

theorem cleanName_fullName_cs (k n : Nat) (pfx : List String) (P : List (Nat × List Comp)) :
    cleanName (fullName ((k, nms pfx ++ [Comp.cs n]) :: P)) = cleanName (fullName P) ++ pfx := by
  rw [fullName_cons, cleanName_append, cleanName_append, cleanName_nms]
  exact congrArg (cleanName (fullName P) ++ ·) (List.append_nil pfx)

theorem cleanName_fullName_nm (k : Nat) (x : List String) (P : List (Nat × List Comp)) :
    cleanName (fullName ((k, nms x) :: P)) = cleanName (fullName P) ++ x := by
  rw [fullName_cons, cleanName_append, cleanName_nms]

theorem path_cons (k : Nat) (c : List Comp) (x : Comp) (P : List (Nat × List Comp)) :
    (fullName ((k, c ++ [x]) :: P)).dropLast = fullName P ++ c := by
  rw [fullName_cons, ← List.append_assoc, List.dropLast_concat]

theorem nms_inj {a b : List String} (h : nms a = nms b) : a = b := by
  rw [← cleanName_nms a, h, cleanName_nms]

theorem path_ne {P : List (Nat × List Comp)} {a b : List String} (h : a ≠ b) :
    fullName P ++ nms a ≠ fullName P ++ nms b :=
  fun e => h (nms_inj (List.append_cancel_left e))

def anyTrue (b : Branch) : Bool := b.cur.value || b.earlier.any (fun c => c.value)

theorem falseBranch_eq (b : Branch) :
    falseBranch b = !(b.cur.value && !(b.earlier.any (fun c => c.value))) := by
  unfold falseBranch
  cases hv : b.cur.value
  · simp [hv]
  · cases ha : b.earlier.any (fun c => c.value)
    · have := List.countP_eq_zero.mpr (List.any_eq_false.mp ha)
      simp [hv, this]
    · have h0 : b.earlier.countP (fun c => c.value) ≠ 0 := fun h =>
        Bool.noConfusion (ha.symm.trans (List.any_eq_false.mpr (List.countP_eq_zero.mp h)))
      simp [hv, h0]

theorem falseCase_cons (b : Branch) (B : List Branch) : falseCase (b :: B) = (falseBranch b || falseCase B) :=
  List.any_cons

theorem falseBranch_open (i : Nat) (c : Case) : falseBranch ⟨i, c, []⟩ = !c.value := by
  rw [falseBranch_eq]
  exact congrArg (!·) (Bool.and_true _)

theorem falseBranch_switch (blk : Branch) (c : Case) :
    falseBranch { blk with cur := c, earlier := blk.cur :: blk.earlier } = !(c.value && !anyTrue blk) :=
  falseBranch_eq _

theorem anyTrue_switch (blk : Branch) (c : Case) :
    anyTrue { blk with cur := c, earlier := blk.cur :: blk.earlier } = (c.value || anyTrue blk) :=
  rfl

theorem solveCase_new {s : St} {ps : List (Nat × List Comp)} {k : Nat} {B : List Branch} (kw : Kw)
    (h : closeFor k (fullName ps).dropLast s.state = (B, false)) :
    solveCase s ps k kw = match kw with
      | .case c => .ok (St.mk ps
          (⟨s.numBranches + 1, ⟨(fullName ps).dropLast, k, c, .case, s.numCases⟩, []⟩ :: B)
          s.numCases (s.numBranches + 1))
      | _ => .error () := by
  unfold solveCase
  simp only []
  rw [h]
  cases kw <;> rfl

/-- The loop found the block `blk` of this path: the stack `solve_case` leaves (`none`: it raises). -/
theorem solveCase_found {s : St} {ps : List (Nat × List Comp)} {k : Nat} {blk : Branch} {B : List Branch}
    (kw : Kw) (h : closeFor k (fullName ps).dropLast s.state = (blk :: B, true)) :
    solveCase s ps k kw = match (match kw, blk.cur.ctype with
        | .case c, .case => some ({ blk with cur := ⟨(fullName ps).dropLast, k, c, .case, s.numCases⟩,
                                             earlier := blk.cur :: blk.earlier } :: B)
        | .els, .case => some ({ blk with cur := ⟨(fullName ps).dropLast, k, true, .els, s.numCases⟩,
                                          earlier := blk.cur :: blk.earlier } :: B)
        | .fin, _ => some B
        | _, _ => none) with
      | some st => .ok { s with parents := ps, state := st }
      | none => .error () := by
  unfold solveCase
  simp only []
  rw [h]
  cases ht : blk.cur.ctype <;> simp only [topIsElse, ht] <;> cases kw <;> rfl

/-- The keywords of a clause line: `@case`, `@else`, `@end`. -/
inductive Kw.IsClause : Kw → Prop
  | case c : IsClause (.case c)
  | els : IsClause .els
  | fin : IsClause .fin

theorem step_clause (s : St) (k : Nat) (x : List String) (kw : Kw) :
    kw.IsClause → step s ⟨k, x, kw⟩ =
      match solveCase { s with numCases := s.numCases + 1 }
          (register s.parents k (nms x ++ [.cs (s.numCases + 1)])) k
          (match kw with
            | .case c => .case (c && !falseCase (closeGE k s.state))
            | kw => kw) with
      | .ok s' => .ok (s', [])
      | .error e => .error e := by
  rintro ⟨⟩ <;> rfl

/-! The steps in the situations that rendered programs produce: after the line, `B` is what is left
    of the stack of open branches and `P` of the hierarchy below indent `k`. -/

theorem step_group {s : St} {k : Nat} {x : List String} {B : List Branch} {P : List (Nat × List Comp)}
    (hB : closeGE k s.state = B) (hP : popGE k s.parents = P) :
    step s ⟨k, x, .group⟩ = .ok ({ s with parents := (k, nms x) :: P, state := B }, []) := by
  subst hB hP; rfl

theorem step_node {s : St} {k : Nat} {x : List String} {m : Bool} {v : Int} {B : List Branch}
    {P : List (Nat × List Comp)} (hB : closeGE k s.state = B) (hP : popGE k s.parents = P) :
    step s ⟨k, x, .node m v⟩ = .ok ({ s with parents := (k, nms x) :: P, state := B },
      if falseCase B then [] else [.node (cleanName (fullName P) ++ x) m v]) := by
  have hb : closeGE k B = B := hB ▸ closeGE_of_below (closeGE_below k s.state)
  have hn := cleanName_fullName_nm k x P
  subst hB hP
  unfold step
  simp only []
  cases falseCase (closeGE k s.state)
  · simp only [register, hb, hn, Bool.false_eq_true, if_false]
  · rfl

theorem step_prop {s : St} {k : Nat} {x : List String} {p : PKind} {B : List Branch}
    (hB : closeGE k s.state = B) :
    step s ⟨k, x, .prop p⟩ = .ok ({ s with state := B }, if falseCase B then [] else [.prop p]) := by
  subst hB; rfl

theorem step_unit {s : St} {k : Nat} {x : List String} {b : Bool} {B : List Branch}
    (hB : closeGE k s.state = B) :
    step s ⟨k, x, .unit b⟩ = .ok ({ s with state := B }, if falseCase B || !b then [] else [.fail]) := by
  subst hB; rfl

theorem step_imp {s : St} {k : Nat} {x : List String} {nd : Option String} {B : List Branch}
    {P : List (Nat × List Comp)} (hB : closeGE k s.state = B) (hP : popGE k s.parents = P) :
    step s ⟨k, x, .imp nd⟩ = .ok ({ s with parents := (k, [.nm "{import}"]) :: P, state := B },
      if falseCase B then [] else [.imp (cleanName (fullName P)) x nd]) := by
  subst hB hP; rfl

/-- The path `solve_case` computes for a clause line `x.@n` at indent `k`. -/
theorem path_register (ps : List (Nat × List Comp)) (k n : Nat) (x : List String) :
    (fullName (register ps k (nms x ++ [.cs n]))).dropLast = fullName (popGE k ps) ++ nms x :=
  path_cons k (nms x) (.cs n) (popGE k ps)

/-- No block of this path is open at indent `k`. -/
theorem step_clause_new {s : St} {k : Nat} {x : List String} {kw : Kw}
    (hkw : kw.IsClause) {B : List Branch} {P : List (Nat × List Comp)}
    (hB : closeFor k (fullName P ++ nms x) s.state = (B, false)) (hB' : closeGE k s.state = B)
    (hP : popGE k s.parents = P) :
    step s ⟨k, x, kw⟩ = match kw with
      | .case c => .ok (St.mk ((k, nms x ++ [.cs (s.numCases + 1)]) :: P)
          (⟨s.numBranches + 1, ⟨fullName P ++ nms x, k, c && !falseCase B, .case, s.numCases + 1⟩, []⟩ :: B)
          (s.numCases + 1) (s.numBranches + 1), [])
      | _ => .error () := by
  subst hB' hP
  rw [← path_register s.parents k (s.numCases + 1) x] at hB ⊢
  rw [step_clause s k x kw hkw, solveCase_new (s := { s with numCases := s.numCases + 1 }) _ hB]
  cases hkw <;> rfl

/-- The block `blk` of this path is open at indent `k`: the stack the line leaves (`none`: it is refused). -/
theorem step_clause_found {s : St} {k : Nat} {x : List String} {kw : Kw}
    (hkw : kw.IsClause) {B : List Branch} {blk : Branch}
    {P : List (Nat × List Comp)} (hB : closeGE (k + 1) s.state = blk :: B) (hb : Below k B)
    (hi : blk.cur.indent = k) (hpath : blk.cur.path = fullName P ++ nms x) (hP : popGE k s.parents = P) :
    step s ⟨k, x, kw⟩ = match (match kw, blk.cur.ctype with
        | .case c, .case => some ({ blk with cur := ⟨fullName P ++ nms x, k, c && !falseCase B, .case, s.numCases + 1⟩,
                                             earlier := blk.cur :: blk.earlier } :: B)
        | .els, .case => some ({ blk with cur := ⟨fullName P ++ nms x, k, true, .els, s.numCases + 1⟩,
                                          earlier := blk.cur :: blk.earlier } :: B)
        | .fin, _ => some B
        | _, _ => none) with
      | some st => .ok (St.mk ((k, nms x ++ [.cs (s.numCases + 1)]) :: P) st (s.numCases + 1) s.numBranches, [])
      | none => .error () := by
  have hB' : closeGE k s.state = B := closeGE_of_top hB hi hb
  subst hB' hP
  rw [← path_register s.parents k (s.numCases + 1) x] at hpath ⊢
  rw [step_clause s k x kw hkw,
    solveCase_found (s := { s with numCases := s.numCases + 1 }) _ (closeFor_same hB hi hpath)]
  cases blk.cur.ctype <;> cases hkw <;> rfl

end SciVerif.C15
