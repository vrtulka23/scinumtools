import SciVerif.Model.C13Core
import SciVerif.Lemmas.Util.MapM
/-!
Lemmas for C14: what `BaseNode.modify_value` stores (`assignedValue`, `modify_ok`; chains of modifications,
`modifyAll`), the lookup by path (`updateFirst_char`), and one iteration of the main loop as a stack step and an
entries step (`stepPlain_eq`, `entriesStep_value_ok`).
-/
namespace SciVerif.C13
open SciVerif.Util

/-- The value a successful modification stores: a function of the *static* attributes of the
    defined node (type, dimension, unit) and of the modifying line only — not of the old value. -/
def assignedValue (P : Params) (ty : Ty) (dims : Option (List Dim)) (u0 : Option Str) (nd : Node) : R Val :=
  match nd.raw with
  | some (.text s) => do
      let v ← P.castText ty dims s
      if v = .none then .ok .none else convertVal P ty u0 nd.units v
  | _ => .error .fail

theorem modify_ok {P : Params} {e e' : ENode} {nd : Node} (h : modify P e nd = .ok e') :
    ∃ v, assignedValue P e.ty e.dims e.units nd = .ok v ∧ e' = { e with value := some v } ∧
      (∀ t, kindTy nd.kind = some t → t = e.ty) := by
  revert h
  -- cases of `modify`: type mismatch; no raw value (2); cells; a text (the only one that can succeed)
  fun_cases modify P e nd <;> intro h
  case case5 hb s hr =>
    have hty' : ∀ t, kindTy nd.kind = some t → t = e.ty := by
      intro t ht
      simp only [tyMismatch, ht] at hb
      simpa using hb
    obtain ⟨v, hc, h⟩ := bind_eq_ok h
    split at h
    · rename_i hv
      cases h
      exact ⟨.none, by simp [assignedValue, hr, hc, hv, bind, Except.bind], rfl, hty'⟩
    · rename_i hv
      obtain ⟨v', hcv, h⟩ := bind_eq_ok h
      cases h
      exact ⟨v', by simp [assignedValue, hr, hc, hv, hcv, bind, Except.bind], rfl, hty'⟩
  all_goals cases h
def modifyAll (P : Params) : ENode → List Node → R ENode
  | e, [] => .ok e
  | e, m :: t => do
      let e' ← modify P e m
      modifyAll P e' t

theorem modifyAll_static {P : Params} : ∀ (ms : List Node) (e e' : ENode), modifyAll P e ms = .ok e' →
    e'.name = e.name ∧ e'.ty = e.ty ∧ e'.info = e.info ∧ e'.dims = e.dims ∧ e'.units = e.units ∧
    e'.declared = e.declared ∧ e'.constant = e.constant := by
  intro ms
  induction ms with
  | nil => intro e e' h; simp only [modifyAll, Except.ok.injEq] at h; subst h; simp
  | cons m t ih =>
    intro e e' h
    obtain ⟨e1, hm, h⟩ := bind_eq_ok h
    obtain ⟨v, _, he1, _⟩ := modify_ok hm
    have := ih e1 e' h
    rw [he1] at this
    simpa using this

theorem modifyAll_append {P : Params} : ∀ (ms : List Node) (m : Node) (e : ENode),
    modifyAll P e (ms ++ [m]) = (modifyAll P e ms).bind (fun e1 => modify P e1 m) := by
  intro ms
  induction ms with
  | nil =>
    intro m e
    simp only [List.nil_append, modifyAll, bind, Except.bind]
    cases modify P e m <;> rfl
  | cons a t ih =>
    intro m e
    simp only [List.cons_append, modifyAll, bind, Except.bind]
    cases modify P e a with
    | error x => rfl
    | ok e1 => exact ih m e1

theorem updateFirst_none {P : Params} {path : Str} {nd : Node} :
    ∀ (ns : List ENode), updateFirst P path nd ns = none ↔ ∀ e ∈ ns, e.name ≠ path := by
  intro ns
  induction ns with
  | nil => simp [updateFirst]
  | cons e t ih =>
    by_cases h : e.name = path
    · simp [updateFirst, h]
    · simp [updateFirst, h, ih]

theorem updateFirst_char (P : Params) (path : Str) (nd : Node) (ns : List ENode) :
    ((∀ e ∈ ns, e.name ≠ path) ∧ updateFirst P path nd ns = none) ∨
    ∃ pre e post, ns = pre ++ e :: post ∧ e.name = path ∧ (∀ x ∈ pre, x.name ≠ path) ∧
      updateFirst P path nd ns =
        some ((if e.constant then .error .fail else modify P e nd).map fun e' => pre ++ e' :: post) := by
  fun_induction updateFirst P path nd ns with
  | case1 => exact .inl ⟨fun _ h => (nomatch h), rfl⟩
  | case2 a t h => exact .inr ⟨[], a, t, rfl, h, fun _ h => (nomatch h), by split <;> rfl⟩
  | case3 a t h ih =>
    rcases ih with ⟨hno, hu⟩ | ⟨pre, e, post, ht, he, hpre, hu⟩
    · exact .inl ⟨List.forall_mem_cons.mpr ⟨h, hno⟩, by rw [hu, Option.map_none]⟩
    · refine .inr ⟨a :: pre, e, post, by rw [ht, List.cons_append], he,
        List.forall_mem_cons.mpr ⟨h, hpre⟩, ?_⟩
      rw [hu, Option.map_some]
      cases (if e.constant = true then Except.error Err.fail else modify P e nd) <;> rfl
theorem updateFirst_constant {P : Params} {path : Str} {nd : Node} (ns : List ENode) (e : ENode) (he : e ∈ ns)
    (hn : e.name = path) (hc : e.constant = true) (huniq : ∀ e2 ∈ ns, e2.name = path → e2 = e) :
    updateFirst P path nd ns = some (.error .fail) := by
  rcases updateFirst_char P path nd ns with ⟨hno, _⟩ | ⟨pre, e', post, hns, he', _, hu⟩
  · exact absurd hn (hno e he)
  · have : e' = e := huniq e' (by rw [hns]; simp) he'
    rw [hu, this, if_pos hc]; rfl

theorem updateFirst_ok {P : Params} {path : Str} {nd : Node} (ns ns' : List ENode)
    (h : updateFirst P path nd ns = some (.ok ns')) :
    ∃ pre e e' post, ns = pre ++ e :: post ∧ ns' = pre ++ e' :: post ∧ e.name = path ∧
      e.constant = false ∧ (∀ x ∈ pre, x.name ≠ path) ∧ modify P e nd = .ok e' := by
  rcases updateFirst_char P path nd ns with ⟨_, hu⟩ | ⟨pre, e, post, hns, he, hpre, hu⟩
  · rw [hu] at h; cases h
  · rw [hu] at h
    obtain ⟨e', hm, rfl⟩ := map_eq_ok (Option.some.inj h)
    split at hm
    · cases hm
    · rename_i hc; exact ⟨pre, e, e', post, hns, rfl, he, by simpa using hc, hpre, hm⟩

theorem modify_name (P : Params) (e e' : ENode) (nd : Node) (h : modify P e nd = .ok e') : e'.name = e.name := by
  obtain ⟨v, _, he, _⟩ := modify_ok h
  rw [he]

/-- the entry appended for the first occurrence of a path -/
def newEntry (path : Str) (t : Ty) (nd : Node) (v : Option Val) : ENode :=
  { name := path, ty := t, info := nd.info, dims := nd.dims, units := nd.units, value := v, declared := nd.declared }

theorem preCheck_mod (P : Params) (nd : Node) (hk : nd.kind = .mod) : preCheck P nd = .ok () := by
  unfold preCheck
  rw [hk]

/-- the parent stack after a line: a group, modification or definition with a name is registered at its
    indentation, every other line leaves the stack alone -/
def stackStep (stack : Stack) (nd : Node) : Stack :=
  match nd.kind, nd.name with
  | .group, some nm | .mod, some nm | .typed _, some nm => push stack nd.indent nm
  | _, _ => stack

/-- what a line does to the entries.  Of the stack it sees only `path`, the path of its own name; of the line's
    indentation it sees nothing. -/
def entriesStep (P : Params) (path : Str) (ns : List ENode) (nd : Node) : R (List ENode) :=
  match nd.kind with
  | .empty | .unit | .group => .ok ns
  | .table => .error .unsupported
  | .constant => setLastConstant ns
  | .mod =>
    match nd.name with
    | none => .error .fail
    | some _ =>
      match updateFirst P path nd ns with
      | some r => r
      | none => .error .fail
  | .typed t =>
    match nd.name with
    | none => .error .fail
    | some _ => (preCheck P nd).bind fun _ =>
      match updateFirst P path nd ns with
      | some r => (initValue P t nd.dims nd.raw).bind fun _ => r
      | none => (initValue P t nd.dims nd.raw).map fun v => ns ++ [newEntry path t nd v]

/-- `entriesStep` on a named modification line and on a named typed line: the branch of the definition, as an equation -/
theorem entriesStep_mod {P : Params} {path : Str} {ns : List ENode} {nd : Node} {nm : Str} (hk : nd.kind = .mod)
    (hn : nd.name = some nm) :
    entriesStep P path ns nd = match updateFirst P path nd ns with | some r => r | none => .error .fail := by
  simp only [entriesStep, hk, hn]

theorem entriesStep_typed {P : Params} {path : Str} {ns : List ENode} {nd : Node} {nm : Str} {t : Ty}
    (hk : nd.kind = .typed t) (hn : nd.name = some nm) :
    entriesStep P path ns nd = (preCheck P nd).bind fun _ =>
      match updateFirst P path nd ns with
      | some r => (initValue P t nd.dims nd.raw).bind fun _ => r
      | none => (initValue P t nd.dims nd.raw).map fun v => ns ++ [newEntry path t nd v] := by
  simp only [entriesStep, hk, hn]

/-- One iteration of the main loop is two steps that do not see each other: the stack step, which cannot fail, and
    the entries step under the path the new stack gives.  The order inside the entries step is the loop's: the line's
    own unit check, its own `set_value()`, then the lookup by path. -/
theorem stepPlain_eq (P : Params) (st : State) (nd : Node) :
    stepPlain P st nd = (entriesStep P (pathOf (stackStep st.stack nd)) st.nodes nd).map
      (fun ns => { stack := stackStep st.stack nd, nodes := ns }) := by
  unfold stepPlain entriesStep stackStep
  cases hk : nd.kind with
  | empty => rfl
  | unit => rfl
  | table => rfl
  | constant => rfl
  | group => cases nd.name <;> rfl
  | mod =>
    cases nd.name with
    | none => rfl
    | some nm =>
      simp only [preCheck_mod P nd hk, bind, Except.bind]
      cases updateFirst P (pathOf (push st.stack nd.indent nm)) nd st.nodes with
      | none => rfl
      | some r => cases r <;> rfl
  | typed t =>
    cases nd.name with
    | none => rfl
    | some nm =>
      simp only [bind, Except.bind]
      cases preCheck P nd with
      | error e => rfl
      | ok u =>
        simp only
        cases updateFirst P (pathOf (push st.stack nd.indent nm)) nd st.nodes with
        | none => simp only; cases initValue P t nd.dims nd.raw <;> rfl
        | some r =>
          simp only
          cases initValue P t nd.dims nd.raw with
          | error e => rfl
          | ok v => cases r <;> rfl

theorem stackStep_value (stack : Stack) (nd : Node) (nm : Str) (hk : nd.kind = .mod ∨ ∃ t, nd.kind = .typed t)
    (hn : nd.name = some nm) : stackStep stack nd = push stack nd.indent nm := by
  rcases hk with hk | ⟨t, hk⟩ <;> simp only [stackStep, hk, hn]

/-- a successful step on a modification or definition line replaces the first entry with the path, or, for a
    definition of a new path, appends one -/
theorem entriesStep_value_ok (P : Params) (path : Str) (ns ns' : List ENode) (nd : Node) (nm : Str)
    (hk : nd.kind = .mod ∨ ∃ t, nd.kind = .typed t) (hn : nd.name = some nm) (h : entriesStep P path ns nd = .ok ns') :
    (∃ pre e e' post, ns = pre ++ e :: post ∧ ns' = pre ++ e' :: post ∧ e.name = path ∧ e.constant = false ∧
        (∀ x ∈ pre, x.name ≠ path) ∧ modify P e nd = .ok e') ∨
    (∃ t v, nd.kind = .typed t ∧ (∀ e ∈ ns, e.name ≠ path) ∧ initValue P t nd.dims nd.raw = .ok v ∧
        ns' = ns ++ [newEntry path t nd v]) := by
  rcases hk with hk | ⟨t, hk⟩
  · rw [entriesStep_mod hk hn] at h
    cases hu : updateFirst P path nd ns with
    | none => rw [hu] at h; cases h
    | some r => rw [hu] at h; subst h; exact .inl (updateFirst_ok _ _ hu)
  · rw [entriesStep_typed hk hn] at h
    obtain ⟨_, _, h⟩ := bind_eq_ok h
    cases hu : updateFirst P path nd ns with
    | some r =>
      rw [hu] at h
      obtain ⟨_, _, h⟩ := bind_eq_ok h
      subst h; exact .inl (updateFirst_ok _ _ hu)
    | none =>
      rw [hu] at h
      obtain ⟨v, hi, rfl⟩ := map_eq_ok h
      exact .inr ⟨t, v, hk, (updateFirst_none ns).mp hu, hi, rfl⟩

/-- `entriesStep_value_ok` at the level of states: the stack gets the line's name, the entries are replaced or appended -/
theorem stepPlain_value_ok (P : Params) (st st' : State) (nd : Node) (nm : Str)
    (hk : nd.kind = .mod ∨ ∃ t, nd.kind = .typed t) (hn : nd.name = some nm) (h : stepPlain P st nd = .ok st') :
    st'.stack = push st.stack nd.indent nm ∧
    ((∃ pre e e' post, st.nodes = pre ++ e :: post ∧ st'.nodes = pre ++ e' :: post ∧
        e.name = pathOf (push st.stack nd.indent nm) ∧ e.constant = false ∧
        (∀ x ∈ pre, x.name ≠ pathOf (push st.stack nd.indent nm)) ∧ modify P e nd = .ok e') ∨
     (∃ t v, nd.kind = .typed t ∧ (∀ e ∈ st.nodes, e.name ≠ pathOf (push st.stack nd.indent nm)) ∧
        initValue P t nd.dims nd.raw = .ok v ∧
        st'.nodes = st.nodes ++ [newEntry (pathOf (push st.stack nd.indent nm)) t nd v])) := by
  rw [stepPlain_eq, stackStep_value st.stack nd nm hk hn] at h
  obtain ⟨ns', h1, rfl⟩ := map_eq_ok h
  exact ⟨rfl, entriesStep_value_ok P _ _ _ nd nm hk hn h1⟩

end SciVerif.C13
