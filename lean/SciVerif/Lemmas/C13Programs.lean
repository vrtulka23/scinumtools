import SciVerif.Lemmas.C13OneLine
import SciVerif.Lemmas.C14Refine
/-!
What the theorems about whole programs at text level (`Props/C13.lean`) are put together from: the abstract line a
described line denotes (`LineD.aline`), the lexer round trip for every list of described lines, lines lexed to an
`EmptyNode` do not matter (`parseLines_empty`), a queue without `"""` is left as it is, stripping blank lines.
-/
namespace SciVerif.C13
open SciVerif.Util

/-- the abstract line `(indent, name, payload)` a described line denotes -/
def LineD.aline (k : Nat) : LineD → ALine Raw
  | .group nm _ => { indent := k, name := nm, p := .group }
  | .modify nm _ _ v => { indent := k, name := nm, p := .mod (v.unit.map Prod.snd) (.text (decode v.lit.text)) }
  | .define nm _ ty dims _ _ v =>
      { indent := k, name := nm,
        p := .typed ty.ty ty.info (dimsValue dims) (v.unit.map Prod.snd) (some (.text (decode v.lit.text))) }
  | .declare nm _ ty dims unit _ =>
      { indent := k, name := nm, p := .typed ty.ty ty.info (dimsValue dims) (unit.map Prod.snd) none }

theorem toALine_lineD (k : Nat) (d : LineD) : toALine { d.node with indent := k } = d.aline k := by
  cases d <;> rfl

theorem lineD_not_table (k : Nat) (d : LineD) : ({ d.node with indent := k } : Node).kind ≠ .table := by
  cases d <;> simp [LineD.node]

theorem mapM_determine_program (prog : List (Nat × LineD)) (h : ∀ p ∈ prog, p.2.Ok ∧ NoEsc p.2.render) :
    (prog.map (fun p => List.replicate p.1 ' ' ++ p.2.render)).mapM determine =
      .ok (prog.map (fun p => ({ p.2.node with indent := p.1 } : Node))) :=
  mapM_ok_map determine _ _ prog (fun p hp => determine_render p.1 p.2 (h p hp).1 (h p hp).2)

theorem parseLines_empty (P : Params) (a b : List Str) (l : Str) (hd : determine l = .ok { kind := .empty }) :
    parseLines P (a ++ l :: b) = parseLines P (a ++ b) := by
  simp only [parseLines, List.mapM_append, List.mapM_cons, hd, bind, Except.bind, pure, Except.pure]
  cases a.mapM determine with
  | error x => rfl
  | ok na =>
    simp only
    cases b.mapM determine with
    | error x => rfl
    | ok nb =>
      simp only [parseNodes, bind, Except.bind]
      rw [runNodes_empty P na nb {} { kind := .empty } rfl]

theorem parseLines_empties (P : Params) (a b : List Str) : ∀ ls : List Str,
    (∀ l ∈ ls, determine l = .ok { kind := .empty }) → parseLines P (a ++ (ls ++ b)) = parseLines P (a ++ b)
  | [], _ => rfl
  | l :: t, h => by
    rw [List.cons_append, parseLines_empty P a (t ++ b) l (h l (by simp))]
    exact parseLines_empties P a b t (fun x hx => h x (List.mem_cons_of_mem _ hx))

theorem getQueue_noTriple : ∀ ls : List Str, (∀ l ∈ ls, hasTriple l = false) → getQueue ls = .ok ls
  | [], _ => by rw [getQueue]
  | l :: t, h => by
    rw [getQueue_plain l t (h l (by simp)), getQueue_noTriple t (fun x hx => h x (List.mem_cons_of_mem _ hx))]
    rfl

theorem isBlank_encode (l : Str) (hb : isBlank l = true) (hnl : ∀ c ∈ l, c ≠ '\n') : isBlank (encode l) = true := by
  have hne : NoEsc l := fun c hc => ⟨by
    intro e
    have := (List.all_eq_true.mp hb) c hc
    rw [e] at this
    exact absurd this (by decide), hnl c hc⟩
  rw [encode_noEsc l hne]
  exact hb

theorem strip_decomp (ls : List Str) :
    ∃ pre post, ls = pre ++ stripBlankLines ls ++ post ∧ (∀ l ∈ pre, isBlank l = true) ∧ (∀ l ∈ post, isBlank l = true) := by
  refine ⟨ls.takeWhile isBlank, ((ls.dropWhile isBlank).reverse.takeWhile isBlank).reverse, ?_, ?_, ?_⟩
  · have h1 := List.takeWhile_append_dropWhile (p := isBlank) (l := ls)
    have h2 := List.takeWhile_append_dropWhile (p := isBlank) (l := (ls.dropWhile isBlank).reverse)
    have h3 : ls.dropWhile isBlank = ((ls.dropWhile isBlank).reverse.dropWhile isBlank).reverse ++
        ((ls.dropWhile isBlank).reverse.takeWhile isBlank).reverse := by
      have := congrArg List.reverse h2
      simp only [List.reverse_append, List.reverse_reverse] at this
      exact this.symm
    unfold stripBlankLines
    rw [List.append_assoc, ← h3, h1]
  · intro l hl; exact mem_takeWhile hl
  · intro l hl; exact mem_takeWhile (List.mem_reverse.mp hl)

end SciVerif.C13
