import SciVerif.Model.C18Str
import SciVerif.Lemmas.Util.Scan

/-!
The argument scanner of parenthesis-type operators (C18): depth counting, separators, closing, by
the relative depth `nest` of a text; an argument is `Stripped` (the blanks around it are dropped by
`strip`).  The scanner lemmas are in continuation form with "more fuel than text left": `ScansAt`
inside an argument, `ScansArgs` at the start of one — the form `ScansArgs.last`, `ScansArgs.cons`,
which the string level uses, are stated in.  (`blanks`, `strip`, `nest` are `SciVerif.C18`'s own, not
those of `SciVerif.C01`.)
-/
namespace SciVerif.C18

theorem blanks_succ (k : Nat) : blanks (k + 1) = ' ' :: blanks k := rfl

theorem blanks_ws (k : Nat) : ∀ x ∈ blanks k, isWs x = true :=
  fun x hx => by rw [List.eq_of_mem_replicate hx]; rfl

/-- not empty, and neither end is a blank (`Util.Trimmed isWs` admits the empty text) -/
def Stripped (c : List Char) : Prop :=
  (∃ x, c.head? = some x ∧ isWs x = false) ∧ (∃ y, c.getLast? = some y ∧ isWs y = false)

theorem Stripped.trimmed {c : List Char} (h : Stripped c) : Util.Trimmed isWs c := by
  obtain ⟨⟨x, hx, hxw⟩, ⟨y, hy, hyw⟩⟩ := h
  exact Util.trimmed_iff.2 ⟨fun _ e => by cases hx.symm.trans e; exact hxw,
    fun _ e => by cases hy.symm.trans e; exact hyw⟩

theorem strip_pad (k k' : Nat) (c : List Char) (h : Stripped c) :
    strip (blanks k ++ (c ++ blanks k')) = c := by
  rw [← List.append_assoc]
  exact Util.trim_pad (blanks_ws k) (blanks_ws k') h.trimmed

theorem strip_blanks (k : Nat) : strip (blanks k) = [] := Util.trim_of_all (blanks_ws k)

/-- relative depth after a text; `none` when the depth would go below the start or a comma
    occurs at the starting depth -/
def nest : List Char → Nat → Option Nat
  | [], k => some k
  | c :: cs, k =>
      if c = '(' then nest cs (k + 1)
      else if c = ')' then (if k = 0 then none else nest cs (k - 1))
      else if c = ',' then (if k = 0 then none else nest cs k)
      else nest cs k

theorem nest_append (u v : List Char) (k : Nat) : nest (u ++ v) k = (nest u k).bind (nest v) := by
  induction u generalizing k with
  | nil => rfl
  | cons c cs ih =>
    simp only [List.cons_append, nest, ih, apply_ite (Option.bind · (nest v)), Option.bind_none]

theorem nest_blanks (j k : Nat) : nest (blanks j) k = some k := by
  induction j with
  | zero => rfl
  | succ j ih => rw [blanks_succ]; simp [nest, ih]

theorem scan_sep_one (n : Nat) (l r : List Char) (args : List (List Char)) :
    scanArgs (n + 1) 1 l (',' :: r) args = scanArgs n 1 [] r (args ++ [strip l.reverse]) := by
  simp [scanArgs]

theorem scan_close_one (n : Nat) (l r : List Char) (args : List (List Char)) :
    scanArgs (n + 1) 1 l (')' :: r) args = some (args ++ [strip l.reverse], r) := by
  simp [scanArgs]

theorem scan_char (c : Char) (cs : List Char) (k k' n d : Nat) (l r : List Char)
    (args : List (List Char)) (h : nest (c :: cs) k = some k') (hd : 1 ≤ d) :
    ∃ k1, nest cs k1 = some k' ∧
      scanArgs (n + 1) (d + k) l (c :: r) args = scanArgs n (d + k1) (c :: l) r args := by
  rw [nest] at h
  by_cases h1 : c = '('
  · rw [if_pos h1] at h
    exact ⟨k + 1, h, by simp [scanArgs, h1]; rfl⟩
  · rw [if_neg h1] at h
    by_cases h2 : c = ')'
    · rw [if_pos h2] at h
      by_cases hk : k = 0
      · rw [if_pos hk] at h; cases h
      · rw [if_neg hk] at h
        have e1 : d + k ≠ 1 := by omega
        have e2 : d + k - 1 = d + (k - 1) := by omega
        exact ⟨k - 1, h, by simp [scanArgs, h2, e1, e2]⟩
    · rw [if_neg h2] at h
      by_cases h3 : c = ','
      · rw [if_pos h3] at h
        by_cases hk : k = 0
        · rw [if_pos hk] at h; cases h
        · rw [if_neg hk] at h
          have e1 : d + k ≠ 1 := by omega
          exact ⟨k, h, by simp [scanArgs, h3, e1]⟩
      · rw [if_neg h3] at h
        exact ⟨k, h, by simp [scanArgs, h1, h2, h3]⟩

section
variable {R : List Char}

/-- With more fuel than text left, the scanner at depth `d` on `r`, with `l` collected, goes on as `G`
    (as for the tokenisation loop, the fuel is only ever "enough"). -/
def ScansAt (d : Nat) (r : List Char)
    (G : List Char → List (List Char) → Option (List (List Char) × List Char)) : Prop :=
  ∀ m l args, r.length < m → scanArgs m d l r args = G l args

/-- `ScansAt 1` with nothing collected: the start of an argument -/
def ScansArgs (r : List Char) (H : List (List Char) → Option (List (List Char) × List Char)) : Prop :=
  ∀ m args, r.length < m → scanArgs m 1 [] r args = H args

theorem ScansAt.close : ScansAt 1 (')' :: R) fun l args => some (args ++ [strip l.reverse], R) := by
  intro m l args hm
  cases m with
  | zero => cases hm
  | succ n => exact scan_close_one n l R args

theorem ScansAt.sep {H} (hG : ScansArgs R H) :
    ScansAt 1 (',' :: R) fun l args => H (args ++ [strip l.reverse]) := by
  intro m l args hm
  cases m with
  | zero => cases hm
  | succ n => rw [scan_sep_one]; exact hG n _ (Nat.lt_of_succ_lt_succ hm)

/-- Scanning a text whose relative depth goes from `k` to `k'` without touching the start depth:
    the depth counter follows, the text is collected on the left. -/
theorem ScansAt.nest (w : List Char) : ∀ (k k' d : Nat) {G}, nest w k = some k' → 1 ≤ d →
    ScansAt (d + k') R G → ScansAt (d + k) (w ++ R) fun l args => G (w.reverse ++ l) args := by
  induction w with
  | nil => intro k k' d G h _ hG; cases h; exact hG
  | cons c cs ih =>
    intro k k' d G h hd hG m l args hm
    cases m with
    | zero => cases hm
    | succ n =>
      obtain ⟨k1, h1, e⟩ := scan_char c cs k k' n d l (cs ++ R) args h hd
      rw [List.cons_append, e, ih k1 k' d h1 hd hG n _ _ (Nat.lt_of_succ_lt_succ hm)]
      show G _ args = G _ args
      rw [List.reverse_cons, List.append_assoc]
      rfl

/-- a whole argument `w` with blanks around it, before `)` or `,` -/
theorem ScansArgs.arg (i j : Nat) {w : List Char} {c : Char}
    {H : List (List Char) → Option (List (List Char) × List Char)} (hs : Stripped w)
    (hn : nest w 0 = some 0) (hG : ScansAt 1 (c :: R) fun l args => H (args ++ [strip l.reverse])) :
    ScansArgs (blanks i ++ (w ++ (blanks j ++ c :: R))) fun args => H (args ++ [w]) := by
  intro m args hm
  have hw : nest (blanks i ++ (w ++ blanks j)) 0 = some 0 := by
    simp [nest_append, nest_blanks, hn]
  have := ScansAt.nest (blanks i ++ (w ++ blanks j)) 0 0 1 hw (Nat.le_refl 1) hG m [] args
    (by simpa using hm)
  simpa only [List.append_assoc, Nat.add_zero, List.append_nil, List.reverse_reverse,
    strip_pad i j w hs] using this

theorem ScansArgs.last (i j : Nat) {w : List Char} (hs : Stripped w) (hn : nest w 0 = some 0) :
    ScansArgs (blanks i ++ (w ++ (blanks j ++ ')' :: R))) fun args => some (args ++ [w], R) :=
  ScansArgs.arg i j (H := fun a => some (a, R)) hs hn ScansAt.close

theorem ScansArgs.cons (i j : Nat) {w : List Char} {H} (hs : Stripped w) (hn : nest w 0 = some 0)
    (hG : ScansArgs R H) :
    ScansArgs (blanks i ++ (w ++ (blanks j ++ ',' :: R))) fun args => H (args ++ [w]) :=
  ScansArgs.arg i j hs hn (ScansAt.sep hG)

end

end SciVerif.C18
