import SciVerif.Lemmas.C13Run
import SciVerif.Lemmas.C13Blocks
import SciVerif.Lemmas.C13Casts
import SciVerif.Lemmas.C13Arrays
/-!
One-line programs at TEXT level: from the definition line `name type[dims] = literal unit # c` through the lexer,
`set_value` / `cast_value` and the main loop to the node `parse` returns; and the element casts of JSON arrays
(`np.array(json value, dtype)` on integer, boolean and float tokens).
-/
namespace SciVerif.C13
open SciVerif.Util

theorem determine_define_lit (k : Nat) (nm : Str) (a : Nat) (ty : TyD) (dims : Option (List DimD)) (b c : Nat)
    (lit : Lit) (unit cm : Option (Nat × Str))
    (hn : NameOk nm) (hd : DimsOk dims) (hu : ∀ n x, unit = some (n, x) → UnitOk x)
    (htail : NoEsc (renderTail unit cm)) (hlit : lit.Ok) (hesc : NoEsc lit.render) (hs : ∀ ch ∈ lit.text, ch ≠ '$') :
    determine (List.replicate k ' ' ++ (definePrefix nm a ty dims b c ++ (lit.render ++ renderTail unit cm))) =
      .ok (blockNode k nm ty dims lit.text unit) := by
  have hr := define_render_prefix nm a ty dims b c { lit := lit, unit := unit, cm := cm }
  have h := determine_render k (.define nm a ty dims b c { lit := lit, unit := unit, cm := cm }) ⟨hn, hd, hlit, hu⟩
    (by rw [hr]; exact NoEsc_append (NoEsc_definePrefix nm a ty dims b c hn hd) (NoEsc_append hesc htail))
  rw [hr] at h
  rw [show lit.render ++ renderTail unit cm = ValD.render { lit := lit, unit := unit, cm := cm } from rfl, h]
  rw [blockNode_eq, decode_noDollar lit.text hs]

theorem bare_lit {s r : Str} {c : Char} (hsr : s = c :: r) (hc : c ≠ '{' ∧ c ≠ '(' ∧ c ≠ '"' ∧ c ≠ '\'')
    (hplain : ∀ ch ∈ s, ch ≠ '#' ∧ isWs ch = false ∧ ch ≠ '\\') : Lit.Ok (.bare s) ∧ NoEsc (Lit.render (.bare s)) := by
  refine ⟨⟨⟨c, r, hsr, hc⟩, fun ch hch => ⟨(hplain ch hch).1, (hplain ch hch).2.1⟩⟩, fun ch hch => ⟨(hplain ch hch).2.2, ?_⟩⟩
  intro he
  have := (hplain ch hch).2.1
  rw [he] at this
  exact absurd this (by decide)

theorem parseLines_single (P : Params) (line : Str) (nd : Node) (t : Ty) (nm : Str)
    (hdet : determine line = .ok nd) (hk : nd.kind = .typed t) (hn : nd.name = some nm)
    (hpre : preCheck P nd = .ok ()) :
    parseLines P [line] = (initValue P t nd.dims nd.raw).bind (fun v => validate [newEntry nm t nd v]) := by
  simp only [parseLines, List.mapM_cons, List.mapM_nil, hdet, parseNodes, runNodes, step,
    stepPlain_eq, entriesStep, stackStep, hk, hn, hpre, updateFirst, bind, Except.bind, pure, Except.pure,
    Except.map, List.nil_append]
  cases initValue P t nd.dims nd.raw <;> rfl

theorem preCheck_blockNode (tbl : List UnitRow) (k : Nat) (nm : Str) (ty : TyD) (dims : Option (List DimD)) (s : Str)
    (unit : Option (Nat × Str))
    (hunit : ∀ n x, unit = some (n, x) → (ty.ty = .int ∨ ty.ty = .float) ∧ tbl.any (fun r => r.name = x) = true) :
    preCheck (mkParams tbl) (blockNode k nm ty dims s unit) = .ok () := by
  cases unit with
  | none => cases h : ty.ty <;> simp [preCheck, blockNode, h]
  | some p =>
    obtain ⟨n, x⟩ := p
    obtain ⟨ht, hk⟩ := hunit n x rfl
    rcases ht with ht | ht <;> simp [preCheck, blockNode, ht, mkParams, hk]

/-- **A definition line, from the text to the result of `parse`**: the line
    `<k blanks>name type[dims] = literal [unit] [# comment]` is lexed to the definition node with the text of the
    literal, and the one-line program yields what `cast_value` makes of that text: one parameter with the written
    name, type, width/sign, dimension and unit, or the error of the cast. -/
theorem parseLines_define (tbl : List UnitRow) (k : Nat) (nm : Str) (a : Nat) (ty : TyD) (dims : Option (List DimD))
    (b c : Nat) (lit : Lit) (unit cm : Option (Nat × Str))
    (hn : NameOk nm) (hd : DimsOk dims) (hu : ∀ n x, unit = some (n, x) → UnitOk x) (htail : NoEsc (renderTail unit cm))
    (hunit : ∀ n x, unit = some (n, x) → (ty.ty = .int ∨ ty.ty = .float) ∧ tbl.any (fun r => r.name = x) = true)
    (hlit : lit.Ok) (hesc : NoEsc lit.render) (hs : ∀ ch ∈ lit.text, ch ≠ '$') :
    determine (List.replicate k ' ' ++ (definePrefix nm a ty dims b c ++ (lit.render ++ renderTail unit cm))) =
      .ok (blockNode k nm ty dims lit.text unit) ∧
    parseLines (mkParams tbl)
        [List.replicate k ' ' ++ (definePrefix nm a ty dims b c ++ (lit.render ++ renderTail unit cm))] =
      (initValue (mkParams tbl) ty.ty (dimsValue dims) (some (.text lit.text))).bind (fun v =>
        validate [{ name := nm, ty := ty.ty, info := ty.info, dims := dimsValue dims, units := unit.map Prod.snd,
                    value := v, declared := false }]) := by
  have hdet := determine_define_lit k nm a ty dims b c lit unit cm hn hd hu htail hlit hesc hs
  exact ⟨hdet, parseLines_single (mkParams tbl) _ _ ty.ty nm hdet rfl rfl
    (preCheck_blockNode tbl k nm ty dims lit.text unit hunit)⟩

/-- `parseLines_define` for a scalar (no dimension) whose cast succeeds with `v`: exactly one parameter, value `v`;
    `hne`: only a string may be written as the empty text -/
theorem define_scalar_text_core (tbl : List UnitRow) (k : Nat) (nm : Str) (a : Nat) (ty : TyD) (b c : Nat)
    (lit : Lit) (unit cm : Option (Nat × Str)) (v : Val)
    (hn : NameOk nm) (hu : ∀ n x, unit = some (n, x) → UnitOk x) (htail : NoEsc (renderTail unit cm))
    (hunit : ∀ n x, unit = some (n, x) → (ty.ty = .int ∨ ty.ty = .float) ∧ tbl.any (fun r => r.name = x) = true)
    (hlit : lit.Ok) (hesc : NoEsc lit.render) (hs : ∀ ch ∈ lit.text, ch ≠ '$')
    (hne : (lit.text.isEmpty && ty.ty != .str) = false) (hcast : castText ty.ty none lit.text = .ok v) :
    parseLines (mkParams tbl)
        [List.replicate k ' ' ++ (definePrefix nm a ty none b c ++ (lit.render ++ renderTail unit cm))] =
      .ok [{ name := nm, ty := ty.ty, info := ty.info, dims := none, units := unit.map Prod.snd,
             value := some v, declared := false }] := by
  rw [(parseLines_define tbl k nm a ty none b c lit unit cm hn trivial hu htail hunit hlit hesc hs).2]
  simp only [dimsValue, initValue, hne, Bool.false_eq_true, if_false, mkParams, hcast, bind, Except.bind]
  rfl

/-- A definition whose value is a bracketed text `s` without blank: (1) the lexer's node, (2) `set_value` is the cast of
    `s` under the written dimension, (3) the one-line program gives the parameter with that value, or the cast's error. -/
theorem array_text_parse (tbl : List UnitRow) (k : Nat) (nm : Str) (a : Nat) (ty : TyD) (dims : Option (List DimD))
    (b c : Nat) (s r : Str) (ds : List Dim) (unit cm : Option (Nat × Str))
    (hn : NameOk nm) (hd : DimsOk dims) (hu : ∀ n x, unit = some (n, x) → UnitOk x)
    (htail : NoEsc (renderTail unit cm))
    (hunit : ∀ n x, unit = some (n, x) → (ty.ty = .int ∨ ty.ty = .float) ∧ tbl.any (fun r => r.name = x) = true)
    (hsr : s = '[' :: r) (hplain : ∀ ch ∈ s, ch ≠ '#' ∧ isWs ch = false ∧ ch ≠ '\\' ∧ ch ≠ '$')
    (hds : dimsValue dims = some ds) :
    determine (List.replicate k ' ' ++ (definePrefix nm a ty dims b c ++ (s ++ renderTail unit cm))) =
      .ok (blockNode k nm ty dims s unit) ∧
    initValue (mkParams tbl) ty.ty (some ds) (some (.text s)) = (castText ty.ty (some ds) s).map some ∧
    parseLines (mkParams tbl) [List.replicate k ' ' ++ (definePrefix nm a ty dims b c ++ (s ++ renderTail unit cm))] =
      (castText ty.ty (some ds) s).map (fun v =>
        [{ name := nm, ty := ty.ty, info := ty.info, dims := some ds, units := unit.map Prod.snd,
           value := some v, declared := false }]) := by
  obtain ⟨hlit, hesc⟩ := bare_lit hsr (by decide) (fun ch hch => ⟨(hplain ch hch).1, (hplain ch hch).2.1, (hplain ch hch).2.2.1⟩)
  obtain ⟨hdet, hparse⟩ := parseLines_define tbl k nm a ty dims b c (.bare s) unit cm hn hd hu htail hunit hlit hesc
    (fun ch hch => (hplain ch hch).2.2.2)
  have hinit : initValue (mkParams tbl) ty.ty (some ds) (some (.text s)) = (castText ty.ty (some ds) s).map some := by
    have he : s.isEmpty = false := by rw [hsr]; rfl
    simp only [initValue, he, Bool.false_and, Bool.false_eq_true, if_false, mkParams, bind, Except.bind]
    cases castText ty.ty (some ds) s <;> rfl
  refine ⟨hdet, hinit, ?_⟩
  rw [show Lit.render (.bare s) = s from rfl] at hparse
  rw [hparse, hds, show Lit.text (.bare s) = s from rfl, hinit]
  cases castText ty.ty (some ds) s <;> rfl

/-- `array_text_parse` when `json.loads` reads `(sh, toks)`, the elements cast to `atoms` and the dimension admits `sh`:
    the same three parts with the value `.array sh atoms` -/
theorem inline_array_text_core (tbl : List UnitRow) (k : Nat) (nm : Str) (a : Nat) (ty : TyD) (dims : Option (List DimD))
    (b c : Nat) (s r : Str) (sh : List Nat) (toks : List Tok) (atoms : List Atom) (ds : List Dim)
    (unit cm : Option (Nat × Str))
    (hn : NameOk nm) (hd : DimsOk dims) (hu : ∀ n x, unit = some (n, x) → UnitOk x)
    (htail : NoEsc (renderTail unit cm))
    (hunit : ∀ n x, unit = some (n, x) → (ty.ty = .int ∨ ty.ty = .float) ∧ tbl.any (fun r => r.name = x) = true)
    (hp : parseJson s = .ok (sh, toks)) (hsr : s = '[' :: r)
    (hplain : ∀ ch ∈ s, ch ≠ '#' ∧ isWs ch = false ∧ ch ≠ '\\' ∧ ch ≠ '$')
    (hds : dimsValue dims = some ds) (hel : toks.mapM (tokAtom ty.ty) = .ok atoms) (hcd : checkDims ds sh = true) :
    determine (List.replicate k ' ' ++ (definePrefix nm a ty dims b c ++ (s ++ renderTail unit cm))) =
      .ok (blockNode k nm ty dims s unit) ∧
    initValue (mkParams tbl) ty.ty (some ds) (some (.text s)) = .ok (some (.array sh atoms)) ∧
    parseLines (mkParams tbl) [List.replicate k ' ' ++ (definePrefix nm a ty dims b c ++ (s ++ renderTail unit cm))] =
      .ok [{ name := nm, ty := ty.ty, info := ty.info, dims := some ds, units := unit.map Prod.snd,
             value := some (.array sh atoms), declared := false }] := by
  have hnone : (s == "none".toList) = false := ne_none_of_head _ (by rw [hsr]; simp)
  have h := array_text_parse tbl k nm a ty dims b c s r ds unit cm hn hd hu htail hunit hsr hplain hds
  rw [castText_array hnone hp hel hcd] at h
  exact h

theorem rendered_num_plain {α : Type} {s : Str} {sh : List Nat} (f : α → Str) (xs : List α)
    (hx : ∀ x ∈ xs, ∀ c ∈ f x, NumCh c) (h : Rendered s sh (xs.map fun x => Tok.bare (f x))) :
    ∀ ch ∈ s, ch ≠ '#' ∧ ch ≠ '\\' ∧ ch ≠ '$' := by
  intro ch hch
  rcases rendered_chars h ch hch with rfl | rfl | rfl | ⟨t, htm, hct⟩
  · decide
  · decide
  · decide
  · obtain ⟨x, hxm, he⟩ := List.mem_map.mp htm
    have h := hx x hxm ch (by rw [Tok.bare.inj he]; exact hct)
    exact ⟨(numCh_word h).1, (numCh_noEsc h).1, numCh_noDollar h⟩

/-- an integer element as JSON writes it: optional `-`, then `0` or digits without leading zero -/
structure IntTok where
  neg : Bool
  d : Str

def IntTok.render (i : IntTok) : Str := (if i.neg then ['-'] else []) ++ i.d
def IntTok.value (i : IntTok) : Int := if i.neg then -(digitsToNat i.d : Int) else (digitsToNat i.d : Int)
/-- digits, no leading zero, inside the 64-bit range numpy stores `dtype=int` in -/
def IntTok.Ok (i : IntTok) : Prop :=
  allDigits i.d = true ∧ (1 < i.d.length → i.d.head? ≠ some '0') ∧ -(2 ^ 63 : Int) ≤ i.value ∧ i.value < (2 ^ 63 : Int)

theorem intTok_render_sign (i : IntTok) : i.render = signText (if i.neg then some true else none) ++ i.d := by
  cases h : i.neg <;> simp [IntTok.render, signText, h]

theorem intTok_chars (i : IntTok) (h : i.Ok) : ∀ c ∈ i.render, NumCh c := by
  obtain ⟨_, hall⟩ := allDigits_iff h.1
  intro c hc
  simp only [IntTok.render, List.mem_append] at hc
  rcases hc with hc | hc
  · right; left; split at hc <;> simp at hc; exact hc
  · exact .inl (hall c hc)

theorem intTok_head (i : IntTok) (h : i.Ok) : ∃ c r, i.render = c :: r ∧ (c = '-' ∨ c.isDigit = true) := by
  obtain ⟨hne, hall⟩ := allDigits_iff h.1
  cases hn : i.neg with
  | true => exact ⟨'-', i.d, by simp [IntTok.render, hn], .inl rfl⟩
  | false =>
    cases hd : i.d with
    | nil => exact absurd hd hne
    | cons c r => exact ⟨c, r, by simp [IntTok.render, hn, hd], .inr (hall c (by simp [hd]))⟩

theorem numWord_tokOk (s : Str) (c : Char) (r : Str) (hs : s = c :: r) (hch : ∀ x ∈ s, NumCh x) : TokOk s :=
  ⟨⟨c, r, hs, (numCh_first (hch c (by rw [hs]; simp))).2.2.1⟩, fun x hx => numCh_noDelim (hch x hx)⟩

theorem intTok_tokOk (i : IntTok) (h : i.Ok) : TokOk i.render := by
  obtain ⟨c, r, hcr, _⟩ := intTok_head i h
  exact numWord_tokOk _ c r hcr (intTok_chars i h)

/-- `jsonNumber` after the digits of the integer part (no leading zero): what follows decides -/
theorem jsonNumber_ip (ip tail : Str) (hip : ∀ c ∈ ip, c.isDigit = true) (hne : ip ≠ [])
    (hz0 : 1 < ip.length → ip.head? ≠ some '0') :
    HeadNot Char.isDigit tail →
    jsonNumber (ip ++ tail) =
      (match tail with
       | [] => some true
       | '.' :: fr =>
         let fp := fr.takeWhile Char.isDigit
         if fp.isEmpty then none else
         match fr.dropWhile Char.isDigit with
         | [] => some false
         | c :: ex => if (c == 'e' || c == 'E') && allDigits (splitSign ex).2 then some false else none
       | c :: ex => if (c == 'e' || c == 'E') && allDigits (splitSign ex).2 then some false else none) := by
  intro ht
  obtain ⟨c0, r0, hipc⟩ := List.exists_cons_of_ne_nil hne
  have hc0 : c0 ≠ '-' := (digit_plain (hip c0 (by simp [hipc]))).2.2.1
  have he : ip.isEmpty = false := by rw [hipc]; rfl
  have hz : (decide (ip.length > 1) && ip.head? == some '0') = false := by
    by_cases hl : 1 < ip.length
    · simp [hz0 hl]
    · simp [hl]
  unfold jsonNumber
  simp only []
  -- the equation of the first `match` of `jsonNumber` (a leading `-`?) for a text that does not start with `-`
  rw [jsonNumber.match_1.eq_2 _ (ip ++ tail) _ _ (fun t h => by
    rw [hipc] at h; exact hc0 (List.cons.inj h).1)]
  rw [takeWhile_append_headNot hip ht, dropWhile_append_headNot hip ht]
  simp only [he, hz, Bool.or_self, Bool.false_eq_true, if_false]
  rfl

theorem jsonNumber_neg (c : Char) (r : Str) (hc : c ≠ '-') : jsonNumber ('-' :: c :: r) = jsonNumber (c :: r) := by
  unfold jsonNumber
  simp only []
  rw [jsonNumber.match_1.eq_2 _ (c :: r) _ _ (fun t h => hc (List.cons.inj h).1)]

theorem jsonNumber_intTok (i : IntTok) (h : i.Ok) : jsonNumber i.render = some true := by
  obtain ⟨hne, hall⟩ := allDigits_iff h.1
  have hd := jsonNumber_ip i.d [] hall hne h.2.1 .nil
  rw [List.append_nil] at hd
  cases hn : i.neg with
  | false => simpa [IntTok.render, hn] using hd
  | true =>
    obtain ⟨c, r, hcr⟩ := List.exists_cons_of_ne_nil hne
    have hc : c ≠ '-' := (digit_plain (hall c (by simp [hcr]))).2.2.1
    simp only [IntTok.render, hn, if_true, List.cons_append, List.nil_append]
    rw [hcr, jsonNumber_neg c r hc, ← hcr, hd]

theorem tokAtom_intTok (i : IntTok) (h : i.Ok) : tokAtom .int (.bare i.render) = .ok (.num ((i.value : Int) : Rat)) := by
  obtain ⟨c, r, hcr, _⟩ := intTok_head i h
  obtain ⟨_, h1, h2, h3⟩ := numWord_not_keyword _ (by rw [hcr]; simp) (intTok_chars i h)
  have hci : castInt i.render = .ok i.value := by
    rw [intTok_render_sign, castInt_lit _ _ h.1]
    cases hn : i.neg <;> simp [IntTok.value, signNeg, hn]
  have h64 : int64Atom i.value = .ok (.num ((i.value : Int) : Rat)) := by
    unfold int64Atom
    rw [if_pos]
    simp only [Bool.and_eq_true, decide_eq_true_eq]
    exact ⟨h.2.2.1, h.2.2.2⟩
  simp only [tokAtom, h1, h2, h3, Bool.false_eq_true, if_false, Bool.or_self, jsonNumber_intTok i h, if_true, hci,
    Except.bind, h64]

theorem tokAtom_boolTok (b : Bool) :
    tokAtom .bool (.bare (if b then "true".toList else "false".toList)) = .ok (.bool b) := by
  cases b <;> simp only [tokAtom, kw_true, kw_false, kw_null] <;> rfl

theorem boolTok_tokOk (b : Bool) : TokOk (if b then "true".toList else "false".toList) := by
  cases b
  · rw [if_neg (by decide), kw_false]; exact ⟨⟨'f', _, rfl, by decide⟩, by decide⟩
  · rw [if_pos rfl, kw_true]; exact ⟨⟨'t', _, rfl, by decide⟩, by decide⟩

theorem rendered_bool_plain {s : Str} {sh : List Nat} (bs : List Bool)
    (h : Rendered s sh (bs.map (fun b => Tok.bare (if b then "true".toList else "false".toList)))) :
    ∀ ch ∈ s, ch ≠ '#' ∧ ch ≠ '\\' ∧ ch ≠ '$' := by
  intro ch hch
  rcases rendered_chars h ch hch with rfl | rfl | rfl | ⟨t, htm, hct⟩
  · decide
  · decide
  · decide
  · obtain ⟨b, _, he⟩ := List.mem_map.mp htm
    have he' : (if b then "true".toList else "false".toList) = t := by injection he
    subst he'
    cases b
    · rw [if_neg (by decide), kw_false] at hct
      exact (by decide : ∀ c ∈ ['f', 'a', 'l', 's', 'e'], c ≠ '#' ∧ c ≠ '\\' ∧ c ≠ '$') ch hct
    · rw [if_pos rfl, kw_true] at hct
      exact (by decide : ∀ c ∈ ['t', 'r', 'u', 'e'], c ≠ '#' ∧ c ≠ '\\' ∧ c ≠ '$') ch hct

/-- the literal is written as JSON allows: no `+` sign, an integer part without leading zero, digits behind the
    point -/
def FloatD.Json (f : FloatD) : Prop :=
  f.sg ≠ some false ∧ f.ip ≠ [] ∧ (1 < f.ip.length → f.ip.head? ≠ some '0') ∧ (∀ x, f.fp = some x → x ≠ [])

theorem expTail_ok (es : Option Bool) (ed : Str) (hed : allDigits ed = true) :
    allDigits (splitSign (signText es ++ ed)).2 = true := by
  rw [splitSign_sign es _ (digits_nosign ed (allDigits_iff hed).2)]
  exact hed

theorem jsonNumber_floatBody (f : FloatD) (hf : f.Ok) (hj : f.Json) :
    ∃ b, jsonNumber (f.mantText ++ f.expText) = some b := by
  obtain ⟨hip, hfp, _, hex⟩ := hf
  obtain ⟨_, hne, hz0, hfpne⟩ := hj
  have key := fun tail => jsonNumber_ip f.ip tail hip hne hz0
  -- the exponent, seen from the character in front of it
  have hexp : f.expText = [] ∨ ∃ c ex, f.expText = c :: ex ∧ Char.isDigit c = false ∧
      ((c == 'e' || c == 'E') && allDigits (splitSign ex).2) = true := by
    simp only [FloatD.expText]
    cases hexc : f.ex with
    | none => exact .inl rfl
    | some p =>
      obtain ⟨cap, es, ed⟩ := p
      have hed := expTail_ok es ed (hex cap es ed hexc).1
      cases cap
      · exact .inr ⟨'e', _, rfl, by decide, by simp [hed]⟩
      · exact .inr ⟨'E', _, rfl, by decide, by simp [hed]⟩
  cases hfpc : f.fp with
  | none =>
    simp only [FloatD.mantText, hfpc, List.append_nil]
    rcases hexp with he | ⟨c, ex, he, hcd, hce⟩
    · exact ⟨true, by rw [he, key [] .nil]⟩
    · refine ⟨false, ?_⟩
      rw [he, key (c :: ex) (.cons hcd ex)]
      have hcp : c ≠ '.' := by intro e; rw [e] at hce; simp at hce
      split
      · rename_i heq; cases heq
      · rename_i heq; exact absurd (List.cons.inj heq).1 hcp
      · rename_i heq; obtain ⟨rfl, rfl⟩ := List.cons.inj heq; simp only [hce, if_true]
  | some x =>
    have hx := hfp x hfpc
    have hxe : x.isEmpty = false := List.isEmpty_eq_false_iff.mpr (hfpne x hfpc)
    refine ⟨false, ?_⟩
    have htail : HeadNot Char.isDigit f.expText := (expText_head f).headNot (by decide)
    simp only [FloatD.mantText, hfpc, List.append_assoc, List.cons_append]
    rw [key ('.' :: (x ++ f.expText)) (.cons (by decide) _)]
    simp only [takeWhile_append_headNot hx htail, dropWhile_append_headNot hx htail, hxe, Bool.false_eq_true,
      if_false]
    rcases hexp with he | ⟨c, ex, he, _, hce⟩
    · rw [he]
    · rw [he]; simp only [hce, if_true]

theorem floatD_json_head (f : FloatD) (hf : f.Ok) (hj : f.Json) :
    ∃ c r, f.mantText ++ f.expText = c :: r ∧ c.isDigit = true := by
  obtain ⟨a, b, h⟩ := List.exists_cons_of_ne_nil hj.2.1
  exact ⟨a, (f.mantText ++ f.expText).drop 1, by simp [FloatD.mantText, h], hf.1 a (by simp [h])⟩

theorem floatD_json_render (f : FloatD) (hj : f.Json) :
    f.render = f.mantText ++ f.expText ∨ f.render = '-' :: (f.mantText ++ f.expText) := by
  cases hsg : f.sg with
  | none => exact .inl (by simp [FloatD.render, signText, hsg])
  | some s =>
    cases s with
    | false => exact absurd hsg hj.1
    | true => exact .inr (by simp [FloatD.render, signText, hsg])

theorem jsonNumber_floatD (f : FloatD) (hf : f.Ok) (hj : f.Json) : ∃ b, jsonNumber f.render = some b := by
  obtain ⟨b, hb⟩ := jsonNumber_floatBody f hf hj
  obtain ⟨c, r, hcr, hcd⟩ := floatD_json_head f hf hj
  refine ⟨b, ?_⟩
  rcases floatD_json_render f hj with h | h
  · rw [h, hb]
  · rw [h, hcr, jsonNumber_neg c r (digit_plain hcd).2.2.1, ← hcr, hb]

theorem floatD_tokOk (f : FloatD) (hf : f.Ok) (hj : f.Json) : TokOk f.render := by
  obtain ⟨c, r, hcr, _⟩ := floatD_json_head f hf hj
  rcases floatD_json_render f hj with h | h
  · exact numWord_tokOk _ c r (by rw [h, hcr]) (floatD_chars f hf)
  · exact numWord_tokOk _ '-' _ h (floatD_chars f hf)

theorem tokAtom_floatD (f : FloatD) (hf : f.Ok) (hj : f.Json) : tokAtom .float (.bare f.render) = .ok (.num f.value) := by
  obtain ⟨b, hb⟩ := jsonNumber_floatD f hf hj
  obtain ⟨_, h1, h2, h3⟩ := numWord_not_keyword _ (floatD_render_ne f hf) (floatD_chars f hf)
  simp only [tokAtom, h1, h2, h3, Bool.false_eq_true, if_false, Bool.or_self, hb, castFloat_lit f hf]
  rfl

/-- a number word is a bare literal that no scanner and no escape mark touches: one parameter, with the value the
    cast gives -/
theorem define_number_text (tbl : List UnitRow) (k : Nat) (nm : Str) (a : Nat) (ty : TyD) (b c : Nat) (s : Str)
    (unit cm : Option (Nat × Str)) (v : Val)
    (hn : NameOk nm) (hu : ∀ n x, unit = some (n, x) → UnitOk x) (htail : NoEsc (renderTail unit cm))
    (hty : ty.ty = .int ∨ ty.ty = .float) (hunit : ∀ n x, unit = some (n, x) → tbl.any (fun r => r.name = x) = true)
    (hne : s ≠ []) (hch : ∀ c ∈ s, NumCh c) (hcast : castText ty.ty none s = .ok v) :
    parseLines (mkParams tbl)
        [List.replicate k ' ' ++ (definePrefix nm a ty none b c ++ (s ++ renderTail unit cm))] =
      .ok [{ name := nm, ty := ty.ty, info := ty.info, dims := none, units := unit.map Prod.snd,
             value := some v, declared := false }] := by
  obtain ⟨c0, r0, rfl⟩ := List.exists_cons_of_ne_nil hne
  exact define_scalar_text_core tbl k nm a ty b c (.bare (c0 :: r0)) unit cm v hn hu htail
    (fun n x h => ⟨hty, hunit n x h⟩)
    ⟨⟨c0, r0, rfl, numCh_first (hch c0 (by simp))⟩, fun c hc => numCh_word (hch c hc)⟩
    (fun c hc => numCh_noEsc (hch c hc)) (fun c hc => numCh_noDollar (hch c hc)) rfl hcast

end SciVerif.C13
