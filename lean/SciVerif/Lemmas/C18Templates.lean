import SciVerif.Model.C18Str
import SciVerif.Lemmas.Util.Scan
import SciVerif.Lemmas.Util.MapM
import SciVerif.Lemmas.Util.Digits
import SciVerif.Lemmas.Util.Join

/-!
Templates (C18): template scanning inverts rendering — text, holes `{{ref}[slice]fmt}` with decimal
slice bounds split at commas, text that itself contains `{` — and the text `solveTemplate` produces.
-/
namespace SciVerif.C18

theorem scan_stop {α : Type} (p : α → Bool) (l : List α) (c : α) (r : List α)
    (hl : ∀ x ∈ l, p x = true) (hc : p c = false) :
    (l ++ c :: r).takeWhile p = l ∧ (l ++ c :: r).dropWhile p = c :: r :=
  ⟨Util.takeWhile_append_headNot hl (.cons hc r), Util.dropWhile_append_headNot hl (.cons hc r)⟩

def isFmtDigit (c : Char) : Bool := c.isDigit || c = '.'
def isFmtLetter (c : Char) : Bool := c = 's' || c = 'd' || c = 'f' || c = 'e' || c = 'b'

/-- a format specification the template grammar admits: `:[0-9.]*[sdfeb]+` -/
structure FmtOK (f : List Char) : Prop where
  ex : ∃ a b, f = ':' :: a ++ b ∧ (∀ c ∈ a, isFmtDigit c = true) ∧ (∀ c ∈ b, isFmtLetter c = true) ∧ b ≠ []

/-- a piece of the slice-free template grammar: a character other than `{`, or a hole `{{ref}fmt}` -/
def PieceOK : Piece → Prop
  | .text c => c ≠ '{'
  | .hole p sl fm => p ≠ [] ∧ (∀ c ∈ p, c ≠ '}') ∧ sl = none ∧ (∀ f, fm = some f → FmtOK f)
  | .raise => False

/-- `{{path}fmt}` -/
def renderPiece : Piece → List Char
  | .text c => [c]
  | .hole p _ fm => '{' :: '{' :: p ++ '}' :: (fm.getD []) ++ ['}']
  | .raise => []

def renderPieces (ps : List Piece) : List Char := ps.flatMap renderPiece

def renderBound : Option Nat → List Char
  | none => []
  | some n => (toString n).toList

def renderSlicePart : SliceEntry → List Char
  | .idx n => (toString n).toList
  | .range a b => renderBound a ++ ':' :: renderBound b

def renderSlice (sl : List SliceEntry) : List Char :=
  '[' :: (List.intercalate [','] (sl.map renderSlicePart)) ++ [']']

/-- `{{path}[slice]fmt}`; the suffix `S` marks the versions that admit a slice -/
def renderPieceS : Piece → List Char
  | .text c => [c]
  | .hole p sl fm => '{' :: '{' :: p ++ '}' :: ((sl.map renderSlice).getD []) ++ (fm.getD []) ++ ['}']
  | .raise => []

/-- a piece of the full template grammar: as `PieceOK`, the hole with an optional non-empty slice -/
def PieceOKS : Piece → Prop
  | .text c => c ≠ '{'
  | .hole p sl fm => p ≠ [] ∧ (∀ c ∈ p, c ≠ '}') ∧ (∀ l, sl = some l → l ≠ []) ∧ (∀ f, fm = some f → FmtOK f)
  | .raise => False

theorem PieceOK.toS {p : Piece} (hp : PieceOK p) : PieceOKS p := by
  cases p with
  | hole path sl fm => exact ⟨hp.1, hp.2.1, fun l hl => (by rw [hp.2.2.1] at hl; cases hl), hp.2.2.2⟩
  | _ => exact hp

theorem renderPieceS_of_noslice (p : Piece) (hp : PieceOK p) : renderPieceS p = renderPiece p := by
  cases p with
  | hole path sl fm => obtain ⟨_, _, rfl, _⟩ := hp; simp [renderPieceS, renderPiece]
  | _ => rfl

theorem renderPieces_eq (ps : List Piece) (hp : ∀ p ∈ ps, PieceOK p) :
    renderPieces ps = ps.flatMap renderPieceS :=
  congrArg List.flatten (List.map_congr_left fun p h => (renderPieceS_of_noslice p (hp p h)).symm)

theorem letter_not_digit (c : Char) (h : isFmtLetter c = true) : isFmtDigit c = false := by
  simp only [isFmtLetter, Bool.or_eq_true, decide_eq_true_eq] at h
  rcases h with (((rfl | rfl) | rfl) | rfl) | rfl <;> decide

theorem parseFormat_render (f more : List Char) (hf : FmtOK f) :
    parseFormat (f ++ '}' :: more) = some (f, '}' :: more) := by
  obtain ⟨a, b, rfl, ha, hb, hne⟩ := hf.ex
  cases b with
  | nil => exact absurd rfl hne
  | cons b0 bs =>
    have hb0 : isFmtLetter b0 = true := hb b0 (by simp)
    have hd0 : isFmtDigit b0 = false := letter_not_digit b0 hb0
    have e1 := scan_stop (fun c => decide (c.isDigit = true ∨ c = '.')) a b0 (bs ++ '}' :: more)
      (by intro x hx; simpa [isFmtDigit] using ha x hx) (by simpa [isFmtDigit] using hd0)
    have e2 := scan_stop (fun c => c = 's' || c = 'd' || c = 'f' || c = 'e' || c = 'b')
      (b0 :: bs) '}' more (by intro x hx; simpa [isFmtLetter] using hb x hx) (by decide)
    simp only [List.cons_append, List.append_assoc, parseFormat]
    rw [e1.1, e1.2]
    simp only [List.cons_append] at e2
    rw [e2.1, e2.2]
    simp

theorem noSlice_of_head (s : List Char) (h : s.head? ≠ some '[') :
    parseSlice s = none ∧ sliceRaises s = false := by
  cases s with
  | nil => exact ⟨rfl, rfl⟩
  | cons c t =>
    simp only [List.head?_cons, ne_eq, Option.some.injEq] at h
    unfold parseSlice sliceRaises
    constructor <;> split
    · rename_i heq; simp at heq; exact absurd heq.1 h
    · rfl
    · rename_i heq; simp at heq; exact absurd heq.1 h
    · rfl

theorem parseFormat_none_brace (more : List Char) : parseFormat ('}' :: more) = none := by
  simp [parseFormat]

theorem natText_isDigit (n : Nat) : ∀ c ∈ (toString n).toList, c.isDigit = true :=
  fun _ hc => Util.isDigit_of_mem_toDigits (Util.toString_toList n ▸ hc)

theorem natText_ne_nil (n : Nat) : (toString n).toList ≠ [] := by
  rw [Util.toString_toList]; exact Nat.toDigits_ne_nil

theorem digitsVal_natText (n : Nat) : digitsVal (toString n).toList = n := by
  rw [Util.toString_toList]; exact Nat.ofDigitChars_ten_toDigits

theorem contains_colon_false (ds : List Char) (h : ∀ c ∈ ds, c.isDigit = true) :
    ds.contains ':' = false := by
  rw [Bool.eq_false_iff]
  intro hc
  have := List.contains_iff_mem.mp hc
  exact Util.ne_of_class (p := Char.isDigit) (h _ this) rfl rfl

theorem sliceEntry_digits (ds : List Char) (h : ∀ c ∈ ds, c.isDigit = true) (hne : ds ≠ []) :
    sliceEntry ds = some (.idx (digitsVal ds)) := by
  unfold sliceEntry
  rw [contains_colon_false ds h]
  cases ds with
  | nil => exact absurd rfl hne
  | cons c t => simp

theorem sliceEntry_colon (da db : List Char) (ha : ∀ c ∈ da, c.isDigit = true)
    (hb : ∀ c ∈ db, c.isDigit = true) :
    sliceEntry (da ++ ':' :: db) =
      some (.range (if da.isEmpty then none else some (digitsVal da))
            (if db.isEmpty then none else some (digitsVal db))) := by
  have ht := scan_stop (fun c => decide (c ≠ ':')) da ':' db
    (by intro x hx; simpa using Util.ne_of_class (p := Char.isDigit) (d := ':') (ha x hx) rfl) (by decide)
  unfold sliceEntry
  have hc : (da ++ ':' :: db).contains ':' = true := by simp
  rw [hc]
  simp only [if_true]
  rw [ht.1, ht.2]
  simp only [List.drop_succ_cons, List.drop_zero]
  rw [contains_colon_false db hb]
  simp

theorem renderBound_isDigit (a : Option Nat) : ∀ c ∈ renderBound a, c.isDigit = true := by
  cases a with
  | none => simp [renderBound]
  | some n => exact natText_isDigit n

theorem renderBound_back (a : Option Nat) :
    (if (renderBound a).isEmpty then none else some (digitsVal (renderBound a))) = a := by
  cases a with
  | none => simp [renderBound]
  | some n =>
    have h1 := natText_ne_nil n
    have h2 := digitsVal_natText n
    have h3 : ¬ (toString n).toList.isEmpty = true := by
      cases h : (toString n).toList with
      | nil => exact absurd h h1
      | cons c t => simp
    show (if (toString n).toList.isEmpty = true then none else some (digitsVal (toString n).toList)) = some n
    rw [if_neg h3, h2]

theorem sliceEntry_render (p : SliceEntry) : sliceEntry (renderSlicePart p) = some p := by
  cases p with
  | idx n =>
    simp only [renderSlicePart]
    rw [sliceEntry_digits _ (natText_isDigit n) (natText_ne_nil n), digitsVal_natText]
  | range a b =>
    simp only [renderSlicePart]
    rw [sliceEntry_colon _ _ (renderBound_isDigit _) (renderBound_isDigit _),
      renderBound_back, renderBound_back]

theorem renderSlicePart_chars (p : SliceEntry) :
    ∀ c ∈ renderSlicePart p, c.isDigit = true ∨ c = ':' := by
  intro c hc
  cases p with
  | idx n => exact Or.inl (natText_isDigit n c hc)
  | range a b =>
    simp only [renderSlicePart, List.mem_append, List.mem_cons] at hc
    rcases hc with hc | rfl | hc
    · exact Or.inl (renderBound_isDigit _ c hc)
    · exact Or.inr rfl
    · exact Or.inl (renderBound_isDigit _ c hc)

theorem renderSlicePart_ne_nil (p : SliceEntry) : renderSlicePart p ≠ [] := by
  cases p with
  | idx n => exact natText_ne_nil n
  | range a b => simp [renderSlicePart]

theorem mapM_sliceEntry_render (l : List SliceEntry) :
    (l.map renderSlicePart).mapM sliceEntry = some l := by
  rw [List.mapM_map, Util.mapM_eq_pure (f := sliceEntry ∘ renderSlicePart) (g := id)
    fun p _ => sliceEntry_render p, List.map_id]; rfl

theorem sliceBody_spec (l : List SliceEntry) (hl : l ≠ []) :
    let body := [','].intercalate (l.map renderSlicePart)
    (∀ c ∈ body, (decide (c.isDigit = true ∨ c = ':' ∨ c = ',')) = true) ∧ body ≠ [] ∧
      body.splitOn ',' = l.map renderSlicePart := by
  intro body
  have hsplit : body.splitOn ',' = l.map renderSlicePart := by
    apply List.splitOn_intercalate
    · intro x hx hc
      obtain ⟨p, _, rfl⟩ := List.mem_map.mp hx
      rcases renderSlicePart_chars p _ hc with h | h
      · exact Util.ne_of_class (p := Char.isDigit) h rfl rfl
      · exact absurd h (by decide)
    · simpa using hl
  refine ⟨?_, ?_, hsplit⟩
  · show ∀ c ∈ [','].intercalate _, _
    rw [Util.intercalate_eq_join]
    refine Util.forall_mem_join (fun c h => by cases List.mem_singleton.1 h; decide) fun x hx c hcx => ?_
    obtain ⟨p, _, rfl⟩ := List.mem_map.mp hx
    rcases renderSlicePart_chars p c hcx with h | rfl
    · simp [h]
    · decide
  · show [','].intercalate _ ≠ []
    rw [Util.intercalate_eq_join]
    cases l with
    | nil => exact absurd rfl hl
    | cons p t => exact Util.join_ne_nil ⟨_, List.mem_cons_self .., renderSlicePart_ne_nil p⟩

theorem slice_render (l : List SliceEntry) (hl : l ≠ []) (more : List Char) :
    parseSlice (renderSlice l ++ more) = some (l, more) ∧
    sliceRaises (renderSlice l ++ more) = false := by
  obtain ⟨hch, hne, hsp⟩ := sliceBody_spec l hl
  have ht := scan_stop (fun c => decide (c.isDigit = true ∨ c = ':' ∨ c = ','))
    ([','].intercalate (l.map renderSlicePart)) ']' more hch (by decide)
  have hnE : ([','].intercalate (l.map renderSlicePart)).isEmpty = false := by
    cases h : [','].intercalate (l.map renderSlicePart) with
    | nil => exact absurd h hne
    | cons c t => rfl
  simp only [renderSlice, List.cons_append, List.append_assoc, List.nil_append, parseSlice,
    sliceRaises]
  rw [ht.1, ht.2]
  simp only [hnE, hsp, mapM_sliceEntry_render]
  simp

theorem fmt_head (fm : Option (List Char)) (hfm : ∀ f, fm = some f → FmtOK f) (more : List Char) :
    (fm.getD [] ++ '}' :: more).head? ≠ some '[' := by
  cases fm with
  | none => simp
  | some f => obtain ⟨a, b, rfl, _⟩ := (hfm f rfl).ex; simp

theorem parseFormat_opt (fm : Option (List Char)) (hfm : ∀ f, fm = some f → FmtOK f)
    (more : List Char) :
    parseFormat (fm.getD [] ++ '}' :: more) = fm.map (·, '}' :: more) := by
  cases fm with
  | none => exact parseFormat_none_brace more
  | some f => exact parseFormat_render f more (hfm f rfl)

theorem parseSlice_opt (sl : Option (List SliceEntry)) (hsl : ∀ l, sl = some l → l ≠ [])
    (rest : List Char) (hr : rest.head? ≠ some '[') :
    parseSlice ((sl.map renderSlice).getD [] ++ rest) = sl.map (·, rest) ∧
    sliceRaises ((sl.map renderSlice).getD [] ++ rest) = false := by
  cases sl with
  | none => exact noSlice_of_head rest hr
  | some l => exact slice_render l (hsl l rfl) rest

theorem scan_pieceS (fuel : Nat) (p : Piece) (hp : PieceOKS p) (more : List Char) :
    scanTemplate (fuel + 1) (renderPieceS p ++ more) = p :: scanTemplate fuel more := by
  cases p with
  | text c => simp only [PieceOKS] at hp; simp [renderPieceS, scanTemplate, hp]
  | raise => exact hp.elim
  | hole path sl fm =>
    obtain ⟨hne, hnb, hsl, hfm⟩ := hp
    have hh := fmt_head fm hfm more
    have ht := scan_stop (fun c => decide (c ≠ '}')) path '}'
      ((sl.map renderSlice).getD [] ++ (fm.getD [] ++ '}' :: more))
      (by intro x hx; simpa using hnb x hx) (by decide)
    have hs := parseSlice_opt sl hsl _ hh
    obtain ⟨hs2, hr2⟩ := noSlice_of_head _ hh
    have hf := parseFormat_opt fm hfm more
    -- every parser call on the rendered rest is known (`hs`, `hs2`, `hr2`, `hf`); rewriting with them
    -- in each of the four shapes (slice or none, format or none) leaves the scanner's matches on
    -- `some`/`none` literals, which reduce
    simp only [renderPieceS, List.cons_append, List.append_assoc, List.nil_append,
      scanTemplate, if_true, List.dropWhile_cons_of_neg (show ¬ isWs '{' = true by decide)]
    rw [ht.1, ht.2]
    cases sl <;> cases fm <;>
      simp_all only [Option.map_none, Option.map_some, Option.getD_none, Option.getD_some,
        List.nil_append, List.isEmpty_iff, if_false, Bool.false_eq_true, ne_eq]

/-- what one piece contributes to the produced text (`none`: it raises) -/
def pieceOut (hole : HoleFn) : Piece → Option (List Char)
  | .text c => some [c]
  | .hole p sl fm => hole p sl fm
  | .raise => none

theorem assemble_eq (hole : HoleFn) (ps : List Piece) :
    assemble hole ps = (ps.mapM (pieceOut hole)).map List.flatten := by
  -- branches of `assemble`: end, copied character, hole that gives a text, hole that raises, `.raise`
  fun_induction assemble hole ps with
  | case1 => rfl
  | case2 c r ih => simp only [ih, List.mapM_cons, pieceOut]; cases r.mapM (pieceOut hole) <;> rfl
  | case3 p sl fm r s hs ih =>
    simp only [ih, List.mapM_cons, pieceOut, hs]; cases r.mapM (pieceOut hole) <;> rfl
  | case4 p sl fm r hn => simp only [List.mapM_cons, pieceOut, hn]; rfl
  | case5 => rfl

theorem mapM_pieceOut_ok (hole : HoleFn) (out : Piece → List Char) (ps : List Piece)
    (h : ∀ p ∈ ps, pieceOut hole p = some (out p)) :
    (ps.mapM (pieceOut hole)).map List.flatten = some (ps.flatMap out) := by
  rw [Util.mapM_eq_pure h]; rfl

theorem mapM_pieceOut_err (hole : HoleFn) (ps : List Piece)
    (h : ∃ p ∈ ps, pieceOut hole p = none) :
    (ps.mapM (pieceOut hole)).map List.flatten = none := by
  rw [Util.mapM_eq_none h]; rfl

/-- a character that the scanner copies: anything but `{`, or a `{` that is neither followed (after
    blanks) by another `{` nor directly by a malformed slice (on which the slice parser raises) -/
def CopyOK (c : Char) (after : List Char) : Prop :=
  c ≠ '{' ∨ ((after.dropWhile isWs).head? ≠ some '{' ∧ sliceRaises after = false)

theorem scan_copy (fuel : Nat) (c : Char) (more : List Char) (h : CopyOK c more) :
    scanTemplate (fuel + 1) (c :: more) = .text c :: scanTemplate fuel more := by
  by_cases hc : c = '{'
  · subst hc
    have h2 : (more.dropWhile isWs).head? ≠ some '{' ∧ sliceRaises more = false := by
      rcases h with h | h
      · exact absurd rfl h
      · exact h
    obtain ⟨h2, h3⟩ := h2
    simp only [scanTemplate, if_true, h3, Bool.false_eq_true, if_false]
    cases hr : more.dropWhile isWs with
    | nil => rfl
    | cons d t =>
      rw [hr] at h2
      have hd : d ≠ '{' := by simpa using h2
      split
      · rename_i heq; simp at heq; exact absurd heq.1 hd
      · rfl
  · simp [scanTemplate, hc]

/-- pieces whose copied text may contain `{`: every copied character is `CopyOK` before the rendered
    rest, every hole is `PieceOKS` -/
def PiecesOK : List Piece → Prop
  | [] => True
  | p :: r =>
    (match p with
     | .text c => CopyOK c (r.flatMap renderPieceS)
     | q => PieceOKS q) ∧ PiecesOK r

theorem piecesOK_of_all (ps : List Piece) (h : ∀ p ∈ ps, PieceOKS p) : PiecesOK ps := by
  induction ps with
  | nil => trivial
  | cons p t ih =>
    refine ⟨?_, ih (fun q hq => h q (by simp [hq]))⟩
    have h0 := h p (by simp)
    cases p with
    | text c => exact Or.inl h0
    | hole a b c => exact h0
    | raise => exact h0

/-- the round trip for texts with braces (`B`), of which the brace-free ones are a special case -/
theorem scan_renderB (ps : List Piece) (hp : PiecesOK ps) :
    ∀ fuel, (ps.flatMap renderPieceS).length < fuel → scanTemplate fuel (ps.flatMap renderPieceS) = ps := by
  induction ps with
  | nil => intro fuel _; cases fuel <;> simp [scanTemplate]
  | cons p ps ih =>
    intro fuel hf
    obtain ⟨h0, hr⟩ := hp
    cases fuel with
    | zero => simp at hf
    | succ n =>
      have hrr : (p :: ps).flatMap renderPieceS = renderPieceS p ++ ps.flatMap renderPieceS := by simp
      rw [hrr] at hf ⊢
      rw [List.length_append] at hf
      cases p with
      | text c =>
        have hl : (renderPieceS (.text c)).length = 1 := rfl
        show scanTemplate (n + 1) (c :: ps.flatMap renderPieceS) = _
        rw [scan_copy n c _ h0, ih hr n (by omega)]
      | hole a b c =>
        have hl : 1 ≤ (renderPieceS (.hole a b c)).length := Nat.succ_le_succ (Nat.zero_le _)
        rw [scan_pieceS n _ h0, ih hr n (by omega)]
      | raise => exact h0.elim

/-- a text without holes: every character is `CopyOK` before the rest -/
def PlainOK : List Char → Prop
  | [] => True
  | c :: r => CopyOK c r ∧ PlainOK r

theorem plain_render (s : List Char) : (s.map Piece.text).flatMap renderPieceS = s := by
  induction s with
  | nil => rfl
  | cons c t ih => simp only [List.map_cons, List.flatMap_cons, renderPieceS, ih]; rfl

theorem plain_piecesOK (s : List Char) (h : PlainOK s) : PiecesOK (s.map Piece.text) := by
  induction s with
  | nil => trivial
  | cons c t ih =>
    obtain ⟨h0, hr⟩ := h
    refine ⟨?_, ih hr⟩
    show CopyOK c ((t.map Piece.text).flatMap renderPieceS)
    rw [plain_render]; exact h0

theorem plain_out (hole : HoleFn) (s : List Char) :
    ((s.map Piece.text).mapM (pieceOut hole)).map List.flatten = some s := by
  have := mapM_pieceOut_ok hole (fun p => renderPieceS p) (s.map Piece.text)
    (by intro p hp; obtain ⟨c, _, rfl⟩ := List.mem_map.mp hp; rfl)
  rw [this, plain_render]

instance (c : Char) (after : List Char) : Decidable (CopyOK c after) := by
  unfold CopyOK; infer_instance

instance plainDec : (s : List Char) → Decidable (PlainOK s)
  | [] => .isTrue trivial
  | c :: r =>
    have := plainDec r
    (inferInstance : Decidable (CopyOK c r ∧ PlainOK r))

end SciVerif.C18
