import SciVerif.Lemmas.C07Invariant

/-!
Validity of operation descriptions for C07: the side conditions under which `exec` preserves the invariant,
and the proof that every operation of the library compiles to a valid description.  This is where the shape
clause of the invariant ("error array only with value array") is used.
-/
namespace SciVerif.C07

/-- `Magnitude(value, abse)` never keeps a reference to an existing array: an array is only handed over
    (or produced) when the value is an array too, and then `np.full_like` copies it. -/
def MagSpec.valid (s : MagSpec) : Bool :=
  match s.err with
  | .pass (.arr _) => s.isArr
  | .fresh true => s.isArr
  | _ => true

def ErrArg.isArr : ErrArg → Bool
  | .none => false
  | .fresh arrLike => arrLike
  | .pass r => r.isArr

theorem MagSpec.valid_iff {s : MagSpec} : s.valid = true ↔ (s.err.isArr = true → s.isArr = true) := by
  have e : s.valid = (!s.err.isArr || s.isArr) := by rcases s with ⟨b, _ | (_ | _) | (_ | _ | _)⟩ <;> rfl
  rw [e]
  cases s.err.isArr <;> cases s.isArr <;> decide

theorem valid_none (x : Bool) : MagSpec.valid ⟨x, .none⟩ = true := rfl

theorem convErr_isArr (f : Facts) (e : Ref) : (convErr f e).isArr = e.isArr := by
  unfold convErr
  cases e <;> cases f.linear <;> rfl

theorem ofRef_isArr (e : Ref) : (ErrArg.ofRef e).isArr = e.isArr := by
  cases e <;> rfl

theorem sumErr_isArr {l r : ErrArg} {la ra : Bool} (h : (sumErr l r la ra).isArr = true) :
    (l.isArr = true ∨ la = true) ∨ (r.isArr = true ∨ ra = true) := by
  revert h
  fun_cases sumErr l r la ra with
  | case1 => exact nofun
  | case2 => exact fun h => .inr (.inl h)
  | case3 => exact fun h => .inl (.inl h)
  | case4 => exact fun h => (Bool.or_eq_true_iff.1 h).elim (fun h => .inl (.inr h)) (fun h => .inr (.inr h))

theorem valid_conv (f : Facts) (c : Mag) (hs : c.error.isArr = true → c.value.isArr = true) :
    MagSpec.valid ⟨c.value.isArr, convErr f c.error⟩ = true :=
  MagSpec.valid_iff.2 fun h => hs (convErr_isArr f c.error ▸ h)

theorem valid_ofRef (c : Mag) (hs : c.error.isArr = true → c.value.isArr = true) :
    MagSpec.valid ⟨c.value.isArr, .ofRef c.error⟩ = true :=
  MagSpec.valid_iff.2 fun h => hs (ofRef_isArr c.error ▸ h)

theorem valid_sumErr {x y la ra : Bool} {l r : ErrArg} (hl : MagSpec.valid ⟨x, l⟩ = true)
    (hr : MagSpec.valid ⟨y, r⟩ = true) (hla : la = true → x = true) (hra : ra = true → y = true) :
    MagSpec.valid ⟨x || y, sumErr l r la ra⟩ = true :=
  MagSpec.valid_iff.2 fun h => Bool.or_eq_true_iff.2 <|
    (sumErr_isArr h).imp (fun h => h.elim (MagSpec.valid_iff.1 hl) hla) (fun h => h.elim (MagSpec.valid_iff.1 hr) hra)

theorem valid_ite_fresh {x b : Bool} (c : Bool) (h : b = true → x = true) :
    MagSpec.valid ⟨x, if c then .fresh b else .none⟩ = true := by
  cases c
  · exact valid_none x
  · exact MagSpec.valid_iff.2 h

theorem valid_scaled (s : MagSpec) (he : Bool) (hv : s.valid = true) :
    (∀ t ∈ (scaled s he).1, t.valid = true) ∧ (scaled s he).2.valid = true :=
  ⟨List.forall_mem_cons.2 ⟨hv, List.forall_mem_singleton.2 rfl⟩, valid_ite_fresh he id⟩

theorem valid_scaledK (s : MagSpec) (he : Bool) (hv : s.valid = true) (k : Nat) :
    (∀ t ∈ (scaledK s he k).1, t.valid = true) ∧ (scaledK s he k).2.valid = true := by
  induction k with
  | zero => exact ⟨List.forall_mem_nil _, hv⟩
  | succ k ih =>
    have ⟨h1, h2⟩ := valid_scaled (scaledK s he k).2 he ih.2
    exact ⟨List.forall_mem_append.2 ⟨ih.1, h1⟩, h2⟩

def BUSpec.ok (h : Heap) : BUSpec → Prop
  | .fresh => True
  | .aliasDict b => ∃ bc, h.b b = some bc
  | .share b => ∃ bc, h.b b = some bc

/-- the cells of the old heap an operation of this kind writes: the quantity cell of an assignment -/
def Kind.writes : Kind → List Cell
  | .assign x => [.q x]
  | _ => []

/-- Side conditions under which an operation description is meaningful in heap `h`: no array is handed on
    to a scalar, the BaseUnits objects referred to exist, and the one old cell written is the quantity cell of
    the live quantity `t`.  A clause that holds by computation, as it does of the default value of its field
    in `Spec` (no error, a fresh BaseUnits, an empty list, no assignment), need not be given. -/
structure Spec.valid (h : Heap) (t : Option Loc) (s : Spec) : Prop where
  final : s.final.valid = true := by exact rfl
  bu : s.bu.ok h := by exact trivial
  temps : ∀ m ∈ s.temps, m.valid = true := by exact List.forall_mem_nil _
  tempBUs : ∀ b ∈ s.tempBUs, b.ok h := by exact List.forall_mem_nil _
  writes : ∀ c ∈ s.kind.writes, ∃ x cx, c = .q x ∧ t = some x ∧ h.q x = some cx := by
    exact List.forall_mem_nil _

theorem valid_initTail {h : Heap} {t : Option Loc} {s : Spec} (f : Facts) (he : Bool) (hv : s.valid h t) :
    (initTail f s he).valid h t := by
  unfold initTail
  cases f.nodim
  · exact hv
  · have ⟨k1, k2⟩ := valid_scaledK s.final he hv.final f.k
    refine { final := k2, temps := List.forall_mem_append.2 ⟨hv.temps, k1⟩,
             tempBUs := List.forall_mem_append.2 ⟨hv.tempBUs, ?_⟩, writes := hv.writes }
    -- the BaseUnits built first is dropped, unless it was an existing object
    cases hbu : s.bu with
    | share x => exact List.forall_mem_nil _
    | fresh => exact List.forall_mem_singleton.2 trivial
    | aliasDict x => exact List.forall_mem_singleton.2 (hbu ▸ hv.bu)

theorem magOf_some {h : Heap} {x ml : Loc} {c : Mag} (e : magOf h x = some (ml, c)) :
    ∃ qc, h.q x = some qc ∧ qc.mag = ml ∧ h.m ml = some c := by
  revert e
  fun_cases magOf h x with
  | case1 qc hq mc hm => exact fun e => by cases e; exact ⟨qc, hq, rfl, hm⟩
  | case2 => exact nofun
  | case3 => exact nofun

theorem magOf_live {h : Heap} {x ml : Loc} {c : Mag} (e : magOf h x = some (ml, c)) :
    ∃ qc, h.q x = some qc :=
  have ⟨qc, hq, _⟩ := magOf_some e
  ⟨qc, hq⟩

theorem buOf_some {h : Heap} {x b : Loc} (e : buOf h x = some b) : ∃ qc, h.q x = some qc ∧ qc.bu = b := by
  unfold buOf at e
  cases hq : h.q x with
  | none => rw [hq] at e; cases e
  | some qc => rw [hq] at e; cases e; exact ⟨qc, rfl, rfl⟩

theorem WF.bu_ok_of {h : Heap} (w : WF h) {x b : Loc} (e : buOf h x = some b) : ∃ bc, h.b b = some bc :=
  have ⟨qc, hq, hb⟩ := buOf_some e
  hb ▸ (w.q_ok x qc hq).2

theorem WF.shaped_magOf {h : Heap} (w : WF h) {x ml : Loc} {c : Mag} (e : magOf h x = some (ml, c)) :
    c.error.isArr = true → c.value.isArr = true := by
  have ⟨_, _, _, hm⟩ := magOf_some e
  intro he
  cases hce : c.error with
  | arr r => exact w.shaped ml c r hm hce
  | none => rw [hce] at he; cases he
  | scalar t => rw [hce] at he; cases he

theorem compile_valid_add {h : Heap} (w : WF h) (a b : Loc) (f : Facts) (s : Spec)
    (hc : compile h (.add a b f) = some s) : s.valid h none := by
  simp only [compile] at hc
  split at hc
  · next _ ca _ cb ba ea eb eba =>
    have va := valid_ofRef ca (w.shaped_magOf ea)
    have vb := valid_conv f cb (w.shaped_magOf eb)
    have vs := valid_sumErr va vb (w.shaped_magOf ea) (w.shaped_magOf eb)
    have okb := w.bu_ok_of eba
    split at hc
    · cases hc; exact {}
    · split at hc <;> cases hc <;> apply valid_initTail
      · exact { final := vs, bu := okb, temps := by simp [va, vb] }
      · exact { final := vs, bu := okb, temps := List.forall_mem_singleton.2 vb }
  · cases hc

theorem compile_valid_mul {h : Heap} (w : WF h) (a b : Loc) (f : Facts) (s : Spec)
    (hc : compile h (.mul a b f) = some s) : s.valid h none := by
  simp only [compile] at hc
  split at hc
  · next _ ca _ cb ea eb =>
    cases hc
    refine valid_initTail _ _ { final := valid_ite_fresh _ fun he => ?_ }
    exact Bool.or_eq_true_iff.2 ((Bool.or_eq_true_iff.1 he).imp (w.shaped_magOf ea) (w.shaped_magOf eb))
  · cases hc

theorem compile_valid_ufunc {h : Heap} (w : WF h) (u : UF) (a : Loc) (f : Facts) (s : Spec)
    (hc : compile h (.ufunc u a f) = some s) : s.valid h none := by
  simp only [compile] at hc
  split at hc
  · next _ ca ba ea eba =>
    have va := valid_conv f ca (w.shaped_magOf ea)
    have okb := w.bu_ok_of eba
    have fresh1 : ∀ b ∈ [BUSpec.fresh], b.ok h := List.forall_mem_singleton.2 trivial
    split at hc
    · cases hc; exact {}
    · cases u <;> cases hc
      · exact valid_initTail _ _ {}
      · exact valid_initTail _ _ { temps := List.forall_mem_singleton.2 va, tempBUs := fresh1 }
      · have ⟨h1, h2⟩ := valid_scaled ⟨ca.value.isArr, .none⟩ false rfl
        exact valid_initTail _ _ { final := h2, temps := List.forall_mem_cons.2 ⟨va, h1⟩,
                                   tempBUs := List.forall_mem_cons.2 ⟨trivial, fresh1⟩ }
      · exact valid_initTail _ _ { bu := okb }
      · exact valid_initTail _ _ { bu := okb }
      · exact {}
  · cases hc

theorem compile_valid_to {h : Heap} (w : WF h) (a : Loc) (u : UnitsArg) (f : Facts) (s : Spec)
    (hc : compile h (.to a u f) = some s) : s.valid h (some a) := by
  simp only [compile] at hc
  split at hc
  · next _ ca ea =>
    have va := valid_conv f ca (w.shaped_magOf ea)
    have ⟨qa, hqa⟩ := magOf_live ea
    have tgt : ∀ c ∈ (Kind.assign a).writes, ∃ x cx, c = .q x ∧ some a = some x ∧ h.q x = some cx :=
      List.forall_mem_singleton.2 ⟨a, qa, rfl, rfl, hqa⟩
    cases u with
    | text =>
      simp only at hc
      split at hc <;> cases hc
      · exact { tempBUs := List.forall_mem_singleton.2 trivial }
      · exact { final := va, writes := tgt }
    | buOf y =>
      simp only at hc
      split at hc
      · next _ eby =>
        have okb := w.bu_ok_of eby
        split at hc <;> cases hc
        · exact { tempBUs := List.forall_mem_singleton.2 okb }
        · exact { final := va, bu := okb, writes := tgt }
      · cases hc
    | qty y =>
      simp only at hc
      split at hc
      · next _ cy _ ey eby =>
        split at hc <;> cases hc
        · exact {}
        · exact { final := valid_ite_fresh _ Bool.noConfusion, bu := w.bu_ok_of eby,
                  temps := List.forall_mem_singleton.2 va, writes := tgt }
      · cases hc
  · cases hc

theorem compile_valid {h : Heap} (w : WF h) (op : Op) (s : Spec) (hc : compile h op = some s) :
    s.valid h (target op) := by
  cases op with
  -- `compile` has one alternative for `add` and `sub`, and one for `mul` and `div`: `hc` unfolds to the same equation
  | add a b f => exact compile_valid_add w a b f s hc
  | sub a b f => exact compile_valid_add w a b f s hc
  | mul a b f => exact compile_valid_mul w a b f s hc
  | div a b f => exact compile_valid_mul w a b f s hc
  | ufunc u a f => exact compile_valid_ufunc w u a f s hc
  | to a u f => exact compile_valid_to w a u f s hc
  | new isArr hasErr f =>
    cases hc
    have ⟨h1, h2⟩ := valid_scaled ⟨isArr, if hasErr then .fresh false else .none⟩ hasErr
      (valid_ite_fresh _ Bool.noConfusion)
    exact valid_initTail _ _ { final := h2, temps := h1 }
  | pow a f =>
    simp only [compile] at hc
    split at hc <;> cases hc
    next _ ca ea =>
    refine valid_initTail _ _ { final := valid_ite_fresh _ fun he => ?_ }
    exact (Bool.or_eq_true_iff.1 he).elim (w.shaped_magOf ea) id
  | neg a f =>
    simp only [compile] at hc
    split at hc <;> cases hc
    next _ ca _ ea eba =>
    exact valid_initTail _ _ { final := valid_ofRef ca (w.shaped_magOf ea), bu := w.bu_ok_of eba }
  | eq a b f =>
    simp only [compile] at hc
    split at hc
    · next _ _ cb _ eb =>
      split at hc <;> cases hc
      · refine { tempBUs := List.forall_mem_singleton.2 trivial, temps := ?_ }
        cases f.ok
        · exact List.forall_mem_nil _
        · exact List.forall_mem_singleton.2 (valid_conv f cb (w.shaped_magOf eb))
      · exact {}
    · cases hc
  | space a b f =>
    simp only [compile] at hc
    split at hc
    · next _ _ cb _ _ eb eba =>
      have okb := w.bu_ok_of eba
      split at hc <;> cases hc
      · exact {}
      · have vb := valid_conv f cb (w.shaped_magOf eb)
        exact valid_initTail _ _ { bu := okb, tempBUs := List.forall_mem_singleton.2 okb,
                                   temps := List.forall_mem_cons.2 ⟨vb, List.forall_mem_singleton.2 rfl⟩ }
    · cases hc
  | space1 b f =>
    simp only [compile] at hc
    split at hc <;> cases hc
    next _ _ _ ebb =>
    exact valid_initTail _ _ { bu := w.bu_ok_of ebb, temps := List.forall_mem_singleton.2 rfl }
  | value a f =>
    simp only [compile] at hc
    split at hc
    · next _ ca ea =>
      have fresh1 : ∀ b ∈ [BUSpec.fresh], b.ok h := List.forall_mem_singleton.2 trivial
      split at hc <;> cases hc
      · exact { tempBUs := fresh1 }
      · exact { final := valid_conv f ca (w.shaped_magOf ea), tempBUs := fresh1 }
    · cases hc
  | rebase a =>
    simp only [compile] at hc
    split at hc <;> cases hc
    next _ ca ea =>
    have ⟨qa, hqa⟩ := magOf_live ea
    exact { final := (valid_scaled ⟨ca.value.isArr, .none⟩ _ rfl).2,
            temps := List.forall_mem_singleton.2 rfl,
            writes := List.forall_mem_singleton.2 ⟨a, qa, rfl, rfl, hqa⟩ }
  | abse a => cases hc
  | rele a => cases hc
  | poke a e => cases hc

end SciVerif.C07
