import SciVerif.Lemmas.C09Registration

/-!
Histories of C09: explicit open / close in ANY order. The globals always are the
initial globals plus, appended in opening order, what the environments that are still open
registered; closing one of them (wherever it sits) removes exactly its own part.
-/
namespace SciVerif.C09

/-- everything the open environments registered, in opening order -/
def merged (opens : List Env) : Env :=
  ⟨(opens.map (·.new_units)).flatten, (opens.map (·.new_types)).flatten⟩

theorem merged_append (a b : List Env) :
    merged (a ++ b) = ⟨(merged a).new_units ++ (merged b).new_units, (merged a).new_types ++ (merged b).new_types⟩ := by
  simp only [merged, List.map_append, List.flatten_append]

theorem merged_cons (e : Env) (l : List Env) :
    merged (e :: l) = ⟨e.new_units ++ (merged l).new_units, e.new_types ++ (merged l).new_types⟩ := rfl

theorem merged_single (e : Env) : merged [e] = e := by
  simp only [merged, List.map_cons, List.map_nil, List.flatten_cons, List.flatten_nil, List.append_nil]

theorem pick_spec (l : List Env) (i : Nat) (pre post : List Env) (e : Env)
    (h : pick l i = some (pre, e, post)) : l = pre ++ e :: post := by
  fun_induction pick l i generalizing pre with
  | case1 => cases h
  | case2 => cases h; rfl
  | case3 a t j p1 x p2 hp ih => cases h; rw [List.cons_append, ← ih p1 hp]
  | case4 => cases h

theorem close_middle (g0 g : Globals) (pre post : List Env) (e : Env) (w : WF g0)
    (h : Added g0 g (merged (pre ++ e :: post))) :
    (close g e).2 = true ∧ Added g0 (close g e).1 (merged (pre ++ post)) := by
  rw [merged_append, merged_cons] at h
  obtain ⟨rs, hrs, rfl, hu, ht⟩ := added_iff.mp h
  -- split the rows like the symbols
  obtain ⟨ra, rbc, rfl, hra, hrbc⟩ := List.map_eq_append_iff.mp hrs
  obtain ⟨rb, rc, rfl, hrb, hrc⟩ := List.map_eq_append_iff.mp hrbc
  obtain ⟨ub, tb⟩ := e
  subst hrb
  rw [close_plus g0 w ra rb rc _ tb _ (hrs ▸ hu) ht, merged_append]
  refine ⟨rfl, added_iff.mpr ⟨ra ++ rc, by rw [List.map_append, hra, hrc], rfl, ?_, ?_⟩⟩
  · exact hu.sublist ((List.Sublist.refl _).append (List.sublist_append_right ..))
  · exact ht.sublist ((List.Sublist.refl _).append (List.sublist_append_right ..))

theorem hstep_inv (g0 : Globals) (w : WF g0) (s : HSt) (op : HOp)
    (h : Added g0 s.g (merged s.opens)) :
    Added g0 (hstep s op).1.g (merged (hstep s op).1.opens) ∧
    (∀ ok g', (hstep s op).2 = .closed ok g' → ok = true) := by
  -- branches of `hstep`: `__init__` raised / completed, `close` of nothing / of the `i`-th open environment, use
  fun_cases hstep s op with
  | case1 units g1 hi =>
    cases (init_spec (h.wf w) hi : g1 = s.g)
    exact ⟨h, fun _ _ hh => nomatch hh⟩
  | case2 units g1 e hi =>
    exact ⟨by rw [merged_append, merged_single]; exact h.compose (init_spec (h.wf w) hi).1, fun _ _ hh => nomatch hh⟩
  | case3 => exact ⟨h, fun _ _ hh => nomatch hh⟩
  | case4 i pre e post hp =>
    rw [pick_spec s.opens i pre post e hp] at h
    obtain ⟨c1, c2⟩ := close_middle g0 s.g pre post e w h
    exact ⟨c2, fun ok g' hh => (HEv.closed.inj hh).1 ▸ c1⟩
  | case5 => exact ⟨h, fun _ _ hh => nomatch hh⟩

theorem hrun_inv (g0 : Globals) (w : WF g0) (ops : List HOp) :
    ∀ (s : HSt), Added g0 s.g (merged s.opens) →
      Added g0 (hrun ops s).1.g (merged (hrun ops s).1.opens) ∧
      (∀ ok g', HEv.closed ok g' ∈ (hrun ops s).2 → ok = true) := by
  induction ops with
  | nil => exact fun s h => ⟨h, fun _ _ hh => nomatch hh⟩
  | cons op rest ih =>
    intro s h
    obtain ⟨h1, h2⟩ := hstep_inv g0 w s op h
    obtain ⟨k1, k2⟩ := ih (hstep s op).1 h1
    refine ⟨k1, fun ok g' hh => ?_⟩
    rcases List.mem_cons.mp hh with hh | hh
    · exact h2 ok g' hh.symm
    · exact k2 ok g' hh

end SciVerif.C09
