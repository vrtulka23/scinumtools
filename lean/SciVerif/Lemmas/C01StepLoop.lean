import SciVerif.Lemmas.C01Passes

/-!
# C01, token level: the step loop of `solve` as the composition of the nine passes, also around a frame of
  tokens the passes skip (`run_passes`); with an empty frame that is `tokens_eq_eval`.
-/
namespace SciVerif.C01
open SciVerif.C01.Gen

variable {A : Type}

/-- `runSteps` on steps whose operator names are already resolved to positions (`runSteps_resolved`) -/
def runResolved (tbl : Table) (alg : AtomAlg A) : List (List Nat × Otype) → Bufs A → M A (Bufs A)
  | [], b => .ok b
  | r :: rs, b =>
      if r.1.isEmpty then runResolved tbl alg rs b
      else match operate tbl alg r.1 r.2 b with
        | .ok b' => runResolved tbl alg rs b'
        | .error e => .error e

theorem runSteps_resolved (tbl : Table) (alg : AtomAlg A) (steps : List (List String × Otype))
    (b : Bufs A) : runSteps tbl alg steps b = runResolved tbl alg (steps.map (resolveStep tbl)) b := by
  induction steps generalizing b with
  | nil => rfl
  | cons s ss ih =>
    simp only [runSteps, List.map_cons, runResolved]
    split
    · exact ih b
    · cases operate tbl alg (resolveStep tbl s).1 (resolveStep tbl s).2 b with
      | ok b' => exact ih b'
      | error e => rfl

variable (alg : AtomAlg A) (lit : List Char → A)

theorem solveToks_error (T : List (Tok A)) (b : Bufs A) (m : String)
    (h : runResolved dflt alg passes ⟨[], T⟩ = .error (b, m)) :
    solveToks dflt alg dfltSteps T = .error m := by
  unfold solveToks
  rw [runSteps_resolved, resolve_steps, h]

theorem solveToks_ok (T : List (Tok A)) (t : Tok A)
    (h : runResolved dflt alg passes ⟨[], T⟩ = .ok ⟨[], [t]⟩) :
    solveToks dflt alg dfltSteps T = .ok t := by
  unfold solveToks
  rw [runSteps_resolved, resolve_steps, h]
  rfl

/-- the pass with operators `P` shifts the token without applying it -/
def Skipped (tbl : Table) (P : List Nat) : Tok A → Prop
  | .op i _ => isInst tbl P i = false
  | _ => True

theorem step_skipped (tbl : Table) (P : List Nat) (ot : Otype) (t : Tok A) (l r : List (Tok A))
    (h : Skipped tbl P t) : step tbl alg P ot ⟨l, t :: r⟩ = .ok ⟨t :: l, r⟩ := by
  cases t with
  | none => rfl
  | atom a => rfl
  | op i a => exact step_skip tbl alg P ot l r i a h

theorem steps_skip_all (tbl : Table) (P : List Nat) (ot : Otype) (R : List (Tok A))
    (h : ∀ t ∈ R, Skipped tbl P t) :
    ∀ (l r : List (Tok A)), StepsTo (step tbl alg P ot) R.length ⟨l, R ++ r⟩ ⟨R.reverse ++ l, r⟩ := by
  induction R with
  | nil => intro l r; exact StepsTo.refl _ _
  | cons t R ih =>
    intro l r
    have s1 := StepsTo.one (step_skipped alg tbl P ot t l (R ++ r) (h t (by simp)))
    have s2 := ih (fun x hx => h x (by simp [hx])) (t :: l) r
    have := StepsTo.trans s1 s2
    simpa [Nat.add_comm] using this

/-- One pass on `pre ++ flat k e ++ R` when it skips the frame `pre`, `R`.  `hp` is `Moves .. pre.reverse (flat k e) ..`
    at the one `rest = R` (the form in which the fixed `trailing`, `leading` have it); the iterations add up to at
    most the number of tokens, within the fuel `2 * length + 2` of `operate`. -/
theorem pass_framed (P : List Nat) (ot : Otype) (k : Nat) (e : E) (pre R : List (Tok A))
    (hpre : ∀ t ∈ pre, Skipped dflt P t) (hR : ∀ t ∈ R, Skipped dflt P t)
    (hp : ∃ c, c ≤ (flat alg lit k e).length ∧
      StepsTo (step dflt alg P ot) c ⟨pre.reverse, flat alg lit k e ++ R⟩
        ⟨(flat alg lit (k + 1) e).reverse ++ pre.reverse, R⟩) :
    operate dflt alg P ot ⟨[], pre ++ flat alg lit k e ++ R⟩
      = .ok ⟨[], pre ++ flat alg lit (k + 1) e ++ R⟩ := by
  obtain ⟨c, hc, st⟩ := hp
  have s0 := steps_skip_all alg dflt P ot pre hpre [] (flat alg lit k e ++ R)
  have s2 := steps_skip_all alg dflt P ot R hR ((flat alg lit (k + 1) e).reverse ++ pre.reverse) []
  have := StepsTo.trans (StepsTo.trans (by simpa using s0) st) (by simpa using s2)
  exact operate_of_steps dflt alg P ot _ _ (pre.length + c + R.length) (by simp; omega)
    (by simpa [List.append_assoc] using this)

/-- The central token-level lemma: passes `i .. j-1` take `pre ++ flat i e ++ R` to `pre ++ flat j e ++ R`
    when they skip every token of the frame `pre`, `R` (one `pass_step` per pass, composed). -/
theorem run_passes (hn : NegNeg alg) (e : E) (hwf : e.WF) (pre R : List (Tok A))
    (hop : OpTop pre.reverse) (i j : Nat) (hij : i ≤ j) (hj : j ≤ passes.length)
    (hskip : ∀ k (hk : k < passes.length), i ≤ k → k < j → ∀ t ∈ pre ++ R, Skipped dflt passes[k].1 t) :
    runResolved dflt alg (passes.drop i) ⟨[], pre ++ flat alg lit i e ++ R⟩
      = runResolved dflt alg (passes.drop j) ⟨[], pre ++ flat alg lit j e ++ R⟩ := by
  obtain ⟨d, rfl⟩ := Nat.exists_eq_add_of_le hij
  induction d with
  | zero => rfl
  | succ d ih =>
    have hk : i + d < passes.length := by omega
    have hs := hskip (i + d) hk (by omega) (by omega)
    rw [ih (by omega) (by omega) (fun k hk' h1 h2 => hskip k hk' h1 (by omega)),
      show i + (d + 1) = i + d + 1 from rfl, List.drop_eq_getElem_cons hk,
      runResolved, passes_nonempty _ hk,
      pass_framed alg lit _ _ _ e pre R (fun t ht => hs t (by simp [ht])) (fun t ht => hs t (by simp [ht]))
        (pass_step alg lit hn e hwf _ hk _ (fun _ _ => hop) R)]
    rfl

/-- `run_passes` from 0 to 9 with an empty frame: `flat 0 e` is the token list of `e`, `flat 9 e` its value -/
theorem tokens_eq_eval (hn : NegNeg alg) (e : E) (hwf : e.WF) :
    solveToks dflt alg dfltSteps (toks dflt alg lit e) = .ok (.atom (eval alg lit e)) := by
  have := run_passes alg lit hn e hwf [] [] trivial 0 9 (by decide) (by decide)
    (fun _ _ _ _ _ ht => by cases ht)
  simp only [List.nil_append, List.append_nil, List.drop_zero, flat_zero, flat_nine] at this
  exact solveToks_ok alg _ _ this

theorem run_passes_error (hn : NegNeg alg) (e : E) (hwf : e.WF) (pre R : List (Tok A))
    (hop : OpTop pre.reverse) (i j : Nat) (hij : i ≤ j) (hj : j < passes.length)
    (hskip : ∀ k (hk : k < passes.length), i ≤ k → k < j → ∀ t ∈ pre ++ R, Skipped dflt passes[k].1 t)
    (err : Bufs A × String)
    (herr : operate dflt alg passes[j].1 passes[j].2 ⟨[], pre ++ flat alg lit j e ++ R⟩ = .error err) :
    runResolved dflt alg (passes.drop i) ⟨[], pre ++ flat alg lit i e ++ R⟩ = .error err := by
  rw [run_passes alg lit hn e hwf pre R hop i j hij (by omega) hskip, List.drop_eq_getElem_cons hj,
    runResolved, passes_nonempty _ hj, herr]
  rfl

end SciVerif.C01
