import SciVerif.Lemmas.C10Chars

/-! C10: the species pattern `matchP` and the brace group `matchBrace` by their defining equations;
    `P2`, `P3`, `P4` (what a pass makes of a text, for any sufficient fuel) with what each pass copies — pass 3
    rewrites only `word ␣* (`, so a text keeps its image behind any parenthesis-free prefix (`P3_prefix`);
    `SubstanceSolver.preprocess` leaves explicit solver text unchanged (the four scanners are the
    identity on `renderExplicit f`, by one induction over explicit text); species of the
    documented shape, with an optional count (items), are matched exactly by the pattern. -/
namespace SciVerif.C10
open Util

/-- what may follow a complete item in explicit text: the end, a closing parenthesis, or one of
    the operator symbols ` + ` / ` * ` -/
def StopR (rest : Str) : Prop :=
  rest = [] ∨ (∃ r, rest = ')' :: r) ∨ (∃ x r, rest = ' ' :: x :: r ∧ (x = '+' ∨ x = '*'))

/-- a species text as the scanners see it; the documented notation `SpeciesShape` implies it
    (`speciesText_of_shape`), and with `valid` it gives what the solver needs, `SpeciesOK` (`speciesOK_of_text`) -/
def SpeciesText (s : Str) : Prop :=
  (∃ c0 t, s = c0 :: t ∧ isDig c0 = false ∧ ∀ c ∈ t, Inert c) ∧ Plain s ∧ (∀ c ∈ s, c ≠ '*') ∧
  ∀ rest, StopR rest → ∃ k sym br, matchP (s ++ rest) = some (k, sym, br, [], rest) ∧ k ≤ 1 ∧ sym ++ br = s

theorem matchP_none (c : Char) (r : Str) (h : Inert c) : matchP (c :: r) = none := by
  obtain ⟨h1, h2⟩ := h
  unfold matchP
  simp only [h1, Bool.false_eq_true, if_false]
  split
  · rename_i heq
    simp only [List.cons.injEq] at heq
    exact absurd heq.1 h2
  · rfl

/-- a match of the species pattern: length of the run of capitals, symbol, `{…}` suffix, count digits, rest of the text -/
abbrev MP := Nat × Str × Str × Str × Str

/-- the local `tail` of `matchP`, made nameable -/
def tailP (k : Nat) (sym r : Str) : Option MP :=
  some (k, sym, (matchBrace r).1, ((matchBrace r).2.span isDig).1, ((matchBrace r).2.span isDig).2)

theorem matchP_eq_tail (c : Char) (r : Str) (hu : isUp c = true) :
    matchP (c :: r) =
        match (c :: r).dropWhile isUp with
        | l :: r' =>
          if isLow l then tailP ((c :: r).takeWhile isUp).length ((c :: r).takeWhile isUp ++ [l]) r'
          else tailP ((c :: r).takeWhile isUp).length ((c :: r).takeWhile isUp) (l :: r')
        | [] => tailP ((c :: r).takeWhile isUp).length ((c :: r).takeWhile isUp) [] := by
  simp only [matchP, tailP, span_eq, hu, if_true]
  generalize List.dropWhile isUp (c :: r) = d
  generalize List.takeWhile isUp (c :: r) = tk
  cases d with
  | nil => rfl
  | cons l r' => simp only []

/-- `matchP` at `[` (`lb`: left bracket): a nucleon symbol `[p]`, `[n]`, `[e]`, or no match -/
theorem matchP_lb (w : Str) :
    matchP ('[' :: w) =
      match w with
      | x :: ']' :: r => if x == 'p' || x == 'n' || x == 'e' then tailP 0 ['[', x, ']'] r else none
      | _ => none := by
  have hb0 : isUp '[' = false := by decide
  cases w with
  | nil => simp [matchP, hb0]
  | cons x w1 =>
    cases w1 with
    | nil => simp [matchP, hb0]
    | cons y w2 =>
      by_cases hy : y = ']'
      · subst hy; simp only [matchP, hb0, Bool.false_eq_true, if_false, tailP]
      · simp [matchP, hy, hb0]


theorem matchP_lb_none (w : Str) (h : ¬ ∃ x r, w = x :: ']' :: r ∧ (x == 'p' || x == 'n' || x == 'e') = true) :
    matchP ('[' :: w) = none := by
  rw [matchP_lb]
  split
  · rename_i x r
    split
    · exact absurd ⟨x, r, rfl, ‹_›⟩ h
    · rfl
  · rfl

theorem startsP_inert (c : Char) (r : Str) (h : Inert c) : startsP (c :: r) = false := by
  simp [startsP, matchP_none c r h]

/-- Pass 4 makes `tw` of `w` with any fuel above the length of `w` (`P2`, `P3` alike): passes 2–4 use up at most one
    unit of fuel per character, and `preprocess` hands each `length + 1`. -/
def P4 (w tw : Str) : Prop := ∀ fuel, w.length < fuel → pass4 fuel w = tw

theorem P4_intro {w tw : Str} (h : ∀ n, w.length ≤ n → pass4 (n + 1) w = tw) : P4 w tw
  | n + 1, hf => h n (Nat.le_of_lt_succ hf)

theorem P4_nil : P4 [] [] := P4_intro fun _ _ => rfl

theorem P4_copy (c : Char) (r tr : Str) (hc : c ≠ ')') (h : P4 r tr) : P4 (c :: r) (c :: tr) := by
  refine P4_intro fun n hn => ?_
  simp [pass4, hc, h n hn]

theorem P4_run (w r tr : Str) (hw : ∀ c ∈ w, c ≠ ')') (h : P4 r tr) : P4 (w ++ r) (w ++ tr) := by
  induction w with
  | nil => exact h
  | cons c t ih => exact P4_copy c _ _ (hw c List.mem_cons_self) (ih (List.forall_mem_cons.mp hw).2)

theorem P4_noparen (w : Str) (hw : ∀ c ∈ w, c ≠ ')') : P4 w w := by
  have := P4_run w [] [] hw P4_nil
  rwa [List.append_nil] at this

/-- a count after a closing parenthesis in explicit notation -/
def mulTxt (dg : Str) : Str := if dg.isEmpty then [] else symMul ++ dg

/-- pass 4 at a closing parenthesis: digits `g1`, blanks `g2` and ordinary characters `g3` are
    the three groups of the regex `\)([0-9]*)(\s*)([^+*)\s]*)`; the four cases of `repl3` amount
    to: a count becomes ` * n`, and the blanks become ` + ` if ordinary characters follow -/
theorem pass4_rparen (n : Nat) (g1 g2 g3 r3 : Str) (h1 : ∀ c ∈ g1, isDig c = true)
    (h2 : ∀ c ∈ g2, isWs c = true) (h3 : ∀ c ∈ g3, notSpec4 c = true)
    (e1 : HeadNot isDig (g2 ++ (g3 ++ r3))) (e2 : HeadNot isWs (g3 ++ r3))
    (e3 : HeadNot notSpec4 r3) :
    pass4 (n + 1) (')' :: (g1 ++ (g2 ++ (g3 ++ r3)))) =
      ')' :: (mulTxt g1 ++ ((if g3.isEmpty then g2 else symAdd ++ g3) ++ pass4 n r3)) := by
  simp only [pass4, beq_self_eq_true, if_true, span_append_headNot h1 e1,
    span_append_headNot h2 e2, span_append_headNot h3 e3]
  cases g1 <;> cases g3 <;> simp [mulTxt, symMul]

theorem pass4_rparen_blank (n : Nat) (bl r3 : Str) (h2 : ∀ c ∈ bl, isWs c = true)
    (e1 : HeadNot isDig (bl ++ r3)) (e2 : HeadNot isWs r3) (e3 : HeadNot notSpec4 r3) :
    pass4 (n + 1) (')' :: (bl ++ r3)) = ')' :: (bl ++ pass4 n r3) :=
  pass4_rparen n [] bl [] r3 (List.forall_mem_nil _) h2 (List.forall_mem_nil _) e1 e2 e3

theorem P4_rparen (rest : Str) (hs : StopR rest) (h : P4 rest rest) : P4 (')' :: rest) (')' :: rest) := by
  refine P4_intro fun n hn => ?_
  rcases hs with rfl | ⟨r, rfl⟩ | ⟨x, r, rfl, hx⟩
  · exact (pass4_rparen_blank n [] [] (List.forall_mem_nil _) (.nil) (.nil) (.nil)).trans
      (congrArg (')' :: ·) (h n hn))
  · exact (pass4_rparen_blank n [] (')' :: r) (List.forall_mem_nil _) (.cons (by decide) _)
      (.cons (by decide) _) (.cons (by decide) _)).trans
      (congrArg (')' :: ·) (h n hn))
  · have hx' : isDig x = false ∧ isWs x = false ∧ notSpec4 x = false := by
      rcases hx with rfl | rfl <;> decide
    -- the blank is copied by `h` as well: compare at the same fuel
    have h1 := h (n + 1) (Nat.lt_succ_of_le (Nat.le_of_succ_le hn))
    rw [show pass4 (n + 1) (' ' :: x :: r) = ' ' :: pass4 n (x :: r) from by simp [pass4]] at h1
    exact (pass4_rparen_blank n [' '] (x :: r) (by decide) (.cons (by decide) _)
      (.cons hx'.2.1 _) (.cons hx'.2.2 _)).trans
      (congrArg (fun z => ')' :: z) h1)

theorem inert_digits (n : Nat) : ∀ c ∈ digitsOf n, Inert c :=
  fun c hc => inert_of_isDig c (digitsOf_all n c hc).1

theorem inert_symAdd : ∀ c ∈ symAdd, Inert c := by decide

theorem not_ge_two {k : Nat} (h : k ≤ 1) : ¬ k ≥ 2 :=
  fun h2 => absurd (Nat.le_trans h2 h) (by decide)

theorem length_lt_of_cons_append {c : Char} {tl w : Str} {n : Nat}
    (h : (c :: (tl ++ w)).length ≤ n) : w.length < n := by
  rw [List.length_cons, List.length_append] at h
  omega

/-- as `P4`, for pass 2 -/
def P2 (w tw : Str) : Prop := ∀ fuel, w.length < fuel → pass2 fuel w = tw

theorem P2_intro {w tw : Str} (h : ∀ n, w.length ≤ n → pass2 (n + 1) w = tw) : P2 w tw
  | n + 1, hf => h n (Nat.le_of_lt_succ hf)

theorem P2_nil : P2 [] [] := P2_intro fun _ _ => rfl

theorem P2_inert (c : Char) (r tr : Str) (hc : Inert c) (h : P2 r tr) : P2 (c :: r) (c :: tr) := by
  refine P2_intro fun n hn => ?_
  simp [pass2, matchP_none c r hc, h n hn]

theorem P2_run (w r tr : Str) (hw : ∀ c ∈ w, Inert c) (h : P2 r tr) : P2 (w ++ r) (w ++ tr) := by
  induction w with
  | nil => exact h
  | cons c t ih => exact P2_inert c _ _ (hw c List.mem_cons_self) (ih (List.forall_mem_cons.mp hw).2)

theorem P2_species (s rest : Str) (hs : SpeciesText s) (hst : StopR rest) (h : P2 rest rest) :
    P2 (s ++ rest) (s ++ rest) := by
  obtain ⟨⟨c0, t, rfl, _, _⟩, _, _, hm⟩ := hs
  obtain ⟨k, sym, br, hmatch, _, hsb⟩ := hm rest hst
  refine P2_intro fun n hn => ?_
  rw [List.cons_append] at hmatch hn ⊢
  simp only [pass2, hmatch, List.isEmpty_nil, if_true, List.append_nil, h n (length_lt_of_cons_append hn)]
  rw [hsb]; rfl

/-- pass 1 finds nothing to substitute anywhere in `w`: a fixed point (`pass1_of_N1`) -/
def N1 (w : Str) : Prop := pass1Step w = none

theorem N1_nil : N1 [] := rfl

theorem pass1At_of_none {s : Str} (h : matchP s = none) : pass1At s = none := by
  simp only [pass1At, h]

/-- an item begins behind the blanks that follow the match, and the blanks become ` + `; or the run of capitals is
    split before its last one (the regex backtracks); or nothing -/
theorem pass1At_of_match {s sym br dg rest : Str} {k : Nat} (h : matchP s = some (k, sym, br, dg, rest)) :
    pass1At s = if startsP (rest.dropWhile isWs) then some (sym ++ br ++ dg ++ symAdd ++ rest.dropWhile isWs)
      else if k ≥ 2 then some (s.take (k - 1) ++ symAdd ++ s.drop (k - 1)) else none := by
  simp only [pass1At, h]

theorem pass1Step_cons (c : Char) (x : Str) :
    pass1Step (c :: x) = (pass1At (c :: x)).orElse fun _ => (pass1Step x).map (c :: ·) := by
  rw [pass1Step]; cases pass1At (c :: x) <;> rfl

theorem pass1Step_inert (w x : Str) (hw : ∀ c ∈ w, Inert c) :
    pass1Step (w ++ x) = (pass1Step x).map (w ++ ·) := by
  induction w with
  | nil => simp
  | cons c t ih =>
    rw [List.cons_append, pass1Step_cons, pass1At_of_none (matchP_none c _ (hw c List.mem_cons_self)),
      ih (List.forall_mem_cons.mp hw).2, Option.map_map]
    rfl

theorem N1_run (w rest : Str) (hw : ∀ c ∈ w, Inert c) (h : N1 rest) : N1 (w ++ rest) := by
  rw [N1, pass1Step_inert w rest hw, show pass1Step rest = none from h]; rfl

theorem startsP_blanks_inert (bl : Str) (e : Char) (r : Str) (hbl : ∀ c ∈ bl, isWs c = true) (he : Inert e)
    (hw : isWs e = false) : startsP ((bl ++ e :: r).dropWhile isWs) = false := by
  rw [dropWhile_append_headNot hbl (.cons hw r)]
  exact startsP_inert e r he

theorem startsP_after_stop (rest : Str) (hst : StopR rest) : startsP (rest.dropWhile isWs) = false := by
  rcases hst with rfl | ⟨r, rfl⟩ | ⟨x, r, rfl, hx⟩
  · rfl
  · exact startsP_blanks_inert [] ')' r (List.forall_mem_nil _) (by decide) (by decide)
  · rcases hx with rfl | rfl <;> exact startsP_blanks_inert [' '] _ r (by decide) (by decide) (by decide)

theorem N1_species (s rest : Str) (hs : SpeciesText s) (hst : StopR rest) (h : N1 rest) : N1 (s ++ rest) := by
  obtain ⟨⟨c0, t, rfl, _, ht⟩, _, _, hm⟩ := hs
  obtain ⟨k, sym, br, hmatch, hk, hsb⟩ := hm rest hst
  have hk2 : ¬ (k ≥ 2) := not_ge_two hk
  have htail : N1 (t ++ rest) := N1_run t rest ht h
  rw [List.cons_append] at hmatch ⊢
  rw [N1, pass1Step_cons, pass1At_of_match hmatch, startsP_after_stop rest hst, if_neg hk2,
    show pass1Step (t ++ rest) = none from htail]
  rfl

theorem pass1_of_N1 (w : Str) (h : N1 w) (fuel : Nat) : pass1 fuel w = w := by
  cases fuel with
  | zero => rfl
  | succ n => simp [pass1, show pass1Step w = none from h]


/-- as `P4`, for pass 3 -/
def P3 (w tw : Str) : Prop := ∀ fuel, w.length < fuel → pass3 fuel w = tw

theorem P3_intro {w tw : Str} (h : ∀ n, w.length ≤ n → pass3 (n + 1) w = tw) : P3 w tw
  | n + 1, hf => h n (Nat.le_of_lt_succ hf)

/-- pass 3 at a match: a word `g1` (possibly empty), blanks `g2` and `(` are the groups of the regex
    `([^+*(\s]*)(\s*)\(`; a non-empty word is joined by ` + `, blanks alone are copied -/
theorem pass3_match (n : Nat) (g1 g2 r3 : Str) (h1 : ∀ c ∈ g1, notSpec3 c = true) (h2 : ∀ c ∈ g2, isWs c = true) :
    pass3 (n + 1) (g1 ++ (g2 ++ '(' :: r3)) = (if g1.isEmpty then g2 else g1 ++ symAdd) ++ '(' :: pass3 n r3 := by
  have e1 : HeadNot notSpec3 (g2 ++ '(' :: r3) := by
    cases g2 with
    | nil => exact .cons (by decide) _
    | cons b t => exact .cons (by simp [notSpec3, h2 b (by simp)]) _
  have hsp := span_append_headNot h1 e1
  have hws := span_append_headNot (b := '(' :: r3) h2 (.cons (by decide) _)
  obtain ⟨c, t, e⟩ : ∃ c t, g1 ++ (g2 ++ '(' :: r3) = c :: t := by
    cases g1 <;> cases g2 <;> exact ⟨_, _, rfl⟩
  rw [e] at hsp ⊢
  simp only [pass3, hsp, hws]

theorem pass3_lparen (n : Nat) (r : Str) : pass3 (n + 1) ('(' :: r) = '(' :: pass3 n r :=
  pass3_match n [] [] r (List.forall_mem_nil _) (List.forall_mem_nil _)

theorem P3_lparen (r tr : Str) (h : P3 r tr) : P3 ('(' :: r) ('(' :: tr) := by
  refine P3_intro fun n hn => ?_
  rw [pass3_lparen, h n hn]

theorem P3_lparen_tail (r tr : Str) (h : P3 ('(' :: r) ('(' :: tr)) : P3 r tr := by
  intro fuel hf
  have := h (fuel + 1) (Nat.succ_lt_succ hf)
  rw [pass3_lparen] at this
  simpa using this

theorem P3_match (g1 bl r tr : Str) (hg : ∀ c ∈ g1, notSpec3 c = true) (hne : g1 ≠ [])
    (hbl : ∀ c ∈ bl, isWs c = true) (h : P3 r tr) :
    P3 (g1 ++ (bl ++ '(' :: r)) (g1 ++ (symAdd ++ '(' :: tr)) := by
  refine P3_intro fun n hn => ?_
  have hlen : r.length < n := by
    simp only [List.length_append, List.length_cons] at hn; omega
  rw [pass3_match n g1 bl r hg hbl, List.isEmpty_eq_false_iff.mpr hne, h n hlen]
  simp only [Bool.false_eq_true, if_false, List.append_assoc]

/-- `x` does not begin with blanks followed by `(`: a word put in front of `x` is not joined to it -/
def NoOpen (x : Str) : Prop := HeadNot (· == '(') (x.dropWhile isWs)

theorem noOpen_nil : NoOpen [] := .nil

theorem noOpen_cons (a : Char) (t : Str) (h1 : isWs a = false) (h2 : a ≠ '(') : NoOpen (a :: t) := by
  rw [NoOpen, dropWhile_of_headNot (.cons h1 t)]
  exact .cons (a := a) (by simpa using h2) t

theorem noOpen_ws (a : Char) (t : Str) (h1 : isWs a = true) (h : NoOpen t) : NoOpen (a :: t) := by
  rwa [NoOpen, List.dropWhile_cons, if_pos h1]

theorem noOpen_append (w x : Str) (hw : ∀ c ∈ w, c ≠ '(') (hx : NoOpen x) : NoOpen (w ++ x) := by
  rw [NoOpen, List.dropWhile_append]
  split
  · exact hx
  · rename_i hne
    exact HeadNot.append (fun a t e => by
      simpa using hw a ((List.dropWhile_sublist isWs).subset (e ▸ List.mem_cons_self))) (by simpa using hne) x

/-- an operator sign is copied -/
theorem P3_special (c : Char) (r tr : Str) (h1 : notSpec3 c = false) (h2 : isWs c = false) (h3 : c ≠ '(')
    (h : P3 r tr) : P3 (c :: r) (c :: tr) := by
  refine P3_intro fun n hn => ?_
  simp only [pass3, span_eq, List.dropWhile_cons, h1, h2, Bool.false_eq_true, if_false]
  split
  · rename_i r3 heq; exact absurd (List.cons.inj heq).1 h3
  · rw [h n hn]

theorem pass3_blanks (bl r3 : Str) (hbl : ∀ c ∈ bl, isWs c = true) (n : Nat) :
    pass3 (n + 1) (bl ++ '(' :: r3) = bl ++ '(' :: pass3 n r3 :=
  pass3_match n [] bl r3 (List.forall_mem_nil _) hbl

/-- a blank is copied: in front of `␣* (` the match only starts earlier -/
theorem P3_ws (c : Char) (r tr : Str) (hc : isWs c = true) (h : P3 r tr) : P3 (c :: r) (c :: tr) := by
  refine P3_intro fun n hn => ?_
  have hs : notSpec3 c = false := by simp [notSpec3, hc]
  by_cases hex : ∃ r3, r.dropWhile isWs = '(' :: r3
  · obtain ⟨r3, heq⟩ := hex
    have hr : r.takeWhile isWs ++ '(' :: r3 = r := by rw [← heq, List.takeWhile_append_dropWhile]
    have h1 := h (n + 1) (Nat.lt_succ_of_le (Nat.le_of_succ_le hn))
    rw [← hr, pass3_blanks _ _ (fun _ h => mem_takeWhile h) n] at h1
    have h2 := pass3_blanks (c :: r.takeWhile isWs) r3
      (List.forall_mem_cons.mpr ⟨hc, fun _ h => mem_takeWhile h⟩) n
    rw [List.cons_append, hr] at h2
    rw [h2, ← h1]
    rfl
  · simp only [pass3, span_eq, List.dropWhile_cons, hs, hc, Bool.false_eq_true,
      if_false, if_true]
    split
    · rename_i r3 heq; exact absurd ⟨r3, heq⟩ hex
    · rw [h n hn]

/-- an ordinary character in front of `y`: the match at it, if any, is the match at the head of `y`
    with one more character in the word -/
theorem P3_word (c : Char) (y ty : Str) (hc : notSpec3 c = true) (hy : NoOpen y) (h : P3 y ty) :
    P3 (c :: y) (c :: ty) := by
  refine P3_intro fun n hn => ?_
  simp only [pass3, span_eq, List.dropWhile_cons, List.takeWhile_cons, hc, if_true]
  split
  · rename_i r3 heq
    have h1 := h (n + 1) (Nat.lt_succ_of_le (Nat.le_of_succ_le hn))
    cases y with
    | nil => cases heq
    | cons a t =>
      simp only [pass3, span_eq, heq] at h1
      have hne : ((a :: t).takeWhile notSpec3).isEmpty = false := by
        cases ha : notSpec3 a with
        | true => simp only [List.takeWhile_cons, ha, if_true, List.isEmpty_cons]
        | false => rw [List.dropWhile_cons, ha] at heq; exact absurd (hy _ _ heq) (by decide)
      rw [hne] at h1
      rw [← h1]
      simp
  · rw [h n hn]

/-- Pass 3 behind a prefix: a text keeps its image behind any parenthesis-free `w`, unless it begins with `␣* (`
    (then the last word of `w` would be joined to it). -/
theorem P3_prefix (w x tx : Str) (hw : ∀ c ∈ w, c ≠ '(') (hx : NoOpen x) (h : P3 x tx) :
    P3 (w ++ x) (w ++ tx) := by
  induction w with
  | nil => exact h
  | cons c t ih =>
    have hw' : ∀ y ∈ t, y ≠ '(' := (List.forall_mem_cons.mp hw).2
    have iht := ih hw'
    by_cases h1 : notSpec3 c = true
    · exact P3_word c _ _ h1 (noOpen_append t x hw' hx) iht
    · by_cases h2 : isWs c = true
      · exact P3_ws c _ _ h2 iht
      · exact P3_special c _ _ (by simpa using h1) (by simpa using h2) (hw c List.mem_cons_self) iht

theorem P3_nil : P3 [] [] := P3_intro fun _ _ => rfl

theorem P3_noparen (w : Str) (hw : ∀ c ∈ w, c ≠ '(') : P3 w w := by
  have := P3_prefix w [] [] hw noOpen_nil P3_nil
  rwa [List.append_nil] at this

/-- `word ␣* (` becomes `word + (` wherever the word starts -/
theorem P3_join (w0 : Str) (l : Char) (bl r tr : Str) (hw : ∀ c ∈ w0, c ≠ '(') (hl : notSpec3 l = true)
    (hbl : ∀ c ∈ bl, isWs c = true) (h : P3 r tr) :
    P3 (w0 ++ l :: (bl ++ '(' :: r)) (w0 ++ l :: (symAdd ++ '(' :: tr)) :=
  P3_prefix w0 _ _ hw (noOpen_cons l _ (notSpec3_look l hl).2 (notSpec3_look l hl).1)
    (P3_match [l] bl r tr (fun _ hc => List.mem_singleton.mp hc ▸ hl) (List.cons_ne_nil _ _) hbl h)

theorem speciesText_plain (s : Str) (h : SpeciesText s) : s ≠ [] ∧ Plain s := by
  obtain ⟨⟨c0, t, rfl, _, _⟩, hp, _, _⟩ := h
  exact ⟨List.cons_ne_nil c0 t, hp⟩

/-- What an induction over explicit text needs from a property `Q` of texts, read from the right:
    it survives putting a species, a number, an operator symbol or a parenthesis in front.  `R`
    is what is known in addition about a text that follows a complete item (species, number or
    closing parenthesis). -/
structure ExplClosed (Q R : Str → Prop) : Prop where
  species : ∀ s rest, SpeciesText s → R rest → Q rest → Q (s ++ rest)
  digits : ∀ n rest, R rest → Q rest → Q (digitsOf n ++ rest)
  op : ∀ x, x = '+' ∨ x = '*' → ∀ w, Q w → Q (' ' :: x :: ' ' :: w) ∧ R (' ' :: x :: ' ' :: w)
  lparen : ∀ w, Q w → Q ('(' :: w)
  rparen : ∀ rest, R rest → Q rest → Q (')' :: rest) ∧ R (')' :: rest)

theorem ExplClosed.rE {Q R : Str → Prop} (hQ : ExplClosed Q R) (f : F) (hs : f.spAll SpeciesText) :
    ∀ rest, R rest → Q rest → Q (renderExplicit f ++ rest) := by
  induction f with
  | sp s => intro rest hr h; exact hQ.species s rest hs hr h
  | count g n ih | mulx g n ih =>
    intro rest hr h
    obtain ⟨h1, h2⟩ := hQ.op '*' (Or.inr rfl) _ (hQ.digits n rest hr h)
    simp only [renderExplicit, List.append_assoc]
    exact ih hs _ h2 h1
  | group g ih =>
    intro rest hr h
    obtain ⟨h1, h2⟩ := hQ.rparen rest hr h
    simp only [renderExplicit, List.cons_append, List.append_assoc]
    exact hQ.lparen _ (ih hs _ h2 h1)
  | seq ws a b iha ihb | plus a b iha ihb =>
    intro rest hr h
    obtain ⟨h1, h2⟩ := hQ.op '+' (Or.inl rfl) _ (ihb hs.2 rest hr h)
    simp only [renderExplicit, List.append_assoc]
    exact iha hs.1 _ h2 h1

theorem stopR_op (x : Char) (hx : x = '+' ∨ x = '*') (w : Str) : StopR (' ' :: x :: ' ' :: w) :=
  Or.inr (Or.inr ⟨x, ' ' :: w, rfl, hx⟩)

theorem inert_op (x : Char) (hx : x = '+' ∨ x = '*') : ∀ c ∈ [' ', x, ' '], Inert c := by
  rcases hx with rfl | rfl <;> decide

theorem explClosed_N1 : ExplClosed N1 StopR where
  species s rest hs hst h := N1_species s rest hs hst h
  digits n rest _ h := N1_run _ rest (inert_digits n) h
  op x hx w h := ⟨N1_run [' ', x, ' '] w (inert_op x hx) h, stopR_op x hx w⟩
  lparen w h := N1_run ['('] w (by decide) h
  rparen rest _ h := ⟨N1_run [')'] rest (by decide) h, Or.inr (Or.inl ⟨rest, rfl⟩)⟩

theorem explClosed_P2 : ExplClosed (fun w => P2 w w) StopR where
  species s rest hs hst h := P2_species s rest hs hst h
  digits n rest _ h := P2_run _ rest rest (inert_digits n) h
  op x hx w h := ⟨P2_run [' ', x, ' '] w w (inert_op x hx) h, stopR_op x hx w⟩
  lparen w h := P2_inert '(' w w (by decide) h
  rparen rest _ h := ⟨P2_inert ')' rest rest (by decide) h, Or.inr (Or.inl ⟨rest, rfl⟩)⟩

theorem explClosed_P3 : ExplClosed (fun w => P3 w w) NoOpen where
  species s rest hs hr h := P3_prefix s rest rest (fun c hc => (hs.2.1 c hc).1) hr h
  digits n rest hr h := P3_prefix _ rest rest (fun c hc => (digitsOf_plain n c hc).1) hr h
  op x hx w h :=
    have hx' : notSpec3 x = false ∧ isWs x = false ∧ x ≠ '(' := by rcases hx with rfl | rfl <;> decide
    ⟨P3_ws ' ' _ _ (by decide) (P3_special x _ _ hx'.1 hx'.2.1 hx'.2.2 (P3_ws ' ' _ _ (by decide) h)),
      noOpen_ws ' ' _ (by decide) (noOpen_cons x _ hx'.2.1 hx'.2.2)⟩
  lparen w h := P3_lparen w w h
  rparen rest hr h := ⟨P3_word ')' rest rest (by decide) hr h, noOpen_cons ')' rest (by decide) (by decide)⟩

theorem explClosed_P4 : ExplClosed (fun w => P4 w w) StopR where
  species s rest hs _ h := P4_run s rest rest (fun c hc => (hs.2.1 c hc).2.1) h
  digits n rest _ h := P4_run _ rest rest (fun c hc => (digitsOf_plain n c hc).2.1) h
  op x hx w h :=
    ⟨P4_run [' ', x, ' '] w w (by rcases hx with rfl | rfl <;> decide) h, stopR_op x hx w⟩
  lparen w h := P4_copy '(' w w (by decide) h
  rparen rest hst h := ⟨P4_rparen rest hst h, Or.inr (Or.inl ⟨rest, rfl⟩)⟩

theorem preprocess_explicit (f : F) (hs : f.spAll SpeciesText) :
    preprocess (renderExplicit f) = renderExplicit f := by
  have h1 := explClosed_N1.rE f hs [] (Or.inl rfl) N1_nil
  have h2 := explClosed_P2.rE f hs [] (Or.inl rfl) P2_nil
  have h3 := explClosed_P3.rE f hs [] noOpen_nil P3_nil
  have h4 := explClosed_P4.rE f hs [] (Or.inl rfl) P4_nil
  simp only [List.append_nil] at h1 h2 h3 h4
  simp only [preprocess, pass1_of_N1 _ h1, h2 _ (Nat.lt_succ_self _), h3 _ (Nat.lt_succ_self _),
    h4 _ (Nat.lt_succ_self _)]

theorem punct_plain : ∀ c ∈ ['{', '}', '+', '-', '[', ']'], PlainC c ∧ c ≠ '*' := by decide

/-- the isotope/charge suffix: empty or `{` + digits/signs + `}` -/
def BraceOK (br : Str) : Prop :=
  br = [] ∨ ∃ body, body ≠ [] ∧ (∀ c ∈ body, isDig c = true ∨ c = '+' ∨ c = '-') ∧ br = '{' :: body ++ ['}']

/-- the documented species notation: one capital with an optional small letter, or a nucleon
    symbol, followed by an optional suffix -/
def SpeciesShape (s : Str) : Prop :=
  ∃ sym br, s = sym ++ br ∧ BraceOK br ∧
    ((∃ u, isUp u = true ∧ sym = [u]) ∨ (∃ u l, isUp u = true ∧ isLow l = true ∧ sym = [u, l]) ∨
     (∃ x, (x = 'p' ∨ x = 'n' ∨ x = 'e') ∧ sym = ['[', x, ']']))

theorem speciesShape_up (u : Char) (hu : isUp u = true) : SpeciesShape [u] :=
  ⟨[u], [], rfl, Or.inl rfl, Or.inl ⟨u, hu, rfl⟩⟩

theorem brace_chars (br : Str) (h : BraceOK br) :
    ∀ c ∈ br, (PlainC c ∧ c ≠ '*') ∧ Inert c := by
  rcases h with rfl | ⟨body, _, hb, rfl⟩
  · simp
  · intro c hc
    simp only [List.mem_cons, List.mem_append, List.not_mem_nil, or_false] at hc
    rcases hc with (rfl | hc) | rfl
    · exact ⟨by decide, by decide⟩
    · rcases hb c hc with hd | rfl | rfl
      · exact ⟨word_plain c (Or.inr (Or.inr hd)), inert_of_isDig c hd⟩
      · exact ⟨by decide, by decide⟩
      · exact ⟨by decide, by decide⟩
    · exact ⟨by decide, by decide⟩

theorem StopR.headIn {rest : Str} (h : StopR rest) : HeadIn [' ', '(', ')'] rest := by
  rcases h with rfl | ⟨r, rfl⟩ | ⟨x, r, rfl, _⟩
  · exact .nil
  · exact .cons (by decide) _
  · exact .cons (by decide) _

theorem matchBrace_cons_ne (c : Char) (w : Str) (hc : c ≠ '{') : matchBrace (c :: w) = ([], c :: w) := by
  simp only [matchBrace]
  split
  · rename_i heq; exact absurd (List.cons.inj heq).1 hc
  · rfl

theorem matchBrace_closed (r body r2 : Str)
    (h : r.span (fun c => isDig c || c == '+' || c == '-') = (body, '}' :: r2)) :
    matchBrace ('{' :: r) = if body.isEmpty then ([], '{' :: r) else ('{' :: body ++ ['}'], r2) := by
  simp only [matchBrace, h]

theorem matchBrace_open (r body r1 : Str)
    (h : r.span (fun c => isDig c || c == '+' || c == '-') = (body, r1)) (h1 : HeadNot (· == '}') r1) :
    matchBrace ('{' :: r) = ([], '{' :: r) := by
  simp only [matchBrace, h]
  split
  · exact absurd (h1 _ _ rfl) (by decide)
  · rfl

/-- `matchBrace` reads exactly a suffix `br` when no brace follows it (`nb`) -/
theorem matchBrace_nb (br w : Str) (hb : BraceOK br) (hw : HeadNot (· == '{') w) :
    matchBrace (br ++ w) = (br, w) := by
  rcases hb with rfl | ⟨body, hne, hbody, rfl⟩
  · cases w with
    | nil => rfl
    | cons c r => exact matchBrace_cons_ne c r (by simpa using hw c r rfl)
  · have hcls : ∀ c ∈ body, (isDig c || c == '+' || c == '-') = true := by
      intro c hc
      rcases hbody c hc with h | rfl | rfl
      · simp [h]
      · decide
      · decide
    have hsp := span_append_headNot (b := '}' :: w) hcls (.cons (by decide) _)
    have := matchBrace_closed (body ++ '}' :: w) body w hsp
    rw [List.isEmpty_eq_false_iff.mpr hne] at this
    simpa only [List.cons_append, List.append_assoc, List.singleton_append, List.nil_append,
      Bool.false_eq_true, if_false] using this

theorem matchP_up1 (u : Char) (w : Str) (hu : isUp u = true) (hw : HeadNot isUp w) (hw' : HeadNot isLow w) :
    matchP (u :: w) = tailP 1 [u] w := by
  rw [matchP_eq_tail u w hu, List.takeWhile_cons, if_pos hu, List.dropWhile_cons, if_pos hu]
  cases w with
  | nil => rfl
  | cons c r =>
    rw [List.takeWhile_cons, List.dropWhile_cons, hw c r rfl]
    simp only [Bool.false_eq_true, if_false, hw' c r rfl]
    rfl

theorem matchP_up2 (u l : Char) (w : Str) (hu : isUp u = true) (hl : isLow l = true) (hlu : isUp l = false) :
    matchP (u :: l :: w) = tailP 1 [u, l] w := by
  rw [matchP_eq_tail u _ hu, List.takeWhile_cons, if_pos hu, List.dropWhile_cons, if_pos hu,
    List.takeWhile_cons, List.dropWhile_cons, hlu]
  simp only [Bool.false_eq_true, if_false, hl, if_true]
  rfl

theorem matchP_nuc (x : Char) (w : Str) (hx : (x == 'p' || x == 'n' || x == 'e') = true) :
    matchP ('[' :: x :: ']' :: w) = tailP 0 ['[', x, ']'] w := by
  rw [matchP_lb]
  exact if_pos hx

theorem matchP_up_some (c : Char) (r : Str) (h : isUp c = true) :
    ∃ k sym br dg rest, matchP (c :: r) = some (k + 1, sym, br, dg, rest) := by
  rw [matchP_eq_tail c r h, List.takeWhile_cons, if_pos h, List.length_cons]
  split
  · split <;> exact ⟨_, _, _, _, _, rfl⟩
  · exact ⟨_, _, _, _, _, rfl⟩

theorem startsP_up (c : Char) (r : Str) (h : isUp c = true) : startsP (c :: r) = true := by
  obtain ⟨k, sym, br, dg, rest, hm⟩ := matchP_up_some c r h
  rw [startsP, hm]
  rfl

theorem matchP_cons_up (u u2 : Char) (w' : Str) (hu : isUp u = true) (hu2 : isUp u2 = true) :
    matchP (u :: u2 :: w') =
      (matchP (u2 :: w')).map fun r => (r.1 + 1, u :: r.2.1, r.2.2.1, r.2.2.2.1, r.2.2.2.2) := by
  rw [matchP_eq_tail u _ hu, matchP_eq_tail u2 _ hu2, List.takeWhile_cons (a := u), if_pos hu,
    List.dropWhile_cons (x := u), if_pos hu]
  split
  · split <;> rfl
  · rfl

def AllDig (dg : Str) : Prop := ∀ c ∈ dg, isDig c = true

/-- a species with an optional count -/
structure Item where
  sp : Str
  dg : Str

def Item.text (it : Item) : Str := it.sp ++ it.dg
def Item.OK (it : Item) : Prop := SpeciesShape it.sp ∧ AllDig it.dg
/-- a single capital and nothing else: the only items whose capital merges with a following one -/
def Item.bare (it : Item) : Prop := (∃ u, isUp u = true ∧ it.sp = [u]) ∧ it.dg = []

/-- The text `w` behind the item `it` does not continue it: it starts with no digit (the count would go on), no
    small letter (the symbol), no `{` (a suffix), and with no capital if `it` is a bare capital (the run of
    capitals would go on). -/
def Follow (it : Item) (w : Str) : Prop :=
  HeadNot isDig w ∧ HeadNot isLow w ∧ HeadNot (· == '{') w ∧ (it.bare → HeadNot isUp w)

theorem follow_of_headIn (it : Item) {w : Str} (h : HeadIn [' ', '(', ')'] w) : Follow it w :=
  ⟨h.headNot (by decide), h.headNot (by decide), h.headNot (by decide), fun _ => h.headNot (by decide)⟩

/-- the species pattern matches exactly an item that the text behind it does not continue -/
theorem matchP_item (it : Item) (w : Str) (hok : it.OK) (hf : Follow it w) :
    ∃ k sym br, matchP (it.text ++ w) = some (k, sym, br, it.dg, w) ∧ k ≤ 1 ∧ sym ++ br = it.sp := by
  obtain ⟨⟨sym, br, hsp, hb, hsym⟩, hd⟩ := hok
  obtain ⟨hF1, hF2, hF3, hF4⟩ := hf
  -- a class without digits that does not start `w` does not start `dg ++ w` either
  have hdg : ∀ {p : Char → Bool}, (∀ c, isDig c = true → p c = false) → HeadNot p w → HeadNot p (it.dg ++ w) :=
    fun hp hw => .append_of_all (fun c hc => hp c (hd c hc)) hw
  have hmb := matchBrace_nb br (it.dg ++ w) hb (hdg (fun c h => by simpa using (dig_not_letter c h).2.2) hF3)
  have hsd := span_append_headNot (p := isDig) hd hF1
  have htext : it.text ++ w = sym ++ (br ++ (it.dg ++ w)) := by simp [Item.text, hsp, List.append_assoc]
  rw [htext]
  rcases hsym with ⟨u, hu, rfl⟩ | ⟨u, l, hu, hl, rfl⟩ | ⟨x, hx, rfl⟩
  · refine ⟨1, [u], br, ?_, le_refl 1, hsp.symm⟩
    have hhead : HeadNot isUp (br ++ (it.dg ++ w)) ∧ HeadNot isLow (br ++ (it.dg ++ w)) := by
      rcases hb with rfl | ⟨body, _, _, rfl⟩
      · refine ⟨?_, hdg (fun c h => (dig_not_letter c h).2.1) hF2⟩
        by_cases hdn : it.dg = []
        · rw [hdn]
          exact hF4 ⟨⟨u, hu, by simpa using hsp⟩, hdn⟩
        · exact HeadNot.append (fun a t e => (dig_not_letter a (hd a (by rw [e]; exact List.mem_cons_self))).1) hdn w
      · exact ⟨.cons (a := '{') (by decide) _, .cons (a := '{') (by decide) _⟩
    show matchP (u :: (br ++ (it.dg ++ w))) = _
    rw [matchP_up1 u _ hu hhead.1 hhead.2, tailP, hmb, hsd]
  · refine ⟨1, [u, l], br, ?_, le_refl 1, hsp.symm⟩
    show matchP (u :: l :: (br ++ (it.dg ++ w))) = _
    rw [matchP_up2 u l _ hu hl (low_inert l hl).1, tailP, hmb, hsd]
  · refine ⟨0, ['[', x, ']'], br, ?_, Nat.zero_le 1, hsp.symm⟩
    have hxx : (x == 'p' || x == 'n' || x == 'e') = true := by
      rcases hx with rfl | rfl | rfl <;> decide
    show matchP ('[' :: x :: ']' :: (br ++ (it.dg ++ w))) = _
    rw [matchP_nuc x _ hxx, tailP, hmb, hsd]

theorem sym_chars (sym : Str)
    (hsym : (∃ u, isUp u = true ∧ sym = [u]) ∨ (∃ u l, isUp u = true ∧ isLow l = true ∧ sym = [u, l]) ∨
      (∃ x, (x = 'p' ∨ x = 'n' ∨ x = 'e') ∧ sym = ['[', x, ']'])) :
    (∀ c ∈ sym, PlainC c ∧ c ≠ '*') ∧
      ∃ c0 t, sym = c0 :: t ∧ isDig c0 = false ∧ ∀ c ∈ t, Inert c := by
  rcases hsym with ⟨u, hu, rfl⟩ | ⟨u, l, hu, hl, rfl⟩ | ⟨x, hx, rfl⟩
  · exact ⟨List.forall_mem_singleton.mpr (word_plain u (Or.inl hu)), u, [], rfl, (up_not_dig u hu).1, List.forall_mem_nil _⟩
  · exact ⟨List.forall_mem_cons.mpr ⟨word_plain u (Or.inl hu),
      List.forall_mem_singleton.mpr (word_plain l (Or.inr (Or.inl hl)))⟩, u, [l], rfl, (up_not_dig u hu).1,
      List.forall_mem_singleton.mpr (low_inert l hl)⟩
  · rcases hx with rfl | rfl | rfl <;> exact ⟨by decide, _, _, rfl, by decide, by decide⟩

theorem speciesText_of_shape (s : Str) (h : SpeciesShape s) : SpeciesText s := by
  -- the species pattern matches exactly `s`: an item without a count
  have hmatch : ∀ rest, StopR rest →
      ∃ k sym br, matchP (s ++ rest) = some (k, sym, br, [], rest) ∧ k ≤ 1 ∧ sym ++ br = s := by
    intro rest hst
    have := matchP_item ⟨s, []⟩ rest ⟨h, List.forall_mem_nil _⟩ (follow_of_headIn _ hst.headIn)
    simpa only [Item.text, List.append_nil] using this
  obtain ⟨sym, br, rfl, hb, hsym⟩ := h
  have hbr := brace_chars br hb
  obtain ⟨hsy, c0, t, rfl, hd, ht⟩ := sym_chars sym hsym
  have hall : ∀ c ∈ c0 :: t ++ br, PlainC c ∧ c ≠ '*' :=
    List.forall_mem_append.mpr ⟨hsy, fun c hc => (hbr c hc).1⟩
  exact ⟨⟨c0, t ++ br, rfl, hd, List.forall_mem_append.mpr ⟨ht, fun c hc => (hbr c hc).2⟩⟩,
    fun c hc => (hall c hc).1, fun c hc => (hall c hc).2, hmatch⟩

theorem speciesOK_of_text (valid : Str → Bool) (s : Str) (h : SpeciesText s) (hv : valid s = true) :
    SpeciesOK valid s := by
  obtain ⟨⟨c0, t, rfl, hd, _⟩, hp, _, _⟩ := h
  refine ⟨by simp, hp, ?_, hv⟩
  intro c t' e
  simp only [List.cons.injEq] at e
  rw [← e.1]; exact hd

theorem spAll_speciesOK (valid : Str → Bool) (f : F)
    (hs : f.spAll fun s => SpeciesShape s ∧ valid s = true) : f.spAll (SpeciesOK valid) :=
  spAll_mono (fun s h => speciesOK_of_text valid s (speciesText_of_shape s h.1) h.2) f hs

theorem renderExplicit_ne_nil (f : F) (hs : f.spAll SpeciesText) : renderExplicit f ≠ [] := by
  obtain ⟨⟨a, t, e, _⟩, _⟩ := edge_rE f (spAll_mono speciesText_plain f hs)
  rw [e]; simp

end SciVerif.C10
