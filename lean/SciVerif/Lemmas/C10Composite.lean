import SciVerif.Model.C10
import Mathlib.Data.Nat.Cast.Basic

/-! C10: the `Composite` dict operations accumulate counts.  Dicts are compared through
    their key order and the per-key `total`, which unlike `cget` is additive under `cadd` whether or not keys
    repeat; on the duplicate-free dicts the operations produce the two coincide. -/
namespace SciVerif.C10
variable {α : Type}

/-- the species of a dict in insertion order (`components.keys()`) -/
def keys (cs : Comps α) : List Str := cs.map Prod.fst

theorem keys_cons (k : Str) (p : α) (t : Comps α) : keys ((k, p) :: t) = k :: keys t := rfl

variable [Semiring α]

def total : Comps α → Str → α
  | [], _ => 0
  | (k', p) :: t, k => (if k' = k then p else 0) + total t k

theorem total_cadd (cs : Comps α) (k k' : Str) (p : α) :
    total (cadd cs k p) k' = total cs k' + (if k = k' then p else 0) := by
  fun_induction cadd cs k p with
  | case1 k p => simp [total]
  | case2 pa t k p =>
    by_cases h2 : k = k'
    · simp only [if_true, total, h2]; rw [add_right_comm]
    · simp [total, h2]
  | case3 ka pa t k p h ih => simp only [total, ih]; rw [add_assoc]

theorem total_caddAll (acc src : Comps α) (k : Str) :
    total (caddAll acc src) k = total acc k + total src k := by
  induction src generalizing acc with
  | nil => simp [caddAll, total]
  | cons a t ih =>
    obtain ⟨ka, pa⟩ := a
    have := ih (cadd acc ka pa)
    simp only [caddAll, List.foldl_cons] at this ⊢
    rw [this, total_cadd, total, add_assoc]

theorem total_cmul_aux (acc cs : Comps α) (x : α) (k : Str) :
    total (cs.foldl (fun a kp => cadd a kp.1 (kp.2 * x)) acc) k = total acc k + total cs k * x := by
  induction cs generalizing acc with
  | nil => simp [total]
  | cons a t ih =>
    obtain ⟨ka, pa⟩ := a
    simp only [List.foldl_cons, ih, total_cadd, total]
    by_cases h : ka = k <;> simp [h, add_mul, add_assoc]

theorem total_cmul (cs : Comps α) (x : α) (k : Str) : total (cmul cs x) k = total cs k * x := by
  simp [cmul, total_cmul_aux, total]

theorem total_cplus (a b : Comps α) (k : Str) : total (cplus a b) k = total a k + total b k := by
  simp [cplus, total_caddAll, total]

theorem keys_cadd (cs : Comps α) (k : Str) (p : α) :
    keys (cadd cs k p) = if k ∈ keys cs then keys cs else keys cs ++ [k] := by
  fun_induction cadd cs k p with
  | case1 k p => simp [keys]
  | case2 pa t k p => simp [keys]
  | case3 ka pa t k p h ih =>
    simp only [keys, List.map_cons, List.mem_cons] at ih ⊢
    rw [ih]
    by_cases hm : k ∈ List.map Prod.fst t <;> simp [hm, Ne.symm h]

theorem nodup_snoc {β : Type} {l : List β} {a : β} (h : l.Nodup) (ha : a ∉ l) : (l ++ [a]).Nodup :=
  List.nodup_append.mpr ⟨h, List.pairwise_singleton _ a, fun _ hx _ hy e => ha (List.mem_singleton.mp hy ▸ e ▸ hx)⟩

theorem nodup_cadd (cs : Comps α) (k : Str) (p : α) (h : (keys cs).Nodup) :
    (keys (cadd cs k p)).Nodup := by
  rw [keys_cadd]
  by_cases hk : k ∈ keys cs
  · simpa [hk] using h
  · rw [if_neg hk]
    exact nodup_snoc h hk

theorem nodup_foldl_cadd (g : Str × α → α) (src acc : Comps α) (h : (keys acc).Nodup) :
    (keys (src.foldl (fun a kp => cadd a kp.1 (g kp)) acc)).Nodup := by
  induction src generalizing acc with
  | nil => simpa using h
  | cons a t ih => exact ih _ (nodup_cadd acc a.1 (g a) h)

theorem keys_foldl_cadd (g : Str × α → α) (src acc : Comps α) (hs : (keys src).Nodup) :
    keys (src.foldl (fun a kp => cadd a kp.1 (g kp)) acc) =
      keys acc ++ (keys src).filter (fun k => !(keys acc).contains k) := by
  induction src generalizing acc with
  | nil => simp [keys]
  | cons a t ih =>
    obtain ⟨ka, pa⟩ := a
    rw [keys_cons, List.nodup_cons] at hs
    obtain ⟨hka, hs'⟩ := hs
    simp only [List.foldl_cons]
    rw [ih _ hs', keys_cadd, keys_cons]
    by_cases hk : ka ∈ keys acc
    · have hc : (keys acc).contains ka = true := by simpa using hk
      simp only [hk, if_true, List.filter_cons, hc, Bool.not_true]
      simp
    · have hc : (keys acc).contains ka = false := by simpa using hk
      simp only [hk, if_false, List.filter_cons, hc, Bool.not_false, if_true, List.append_assoc,
        List.singleton_append]
      congr 2
      apply List.filter_congr
      intro k hkt
      have hne : k ≠ ka := fun e => hka (e ▸ hkt)
      simp [hne]

theorem total_of_not_mem (cs : Comps α) (k : Str) (h : k ∉ keys cs) : total cs k = 0 := by
  induction cs with
  | nil => rfl
  | cons b t ih =>
    simp only [keys, List.map_cons, List.mem_cons, not_or] at h
    simp only [total, if_neg (Ne.symm h.1), zero_add]
    exact ih h.2

theorem cget_eq_total (cs : Comps α) (k : Str) (h : (keys cs).Nodup) : cget cs k = total cs k := by
  induction cs with
  | nil => simp [cget, total]
  | cons a t ih =>
    obtain ⟨ka, pa⟩ := a
    simp only [keys, List.map_cons, List.nodup_cons] at h
    by_cases hk : ka = k
    · subst hk; simp [cget, total, total_of_not_mem t ka h.1]
    · simp [cget, total, hk, ih h.2]

theorem eq_of_keys_cget (cs : Comps α) (h : (keys cs).Nodup) :
    cs = (keys cs).map fun k => (k, cget cs k) := by
  induction cs with
  | nil => rfl
  | cons a t ih =>
    obtain ⟨ka, pa⟩ := a
    simp only [keys, List.map_cons, List.nodup_cons] at h
    simp only [keys, List.map_cons, cget, if_true, List.cons.injEq, true_and]
    conv => lhs; rw [ih h.2]
    simp only [keys, List.map_map]
    apply List.map_congr_left
    intro b hb
    have : ¬ ka = b.1 := fun e => h.1 (by simpa [e] using List.mem_map_of_mem (f := Prod.fst) hb)
    simp [Function.comp, this]

theorem nodup_cplus (a b : Comps α) : (keys (cplus a b)).Nodup :=
  nodup_foldl_cadd (fun kp => kp.2) _ _ (nodup_foldl_cadd (fun kp => kp.2) _ [] (by simp [keys]))

theorem nodup_cmul (a : Comps α) (x : α) : (keys (cmul a x)).Nodup :=
  nodup_foldl_cadd (fun kp => kp.2 * x) _ [] (by simp [keys])

theorem nodup_evalF (f : F) : (keys (evalF f : Comps α)).Nodup := by
  induction f with
  | sp s => simp [evalF, keys]
  | count f n ih | mulx f n ih =>
    exact nodup_cmul _ _
  | group f ih => exact ih
  | seq ws a b iha ihb | plus a b iha ihb =>
    exact nodup_cplus _ _

theorem total_evalF (f : F) (k : Str) : total (evalF f : Comps α) k = (expandCount k f : α) := by
  induction f with
  | sp s => by_cases h : s = k <;> simp [evalF, total, expandCount, h]
  | count f n ih | mulx f n ih => simp [evalF, total_cmul, ih, expandCount]
  | group f ih => simpa [evalF, expandCount] using ih
  | seq ws a b iha ihb | plus a b iha ihb => simp [evalF, total_cplus, iha, ihb, expandCount]

theorem filter_const_true (l : List Str) : l.filter (fun _ => true) = l :=
  List.filter_eq_self.mpr fun _ _ => rfl

theorem keys_cmul (cs : Comps α) (x : α) (h : (keys cs).Nodup) : keys (cmul cs x) = keys cs := by
  have := keys_foldl_cadd (fun kp => kp.2 * x) cs [] h
  simpa [cmul, keys, filter_const_true] using this

theorem keys_cplus (a b : Comps α) (ha : (keys a).Nodup) (hb : (keys b).Nodup) :
    keys (cplus a b) = keys a ++ (keys b).filter (fun k => !(keys a).contains k) := by
  have h1 : keys (caddAll [] a) = keys a := by
    have := keys_foldl_cadd (fun kp => kp.2) a [] ha
    simpa [caddAll, keys, filter_const_true] using this
  have := keys_foldl_cadd (fun kp => kp.2) b (caddAll [] a) hb
  simp only [cplus, caddAll] at this ⊢
  rw [this]
  simp only [caddAll] at h1
  rw [h1]

theorem keys_evalF (f : F) : keys (evalF f : Comps α) = speciesOf f := by
  induction f with
  | sp s => simp [evalF, keys, speciesOf]
  | count f n ih | mulx f n ih =>
    simp only [evalF, speciesOf]; rw [keys_cmul _ _ (nodup_evalF f), ih]
  | group f ih => simpa [evalF, speciesOf] using ih
  | seq ws a b iha ihb | plus a b iha ihb =>
    simp only [evalF, speciesOf]; rw [keys_cplus _ _ (nodup_evalF a) (nodup_evalF b), iha, ihb]

theorem evalF_eq_expand (f : F) :
    (evalF f : Comps α) = (expand f).map fun kn => (kn.1, (kn.2 : α)) := by
  rw [eq_of_keys_cget (evalF f) (nodup_evalF f), keys_evalF, expand, List.map_map]
  apply List.map_congr_left
  intro k _
  simp only [Function.comp]
  rw [cget_eq_total _ _ (nodup_evalF f), total_evalF]

theorem cplus_assoc (a b c : Comps α) (ha : (keys a).Nodup) (hb : (keys b).Nodup) (hc : (keys c).Nodup) :
    cplus (cplus a b) c = cplus a (cplus b c) := by
  rw [eq_of_keys_cget _ (nodup_cplus (cplus a b) c), eq_of_keys_cget (cplus a (cplus b c)) (nodup_cplus _ _)]
  have hk : keys (cplus (cplus a b) c) = keys (cplus a (cplus b c)) := by
    rw [keys_cplus _ _ (nodup_cplus a b) hc, keys_cplus _ _ ha hb, keys_cplus _ _ ha (nodup_cplus b c),
      keys_cplus _ _ hb hc, List.filter_append, List.filter_filter, List.append_assoc]
    congr 2
    apply List.filter_congr
    intro k _
    by_cases h1 : k ∈ keys a <;> by_cases h2 : k ∈ keys b <;> simp [h1, h2]
  rw [hk]
  apply List.map_congr_left
  intro k _
  rw [cget_eq_total _ _ (nodup_cplus _ _), cget_eq_total _ _ (nodup_cplus _ _)]
  simp only [total_cplus, add_assoc]

theorem foldl_cplus_assoc (t : List (Comps α)) : ∀ (x y : Comps α), (keys x).Nodup → (keys y).Nodup →
    (∀ z ∈ t, (keys z).Nodup) → t.foldl cplus (cplus x y) = cplus x (t.foldl cplus y) := by
  induction t with
  | nil => intro x y _ _ _; rfl
  | cons z t ih =>
    intro x y hx hy hz
    simp only [List.foldl_cons]
    rw [cplus_assoc x y z hx hy (hz z List.mem_cons_self),
      ih x (cplus y z) hx (nodup_cplus y z) (fun w hw => hz w (by simp [hw]))]

theorem nodup_foldl_cplus (l : List (Comps α)) (u : Comps α) (hu : (keys u).Nodup) :
    (keys (l.foldl cplus u)).Nodup := by
  induction l generalizing u with
  | nil => exact hu
  | cons w l ih => exact ih _ (nodup_cplus u w)

def sumFacts : List (Comps α) → Comps α
  | [] => []
  | v :: vs => vs.foldl cplus v

theorem sumFacts_append (xs ys : List (Comps α)) (hx : xs ≠ []) (hy : ys ≠ [])
    (hnx : ∀ z ∈ xs, (keys z).Nodup) (hny : ∀ z ∈ ys, (keys z).Nodup) :
    sumFacts (xs ++ ys) = cplus (sumFacts xs) (sumFacts ys) := by
  obtain ⟨x, xs', rfl⟩ := List.exists_cons_of_ne_nil hx
  obtain ⟨y, ys', rfl⟩ := List.exists_cons_of_ne_nil hy
  simp only [sumFacts, List.cons_append, List.foldl_append, List.foldl_cons]
  exact foldl_cplus_assoc ys' _ y (nodup_foldl_cplus xs' x (hnx x List.mem_cons_self)) (hny y List.mem_cons_self)
    (List.forall_mem_cons.mp hny).2

end SciVerif.C10
