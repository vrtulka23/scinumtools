import SciVerif.Lemmas.C03Render

/-! # C03: rejection at text level — an operand the atom parser refuses, a group never closed or with
several arguments, a missing operand make `UnitSolver(text)` fail, whatever follows -/
namespace SciVerif.C03

/-- where the tokenising loop hands the collected operand text to the atom parser: end of the text
    or one of the characters `(`, `*`, `/` -/
def stopsAt (post : Str) : Prop :=
  post = [] ∨ ∃ c r, post = c :: r ∧ (c = '(' ∨ c = '*' ∨ c = '/')

/-- what may stand in front of a refused operand: nothing, or a parenthesis-free text ending in `*` or `/` -/
def leadOk (lead : Str) : Prop :=
  lead = [] ∨ ∃ pre op, lead = pre ++ [op] ∧ (op = '*' ∨ op = '/') ∧ '(' ∉ pre

/-- the text between `(` and its matching `)`: the depth counter (starting at `d`) never closes
    the group inside, and there is no comma at depth 1 -/
def innerOk : Str → Nat → Bool
  | [], d => d == 1
  | c :: r, d =>
    if c = '(' then innerOk r (d + 1)
    else if c = ',' then d != 1 && innerOk r d
    else if c = ')' then d != 1 && innerOk r (d - 1)
    else innerOk r d

/-- a text in which the group opened before it is never closed -/
def unclosed : Str → Nat → Bool
  | [], _ => true
  | c :: r, d =>
    if c = '(' then unclosed r (d + 1)
    else if c = ')' then d != 1 && unclosed r (d - 1)
    else unclosed r d

/-- `unclosed` follows the branches of the scan, which therefore runs into the end of the text -/
theorem scanPar_unclosed (rest : Str) (d : Nat) (left : Str) (args : List Str)
    (h : unclosed rest d = true) : scanPar rest d left args = .error .paren := by
  fun_induction unclosed rest d generalizing left args <;> simp_all [scanPar]
  -- what remains is a comma at depth 1: the scan goes on at the same depth
  rintro - rfl
  simp_all

/-- `innerOk` follows the branches of the scan, which therefore comes back to depth 1 behind the text -/
theorem scanPar_over (tail inner : Str) (d : Nat) (left : Str) (args : List Str)
    (h : innerOk inner d = true) :
    scanPar (inner ++ tail) d left args = scanPar tail 1 (inner.reverse ++ left) args := by
  fun_induction innerOk inner d generalizing left args <;> simp_all [scanPar]

theorem scanPar_inner (tail inner : Str) (d : Nat) (left : Str) (args : List Str)
    (h : innerOk inner d = true) :
    scanPar (inner ++ ')' :: tail) d left args = .ok (args ++ [strip (inner.reverse ++ left).reverse], tail) := by
  rw [scanPar_over _ inner d left args h, scanPar_close_one]

theorem scanPar_comma (inner1 rest : Str) (h : innerOk inner1 1 = true) :
    (∃ e, scanPar (inner1 ++ ',' :: rest) 1 [] [] = .error e) ∨
    (∃ as r, scanPar (inner1 ++ ',' :: rest) 1 [] [] = .ok (as, r) ∧ 2 ≤ as.length) := by
  rw [scanPar_over _ inner1 1 [] [] h, scanPar]
  simp only [show ¬ (',' : Char) = '(' by decide, if_false, true_and, if_true]
  cases hs : scanPar rest 1 [] ([] ++ [strip (inner1.reverse ++ []).reverse]) with
  | error e => exact Or.inl ⟨e, rfl⟩
  | ok r =>
    obtain ⟨mid, a, e, _⟩ := scanPar_shape _ _ _ _ r.1 r.2 hs
    exact Or.inr ⟨r.1, r.2, rfl, by rw [e]; simp⟩

/-- A text with a refused operand at a place the scan reaches (`first`: at the start, followed by the end of the
    text or `(`, `*`, `/`; `afterOp`, `inPar`, `afterPar`: behind an operator sign, inside or behind the first group),
    or whose first `(` is never closed (`open`) or has a comma at depth 1, that is several arguments (`comma`). -/
inductive BadText (T : Tables) : Str → Prop
  | first (piece post : Str) : tokPlain piece → stopsAt post → strip piece ≠ [] →
      (∃ e, atomParse T (strip piece) = .error e) → BadText T (piece ++ post)
  | afterOp (pre : Str) (op : Char) (tail : Str) : '(' ∉ pre → (op = '*' ∨ op = '/') →
      BadText T tail → BadText T (pre ++ op :: tail)
  | inPar (pre inner tail : Str) : '(' ∉ pre → innerOk inner 1 = true →
      BadText T (strip inner) → BadText T (pre ++ '(' :: (inner ++ ')' :: tail))
  | afterPar (pre inner tail : Str) : '(' ∉ pre → innerOk inner 1 = true →
      BadText T tail → BadText T (pre ++ '(' :: (inner ++ ')' :: tail))
  | «open» (pre rest : Str) : '(' ∉ pre → unclosed rest 1 = true → BadText T (pre ++ '(' :: rest)
  | comma (pre inner1 rest : Str) : '(' ∉ pre → innerOk inner1 1 = true →
      BadText T (pre ++ '(' :: (inner1 ++ ',' :: rest))

theorem tok_group (T : Tables) (inner tail left : Str) (toks : List Tok) (h : innerOk inner 1 = true) :
    tok T ('(' :: (inner ++ ')' :: tail)) left toks =
      (flushLeft T left toks).bind fun toks1 => (sol T (strip inner)).bind fun v =>
        tok T tail [] (toks1 ++ [.par v]) := by
  have hscan := scanPar_inner tail inner 1 [] [] h
  simp only [List.append_nil, List.reverse_reverse, List.nil_append] at hscan
  rw [tok_open, hscan]
  rfl

/-- whatever parenthesis-free text stands in front: a property every error has holds of the loop's
    result if it holds once the loop has reached `tail` -/
theorem tok_walkP (T : Tables) (P : Except Err (List Tok) → Prop) (hP : ∀ e, P (.error e)) (tail : Str)
    (htail : ∀ (left : Str) (toks : List Tok), P (tok T tail left toks)) :
    ∀ (pre : Str), '(' ∉ pre → ∀ (left : Str) (toks : List Tok), P (tok T (pre ++ tail) left toks) := by
  intro pre
  induction pre with
  | nil => intro _ left toks; exact htail left toks
  | cons c pre' ih =>
    intro hnp left toks
    have ih := ih fun h => hnp (List.mem_cons_of_mem _ h)
    by_cases hc : isOpChar c
    · rw [List.cons_append, tok_op T c hc]
      cases flushLeft T left toks with
      | error e => exact hP e
      | ok toks1 => exact ih _ _
    · have := tok_shift T [c] (pre' ++ tail) left toks (by
        intro x hx; cases List.mem_singleton.mp hx
        exact ⟨fun h => hnp (h ▸ List.mem_cons_self), fun h => hc (Or.inl h), fun h => hc (Or.inr h)⟩)
      rw [List.cons_append]; exact this ▸ ih _ _

theorem tok_walk_fails (T : Tables) (pre tail : Str) (hpre : '(' ∉ pre)
    (h : ∀ (left : Str) (toks : List Tok), ∃ err, tok T tail left toks = .error err) (toks : List Tok) :
    ∃ err, tok T (pre ++ tail) [] toks = .error err :=
  tok_walkP T (fun r => ∃ err, r = .error err) (fun e => ⟨e, rfl⟩) tail h pre hpre [] toks

theorem BadText.tok_error {T : Tables} {s : Str} (h : BadText T s) :
    ∀ (toks : List Tok), ∃ err, tok T s [] toks = .error err := by
  induction h with
  | first piece post hp hpost hne hbad =>
    intro toks
    rw [tok_shift T piece post [] toks hp, List.append_nil]
    obtain ⟨e, he⟩ := hbad
    have hfl : flushLeft T piece.reverse toks = .error e := by
      unfold flushLeft
      simp only [List.reverse_reverse, hne, if_false, he]
    rcases hpost with rfl | ⟨c, r, rfl, rfl | rfl | rfl⟩
    · exact ⟨e, by rw [tok_nil, hfl]⟩
    · exact ⟨e, by rw [tok_open, hfl]; rfl⟩
    · exact ⟨e, by rw [tok_op T '*' (Or.inl rfl), hfl]; rfl⟩
    · exact ⟨e, by rw [tok_op T '/' (Or.inr rfl), hfl]; rfl⟩
  | afterOp pre op tail hnp hop _ ih =>
    refine tok_walk_fails T pre _ hnp fun left toks => ?_
    rw [tok_op T op hop]
    exact bind_fails fun _ => ih _
  | inPar pre inner tail hnp hin _ ih =>
    refine tok_walk_fails T pre _ hnp fun left toks => ?_
    obtain ⟨err, herr⟩ := ih []
    rw [tok_group T inner tail left toks hin, sol, herr]
    exact bind_fails fun _ => ⟨err, rfl⟩
  | afterPar pre inner tail hnp hin _ ih =>
    refine tok_walk_fails T pre _ hnp fun left toks => ?_
    rw [tok_group T inner tail left toks hin]
    exact bind_fails fun _ => bind_fails fun _ => ih _
  | «open» pre rest hnp hun =>
    refine tok_walk_fails T pre _ hnp fun left toks => ?_
    rw [tok_open, scanPar_unclosed rest 1 [] [] hun]
    exact bind_fails fun _ => ⟨.paren, rfl⟩
  | comma pre inner1 rest hnp hin =>
    refine tok_walk_fails T pre _ hnp fun left toks => ?_
    rw [tok_open]
    refine bind_fails fun toks1 => ?_
    rcases scanPar_comma inner1 rest hin with ⟨e, he⟩ | ⟨as, r, he, hlen⟩
    · exact ⟨e, by rw [he]; rfl⟩
    · refine ⟨.paren, ?_⟩
      rw [he]
      match as, hlen with
      | [], h => simp at h
      | [x], h => simp at h
      | x :: y :: zs, _ => rfl

theorem unitSolver_badText (T : Tables) (s : Str) (h : BadText T s) :
    ∃ err, unitSolver T s = .error err := by
  obtain ⟨err, herr⟩ := h.tok_error []
  exact ⟨err, by rw [unitSolver, solve_unitSolver, sol, herr]⟩

theorem BadText.of_operand {T : Tables} {lead piece post : Str} (hl : leadOk lead) (hp : tokPlain piece)
    (hpost : stopsAt post) (hne : strip piece ≠ []) (hbad : ∃ e, atomParse T (strip piece) = .error e) :
    BadText T (lead ++ piece ++ post) := by
  have h0 : BadText T (piece ++ post) := .first piece post hp hpost hne hbad
  rcases hl with rfl | ⟨pre, op, rfl, hop, hnp⟩
  · exact h0
  · have e : pre ++ [op] ++ piece ++ post = pre ++ op :: (piece ++ post) := by simp
    rw [e]
    exact .afterOp pre op _ hnp hop h0

theorem reject_all (T : Tables) (s : Str) (h : ∃ err, unitSolver T s = .error err) :
    ∃ err, unitSolver T s = .error err ∧ err ≠ .fuel ∧
      baseUnitsOfText T s = .error err ∧ quantityOfText T s = .error err := by
  obtain ⟨err, herr⟩ := h
  refine ⟨err, herr, ?_, ?_, ?_⟩
  · intro h; rw [h] at herr; exact unitSolver_no_fuel T _ herr
  · unfold baseUnitsOfText; rw [herr]
  · unfold quantityOfText; rw [herr]

theorem binPass_op_bad (op : Tok) (hop : isOpTok op) (left right : List Tok)
    (h : (∀ a l, left ≠ .val (some a) :: l) ∨ ∀ b r, right ≠ .val (some b) :: r) :
    binPass left (op :: right) = .error .operand := by
  rcases hop with rfl | rfl <;>
  · unfold binPass
    split
    · rcases h with h | h <;> exact absurd rfl (h _ _)
    · rfl

/-- what stands behind an operator that lacks its right operand: nothing, or another operator -/
def noOperand (B : List Tok) : Prop := B = [] ∨ ∃ t B', B = t :: B' ∧ isOpTok t

/-- an operator that lacks its right operand does not stand directly behind `x, operand`: it is further on -/
theorem defect_further (x : Tok) (b : Option Atom) (r A : List Tok) (op : Tok) (B : List Tok)
    (h : x :: .val b :: r = A ++ op :: B) (hop : isOpTok op) (hB : noOperand B) :
    ∃ A', r = A' ++ op :: B := by
  match A, h with
  | [], h =>
    cases h
    rcases hB with h | ⟨_, _, h, h' | h'⟩ <;> cases h <;> cases h'
  | [_], h => cases h; rcases hop with h | h <;> cases h
  | _ :: _ :: A', h => cases h; exact ⟨A', rfl⟩

/-- the pass follows its own cases: where it goes on, the operator without operand is still ahead -/
theorem binPass_defect_ahead (left right : List Tok) :
    ∀ (A : List Tok) (op : Tok) (B : List Tok), right = A ++ op :: B → isOpTok op → noOperand B →
      ∃ e, binPass left right = .error e := by
  fun_induction binPass left right
  -- cases of `binPass`: 1 end, 2 `*` between two values, 3 `*` without them, 4/5 `/` between two values (5 by zero), 6 `/` without them, 7 any other token is shifted
  case case1 => intro A op B h; cases A <;> cases h
  case case2 ih | case4 ih =>
    intro A op B h hop hB
    obtain ⟨A', rfl⟩ := defect_further _ _ _ A op B h hop hB
    exact ih A' op B rfl hop hB
  case case7 t _ hm hd ih =>
    intro A op B h hop hB
    cases A with
    | nil =>
      cases h
      rcases hop with h | h
      · exact (hm h).elim
      · exact (hd h).elim
    | cons _ A' => cases h; exact ih A' op B rfl hop hB
  all_goals exact fun _ _ _ _ _ _ => ⟨_, rfl⟩

theorem binPass_defect (op : Tok) (hop : isOpTok op) (B : List Tok) (hB : noOperand B) :
    ∀ (n : Nat) (A left : List Tok), A.length ≤ n → ∃ e, binPass left (A ++ op :: B) = .error e :=
  fun _ A left _ => binPass_defect_ahead left _ A op B rfl hop hB

/-- a token list the binary pass must refuse: it begins with an operator, or holds one without right operand -/
def Defective (res : List Tok) : Prop :=
  (∃ op B, res = op :: B ∧ isOpTok op) ∨
  (∃ A op B, res = A ++ op :: B ∧ isOpTok op ∧ noOperand B)

/-- a result of the tokenising loop that makes `unitSolver` fail: an error, or a defective token list -/
def Rej : Except Err (List Tok) → Prop
  | .error _ => True
  | .ok res => Defective res

theorem binPass_defective (res : List Tok) (h : Defective res) :
    ∃ e, binPass [] (argsPass res) = .error e := by
  rcases h with ⟨op, B, rfl, hop⟩ | ⟨A, op, B, rfl, hop, hB⟩
  · rw [argsPass_op op hop]
    exact ⟨_, binPass_op_bad op hop [] _ (Or.inl (by intro a l h; cases h))⟩
  · rw [argsPass_append, argsPass_op op hop]
    have hB' : noOperand (argsPass B) := by
      rcases hB with rfl | ⟨t, B', rfl, ht⟩
      · exact Or.inl rfl
      · exact Or.inr ⟨t, argsPass B', argsPass_op t ht B', ht⟩
    exact binPass_defect op hop _ hB' _ (argsPass A) [] (Nat.le_refl _)

theorem opTok_isOp (c : Char) : isOpTok (opTok c) := by
  unfold opTok; split
  · exact Or.inl rfl
  · exact Or.inr rfl

theorem unitSolver_of_rej (T : Tables) (s : Str) (h : Rej (tok T s [] [])) :
    ∃ err, unitSolver T s = .error err := by
  rw [unitSolver, solve_unitSolver, sol]
  cases ht : tok T s [] [] with
  | error e => exact ⟨e, rfl⟩
  | ok res =>
    rw [ht] at h
    obtain ⟨e, he⟩ := binPass_defective res h
    exact ⟨e, by simp only [evalToks, he]⟩

/-- at an operator sign `c` with nothing to flush: if every list that begins `toks ++ [opTok c]` is defective,
    the loop is rejected here, since whatever it returns begins so (`tok_prefix`) -/
theorem rej_behind_op (T : Tables) (c : Char) (hc : isOpChar c) (rest left : Str) (toks : List Tok)
    (hfl : flushLeft T left toks = .ok toks) (h : ∀ more, Defective (toks ++ [opTok c] ++ more)) :
    Rej (tok T (c :: rest) left toks) := by
  rw [tok_op T c hc, hfl]
  show Rej (tok T rest [] (toks ++ [opTok c]))
  cases hres : tok T rest [] (toks ++ [opTok c]) with
  | error e => trivial
  | ok res =>
    obtain ⟨more, rfl⟩ := tok_prefix T rest [] _ res hres
    exact h more

theorem tok_no_right_operand (T : Tables) (t : Tok) (ht : isOpTok t) (rest : Str)
    (hshape : (∃ mid c post, rest = mid ++ c :: post ∧ blank mid ∧ isOpChar c) ∨ blank rest)
    (toks0 : List Tok) : Rej (tok T rest [] (toks0 ++ [t])) := by
  rcases hshape with ⟨mid, c, post, rfl, hmid, hc⟩ | hr
  · rw [tok_shift T mid _ [] _ (tokPlain_of_blank mid hmid), List.append_nil]
    refine rej_behind_op T c hc post _ _ (flushLeft_blank T mid _ hmid) fun more => ?_
    exact Or.inr ⟨toks0, t, opTok c :: more, by simp, ht, Or.inr ⟨_, more, rfl, opTok_isOp c⟩⟩
  · have := tok_shift T rest [] [] (toks0 ++ [t]) (tokPlain_of_blank rest hr)
    rw [List.append_nil, List.append_nil] at this
    rw [this, tok_nil, flushLeft_blank T rest _ hr]
    exact Or.inr ⟨toks0, t, [], rfl, ht, Or.inl rfl⟩

theorem unitSolver_missing_right (T : Tables) (pre : Str) (c : Char) (rest : Str) (hpre : '(' ∉ pre)
    (hc : isOpChar c)
    (hshape : (∃ mid c2 post, rest = mid ++ c2 :: post ∧ blank mid ∧ isOpChar c2) ∨ blank rest) :
    ∃ err, unitSolver T (pre ++ c :: rest) = .error err := by
  refine unitSolver_of_rej T _ (tok_walkP T Rej (fun _ => trivial) (c :: rest) (fun left toks => ?_) pre hpre [] [])
  rw [tok_op T c hc]
  cases flushLeft T left toks with
  | error e => trivial
  | ok toks1 => exact tok_no_right_operand T (opTok c) (opTok_isOp c) rest hshape toks1

theorem unitSolver_missing_left (T : Tables) (l : Str) (c : Char) (rest : Str) (hl : blank l)
    (hc : isOpChar c) : ∃ err, unitSolver T (l ++ c :: rest) = .error err := by
  refine unitSolver_of_rej T _ ?_
  rw [tok_shift T l _ [] [] (tokPlain_of_blank l hl), List.append_nil]
  exact rej_behind_op T c hc rest _ [] (flushLeft_blank T l [] hl) fun more =>
    Or.inl ⟨opTok c, more, by simp, opTok_isOp c⟩

end SciVerif.C03
