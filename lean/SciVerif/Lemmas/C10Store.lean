import SciVerif.Model.C10Heap
import SciVerif.Lemmas.C10Composite

/-! C10: the object store refines the value semantics; frame property of `add`. -/
namespace SciVerif.C10

/-- no composite shares a component object with another one (or with itself twice), every
    component object has been allocated, composites beyond `nobj` do not exist -/
structure Heap.WF (h : Heap) : Prop where
  beyond : ∀ i, h.nobj ≤ i → h.objs i = []
  alloc : ∀ i kc, kc ∈ h.objs i → kc.2 < h.next
  disjoint : ∀ i j kc kc', kc ∈ h.objs i → kc' ∈ h.objs j → kc.2 = kc'.2 → i = j
  nodup : ∀ i, ((h.objs i).map Prod.snd).Nodup

theorem findCell_mem (l : List (Str × Nat)) (k : Str) (c : Nat) (h : findCell l k = some c) :
    (k, c) ∈ l := by
  fun_induction findCell l k with
  | case1 => cases h
  | case2 k c' t => cases h; exact List.mem_cons_self
  | case3 k' c' t k hk ih => exact List.mem_cons_of_mem _ (ih h)

/-- a cell that no entry of `l` points to may be written without changing what `l` reads -/
theorem read_frame (cells : Nat → Rat) (l : List (Str × Nat)) (c : Nat) (v : Rat) (h : ∀ kc ∈ l, kc.2 ≠ c) :
    l.map (fun kc => (kc.1, if kc.2 = c then v else cells kc.2)) = l.map fun kc => (kc.1, cells kc.2) :=
  List.map_congr_left fun kc hkc => by rw [if_neg (h kc hkc)]

theorem read_add_some (cells : Nat → Rat) (l : List (Str × Nat)) (k : Str) (c : Nat) (p : Rat)
    (hn : (l.map Prod.snd).Nodup) (hf : findCell l k = some c) :
    l.map (fun kc => (kc.1, if kc.2 = c then cells c + p else cells kc.2)) =
      cadd (l.map fun kc => (kc.1, cells kc.2)) k p := by
  fun_induction findCell l k with
  | case1 => cases hf
  | case2 k c' t =>
    cases hf
    simp only [List.map_cons, List.nodup_cons] at hn
    simp only [List.map_cons, if_true, cadd]
    congr 1
    exact read_frame cells _ c _ fun kc hkc e => hn.1 (e ▸ List.mem_map_of_mem (f := Prod.snd) hkc)
  | case3 k' c' t k hk ih =>
    simp only [List.map_cons, List.nodup_cons] at hn
    have hc : c' ≠ c := fun e => hn.1 (e ▸ List.mem_map_of_mem (f := Prod.snd) (findCell_mem t k c hf))
    simp only [List.map_cons, cadd, hk, if_false, hc, ih hn.2 hf]

theorem cadd_none (l : Comps Rat) (k : Str) (p : Rat) (h : ∀ kp ∈ l, kp.1 ≠ k) : cadd l k p = l ++ [(k, p)] := by
  induction l with
  | nil => rfl
  | cons a t ih =>
    obtain ⟨k', p'⟩ := a
    have hk : k' ≠ k := h (k', p') (by simp)
    simp [cadd, hk, ih (fun kp hkp => h kp (by simp [hkp]))]

theorem findCell_none (l : List (Str × Nat)) (k : Str) (h : findCell l k = none) : ∀ kc ∈ l, kc.1 ≠ k := by
  fun_induction findCell l k with
  | case1 => simp
  | case2 k c' t => cases h
  | case3 k' c' t k hk ih =>
    exact List.forall_mem_cons.mpr ⟨hk, ih h⟩

theorem read_add_self (h : Heap) (hw : h.WF) (i : Nat) (k : Str) (p : Rat) :
    (h.add i k p).read i = cadd (h.read i) k p := by
  unfold Heap.add
  cases hf : findCell (h.objs i) k with
  | some c =>
    simp only [Heap.read]
    exact read_add_some h.cells (h.objs i) k c p (hw.nodup i) hf
  | none =>
    simp only [Heap.read, if_true, List.map_append, List.map_cons, List.map_nil]
    rw [cadd_none _ k p (List.forall_mem_map.mpr (findCell_none _ k hf))]
    congr 1
    exact read_frame _ _ _ _ fun kc hkc => Nat.ne_of_lt (hw.alloc i kc hkc)

theorem read_add_other (h : Heap) (hw : h.WF) (i j : Nat) (hij : j ≠ i) (k : Str) (p : Rat) :
    (h.add i k p).read j = h.read j := by
  unfold Heap.add
  cases hf : findCell (h.objs i) k with
  | some c =>
    exact read_frame _ _ c _ fun kc hkc e => hij (hw.disjoint j i kc (k, c) hkc (findCell_mem _ k c hf) e)
  | none =>
    simp only [Heap.read, hij, if_false]
    exact read_frame _ _ _ _ fun kc hkc => Nat.ne_of_lt (hw.alloc j kc hkc)

/-- the entries of object `i'` once a new key went into object `i`: the old ones, all below `next`, and in `i`
    the fresh cell -/
theorem mem_objs_insert (h : Heap) (hw : h.WF) (i : Nat) (k : Str) (i' : Nat) (kc : Str × Nat)
    (hkc : kc ∈ (if i' = i then h.objs i ++ [(k, h.next)] else h.objs i')) :
    (kc ∈ h.objs i' ∧ kc.2 < h.next) ∨ (i' = i ∧ kc.2 = h.next) := by
  by_cases e' : i' = i
  · simp only [e', if_true, List.mem_append, List.mem_singleton] at hkc
    rcases hkc with hkc | rfl
    · exact Or.inl ⟨e' ▸ hkc, hw.alloc i kc hkc⟩
    · exact Or.inr ⟨e', rfl⟩
  · simp only [e', if_false] at hkc
    exact Or.inl ⟨hkc, hw.alloc i' kc hkc⟩

theorem wf_add (h : Heap) (hw : h.WF) (i : Nat) (hi : i < h.nobj) (k : Str) (p : Rat) : (h.add i k p).WF := by
  unfold Heap.add
  cases hf : findCell (h.objs i) k with
  | some c => exact ⟨hw.beyond, hw.alloc, hw.disjoint, hw.nodup⟩
  | none =>
    refine ⟨?_, ?_, ?_, ?_⟩
    · intro i' hi'
      have : i' ≠ i := by intro e; subst e; exact absurd hi (by simpa using hi')
      simpa [this] using hw.beyond i' hi'
    · intro i' kc hkc
      rcases mem_objs_insert h hw i k i' kc hkc with ⟨_, l⟩ | ⟨_, n⟩
      · exact Nat.lt_succ_of_lt l
      · exact n ▸ Nat.lt_succ_self _
    · intro i1 i2 kc kc' h1 h2 e
      rcases mem_objs_insert h hw i k i1 kc h1 with ⟨m1, l1⟩ | ⟨e1, n1⟩ <;>
        rcases mem_objs_insert h hw i k i2 kc' h2 with ⟨m2, l2⟩ | ⟨e2, n2⟩
      · exact hw.disjoint i1 i2 kc kc' m1 m2 e
      · omega
      · omega
      · rw [e1, e2]
    · intro i'
      simp only
      by_cases e : i' = i
      · simp only [e, if_true, List.map_append, List.map_cons, List.map_nil]
        exact nodup_snoc (hw.nodup i) fun ha => by
          obtain ⟨kc, hkc, e⟩ := List.mem_map.mp ha
          exact Nat.ne_of_lt (hw.alloc i kc hkc) e
      · simpa [e] using hw.nodup i'

theorem nobj_add (h : Heap) (i : Nat) (k : Str) (p : Rat) : (h.add i k p).nobj = h.nobj := by
  unfold Heap.add; cases findCell (h.objs i) k <;> rfl

theorem addAll_spec (src : Comps Rat) : ∀ (h : Heap), h.WF → ∀ n, n < h.nobj →
    (h.addAll n src).WF ∧ (h.addAll n src).nobj = h.nobj ∧
    (h.addAll n src).read n = caddAll (h.read n) src ∧
    ∀ j, j ≠ n → (h.addAll n src).read j = h.read j := by
  induction src with
  | nil => intro h hw n hn; exact ⟨hw, rfl, rfl, fun _ _ => rfl⟩
  | cons kp t ih =>
    intro h hw n hn
    have hw' := wf_add h hw n hn kp.1 kp.2
    have hn' : n < (h.add n kp.1 kp.2).nobj := by rw [nobj_add]; exact hn
    obtain ⟨w, e0, e1, e2⟩ := ih (h.add n kp.1 kp.2) hw' n hn'
    refine ⟨w, by rw [show (h.addAll n (kp :: t)) = (h.add n kp.1 kp.2).addAll n t from rfl, e0, nobj_add], ?_, ?_⟩
    · show ((h.add n kp.1 kp.2).addAll n t).read n = _
      rw [e1, read_add_self h hw]; rfl
    · intro j hj
      show ((h.add n kp.1 kp.2).addAll n t).read j = _
      rw [e2 j hj, read_add_other h hw n j hj]

theorem wf_alloc (h : Heap) (hw : h.WF) : h.alloc.WF ∧ h.alloc.read h.nobj = [] ∧ ∀ j, h.alloc.read j = h.read j := by
  refine ⟨⟨fun i hi => hw.beyond i (by simp [Heap.alloc] at hi; omega), hw.alloc, hw.disjoint, hw.nodup⟩, ?_, fun _ => rfl⟩
  simp [Heap.read, Heap.alloc, hw.beyond h.nobj (le_refl _)]

theorem wf_empty : Heap.empty.WF := ⟨fun _ _ => rfl, by simp [Heap.empty], by simp [Heap.empty], by simp [Heap.empty]⟩

theorem plus_spec (h : Heap) (hw : h.WF) (i j : Nat) :
    (h.plus i j).WF ∧ (h.plus i j).nobj = h.nobj + 1 ∧
    (h.plus i j).read h.nobj = cplus (h.read i) (h.read j) ∧
    ∀ m, m ≠ h.nobj → (h.plus i j).read m = h.read m := by
  obtain ⟨wa, ra, fa⟩ := wf_alloc h hw
  have hn : h.nobj < h.alloc.nobj := by simp [Heap.alloc]
  obtain ⟨w1, n1, r1, f1⟩ := addAll_spec (h.read i) h.alloc wa h.nobj hn
  obtain ⟨w2, n2, r2, f2⟩ := addAll_spec (h.read j) _ w1 h.nobj (by rw [n1]; exact hn)
  refine ⟨w2, by rw [Heap.plus, n2, n1]; rfl, ?_, ?_⟩
  · rw [Heap.plus, r2, r1, ra]; rfl
  · intro m hm
    rw [Heap.plus, f2 m hm, f1 m hm, fa]

end SciVerif.C10
