import SciVerif.Lemmas.C15

/-! C15, arbitrary line sequences: the stack of open branches mirrors the declarative
    "latest line indented no deeper than `k`" description (`specOpenAt`), and a line is refused
    exactly when the text calls it misplaced (`step_level`): the machine fails on exactly the texts
    with a misplaced clause line (`run_error_iff`). -/
namespace SciVerif.C15

/-- Indents strictly increase towards the top of the stack. -/
def SortedSt : List Branch → Prop
  | [] => True
  | b :: bs => Below b.cur.indent bs ∧ SortedSt bs

theorem sortedSt_closeGE (k : Nat) {st : List Branch} (h : SortedSt st) : SortedSt (closeGE k st) := by
  induction st with
  | nil => exact h
  | cons b bs ih =>
    by_cases hk : k ≤ b.cur.indent
    · rw [closeGE_cons_ge bs hk]; exact ih h.2
    · rw [closeGE_of_below (below_cons (Nat.not_le.mp hk))]; exact h

/-- The clause open at level `k`: the current clause of the branch on top once everything deeper
    than `k` is closed, if it is written at `k`. -/
def openTop (k : Nat) (st : List Branch) : Option Case :=
  match closeGE (k + 1) st with
  | b :: _ => if b.cur.indent = k then some b.cur else none
  | [] => none

theorem openTop_closeGE (k i : Nat) (st : List Branch) :
    openTop k (closeGE i st) = if i ≤ k then none else openTop k st := by
  by_cases h : i ≤ k
  · simp only [h, if_true]
    have hb : Below (k + 1) (closeGE i st) := (closeGE_below i st).mono (by omega)
    unfold openTop
    rw [closeGE_of_below hb]
    cases hx : closeGE i st with
    | nil => rfl
    | cons b bs =>
      have := closeGE_below i st b (by rw [hx]; rfl)
      have hne : ¬ b.cur.indent = k := by omega
      simp [hne]
  · simp only [h, if_false]
    unfold openTop
    rw [closeGE_closeGE_le (by omega)]

theorem openTop_push (k i : Nat) (b : Branch) (X : List Branch) (hi : b.cur.indent = i) :
    openTop k (b :: X) = if i ≤ k then (if i = k then some b.cur else none) else openTop k X := by
  subst hi
  by_cases h : b.cur.indent ≤ k
  · have h1 : ¬ k + 1 ≤ b.cur.indent := by omega
    simp [openTop, closeGE, h1, h]
  · have h1 : k + 1 ≤ b.cur.indent := by omega
    simp [openTop, closeGE, h1, h]

theorem openTop_some {i : Nat} {st : List Branch} {c : Case} (h : openTop i st = some c) :
    ∃ b bs, closeGE (i + 1) st = b :: bs ∧ b.cur.indent = i ∧ b.cur = c := by
  unfold openTop at h
  cases hc : closeGE (i + 1) st with
  | nil => simp [hc] at h
  | cons b bs =>
    simp only [hc] at h
    by_cases hi : b.cur.indent = i
    · simp only [hi, if_true, Option.some.injEq] at h
      exact ⟨b, bs, rfl, hi, h⟩
    · simp [hi] at h

theorem openTop_of_top {i : Nat} {st : List Branch} {b : Branch} {bs : List Branch}
    (h : closeGE (i + 1) st = b :: bs) (hi : b.cur.indent = i) : openTop i st = some b.cur := by
  simp [openTop, h, hi]

theorem mem_closeGE {k : Nat} {st : List Branch} {b : Branch} (h : b ∈ closeGE k st) : b ∈ st := by
  induction st with
  | nil => cases h
  | cons c cs ih =>
    by_cases hk : k ≤ c.cur.indent
    · rw [closeGE_cons_ge cs hk] at h
      exact List.mem_cons_of_mem _ (ih h)
    · rwa [closeGE_of_below (below_cons (Nat.not_le.mp hk))] at h

theorem lastAtMost_snoc (k : Nat) (before : List Line) (l : Line) :
    lastAtMost k (before ++ [l]) = if l.indent ≤ k then some l else lastAtMost k before := by
  simp only [lastAtMost, List.reverse_append, List.reverse_cons, List.reverse_nil, List.nil_append,
    List.singleton_append, List.find?_cons]
  by_cases h : l.indent ≤ k <;> simp [h]

/-- The clause a line opens at its own indent: what `specOpenAt l.indent` reads off a history
    ending in `l` (the inner `match` of `specOpenAt`; see `specOpenAt_snoc`). -/
def clauseInfo (l : Line) : Option (CType × List String) :=
  match l.kw with
  | .case _ => some (.case, l.name)
  | .els => some (.els, l.name)
  | _ => none

theorem specOpenAt_snoc (k : Nat) (before : List Line) (l : Line) :
    specOpenAt k (before ++ [l]) =
      if l.indent ≤ k then (if l.indent = k then clauseInfo l else none) else specOpenAt k before := by
  unfold specOpenAt
  rw [lastAtMost_snoc]
  by_cases h : l.indent ≤ k
  · simp only [h, if_true]
    by_cases h2 : l.indent = k
    · simp only [h2, if_true, clauseInfo]; cases l.kw <;> rfl
    · simp [h2]
  · simp [h]

/-- The declared open clause (type, written parent) and the machine's open clause agree;
    `P` = hierarchical name in front of the written parent. -/
def Matches (P : List Comp) : Option (CType × List String) → Option Case → Prop
  | none, o => o = none
  | some (t, q), o => ∃ c, o = some c ∧ c.ctype = t ∧ c.path = P ++ nms q

theorem popGE_register_le {j i : Nat} (h : j ≤ i) (ps : List (Nat × List Comp)) (c : List Comp) :
    popGE j (register ps i c) = popGE j ps := by
  exact (popGE_cons_ge _ h).trans (popGE_popGE_le h ps)

/-- The machine mirrors the text read so far, level by level: what is open at `k` on the stack is
    what `specOpenAt k` reads off the lines `before`. -/
structure Inv (before : List Line) (s : St) : Prop where
  sorted : SortedSt s.state
  agree : ∀ k, Matches (fullName (popGE k s.parents)) (specOpenAt k before) (openTop k s.state)

theorem inv_closed {s : St} (h : s.state = []) : Inv [] s :=
  ⟨h ▸ trivial, fun k => by rw [h]; rfl⟩

/-- `misplacedAt` as a function of the clause `o` open at the line's indent (`misplacedAt_eq`): the
    text reads `o` off its history, the machine off its stack (`step_level`). -/
def refused (o : Option (CType × List String)) (l : Line) : Bool :=
  match l.kw with
  | .els => o != some (.case, l.name)
  | .fin => o != some (.case, l.name) && o != some (.els, l.name)
  | .case _ => o == some (.els, l.name)
  | _ => false

theorem misplacedAt_eq (before : List Line) (l : Line) :
    misplacedAt before l = refused (specOpenAt l.indent before) l := rfl

/-! The verdict of the text in the two situations of `step_clause_found` / `step_clause_new`. -/

theorem refused_found (i : Nat) (x : List String) (t : CType) (kw : Kw) :
    refused (some (t, x)) ⟨i, x, kw⟩ = match kw, t with | .els, .els | .case _, .els => true | _, _ => false := by
  cases kw <;> cases t <;> simp [refused]

theorem refused_new {o : Option (CType × List String)} (i : Nat) {x : List String} (kw : Kw)
    (ho : ∀ t, o ≠ some (t, x)) :
    refused o ⟨i, x, kw⟩ = match kw with | .els | .fin => true | _ => false := by
  cases kw <;> simp [refused, ho]

/-- On a sorted stack a branch of this indent but another path has nothing of this indent below it:
    the loop of `solve_case` finds the block of path `p` on top, or closes exactly what `close_cases` does. -/
theorem closeFor_level {i : Nat} (p : List Comp) {st : List Branch} (hs : SortedSt st) :
    (∃ b bs, closeGE (i + 1) st = b :: bs ∧ b.cur.indent = i ∧ b.cur.path = p) ∨
      ((∀ b bs, closeGE (i + 1) st = b :: bs → b.cur.indent = i → b.cur.path ≠ p) ∧
        closeFor i p st = (closeGE i st, false)) := by
  have hsT := sortedSt_closeGE (i + 1) hs
  have hbel := closeGE_below (i + 1) st
  rw [closeFor_closeGE, ← closeGE_closeGE_le (Nat.le_succ i) st]
  generalize closeGE (i + 1) st = T at hsT hbel ⊢
  -- branches of `closeFor`: empty; top below `i`; top at `i` with the path; anything else
  fun_cases closeFor i p T with
  | case1 => exact Or.inr ⟨nofun, rfl⟩
  | case2 b bs h1 =>
    exact Or.inr ⟨fun _ _ e hi => by cases e; exact absurd hi (Nat.ne_of_lt h1),
      by rw [closeGE_of_below (below_cons h1)]⟩
  | case3 b bs _ h => exact Or.inl ⟨b, bs, rfl, h.1, h.2⟩
  | case4 b bs h1 h2 =>
    have hi : b.cur.indent = i := Nat.le_antisymm (Nat.le_of_lt_succ (hbel b rfl)) (Nat.not_lt.mp h1)
    have hbs : Below i bs := hi ▸ hsT.1
    refine Or.inr ⟨fun _ _ e _ hp => by cases e; exact h2 ⟨hi, hp⟩, ?_⟩
    rw [closeFor_of_below p hbs, closeGE_cons_ge bs (Nat.le_of_eq hi.symm), closeGE_of_below hbs]

theorem sortedSt_level {i : Nat} {st : List Branch} (hs : SortedSt st) (top : Option Branch)
    (ht : ∀ b, top = some b → b.cur.indent = i) : SortedSt (top.toList ++ closeGE i st) := by
  cases top with
  | none => exact sortedSt_closeGE i hs
  | some b => exact ⟨ht b rfl ▸ closeGE_below i st, sortedSt_closeGE i hs⟩

theorem openTop_level (k i : Nat) (st : List Branch) (top : Option Branch)
    (ht : ∀ b, top = some b → b.cur.indent = i) :
    openTop k (top.toList ++ closeGE i st) =
      if i ≤ k then (if i = k then top.map (·.cur) else none) else openTop k st := by
  have hc := openTop_closeGE k i st
  cases top with
  | none =>
    refine hc.trans ?_
    by_cases h : i ≤ k
    · rw [if_pos h, if_pos h]; split <;> rfl
    · rw [if_neg h, if_neg h]
  | some b =>
    refine (openTop_push k i b _ (ht b rfl)).trans ?_
    by_cases h : i ≤ k
    · rw [if_pos h, if_pos h]; rfl
    · rw [if_neg h, if_neg h]; exact hc.trans (if_neg h)

/-- What one line does, seen from its own indent `i`, when the clause open there is the one the text
    declares (`hm`, `o`): the line is refused exactly when the text calls it misplaced; a line that
    is not refused closes what is indented at least like it and leaves at most one branch there, whose
    current clause is the one the line declares (`clauseInfo`); the hierarchy below `i` is untouched. -/
theorem step_level {s : St} {l : Line} {o : Option (CType × List String)} (hs : SortedSt s.state)
    (hm : Matches (fullName (popGE l.indent s.parents)) o (openTop l.indent s.state)) :
    if refused o l = true then step s l = .error () else
      ∃ s' out top, step s l = .ok (s', out) ∧ s'.state = Option.toList top ++ closeGE l.indent s.state ∧
        (∀ b, top = some b → b.cur.indent = l.indent) ∧
        (∀ k, k ≤ l.indent → popGE k s'.parents = popGE k s.parents) ∧
        Matches (fullName (popGE l.indent s.parents)) (clauseInfo l) (top.map (·.cur)) := by
  obtain ⟨i, x, kw⟩ := l
  have reg : ∀ (c : List Comp) k, k ≤ i → popGE k (register s.parents i c) = popGE k s.parents :=
    fun c k hk => popGE_register_le hk _ _
  have at_i : ∀ nb : Branch, nb.cur.indent = i → ∀ b, some nb = some b → b.cur.indent = i :=
    fun nb h b e => Option.some.inj e ▸ h
  by_cases hkw : kw.IsClause
  · show if refused o ⟨i, x, kw⟩ = true then _ else _
    rcases closeFor_level (i := i) (fullName (popGE i s.parents) ++ nms x) hs with
      ⟨b, bs, e1, e2, e3⟩ | ⟨hno, e⟩
    · -- a block of this path is open at `i`: it is the one the text declares
      have ho : o = some (b.cur.ctype, x) := by
        have hag := hm
        rw [openTop_of_top e1 e2] at hag
        cases o with
        | none => cases hag
        | some tq =>
          obtain ⟨t, q⟩ := tq
          obtain ⟨c1, h1, h2, h3⟩ := hag
          cases h1
          rw [e3] at h3
          rw [← h2, nms_inj (List.append_cancel_left h3)]
      subst ho
      have hbel : Below i bs := e2 ▸ (e1 ▸ sortedSt_closeGE (i + 1) hs : SortedSt (b :: bs)).1
      have hcl : bs = closeGE i s.state := (closeGE_of_top e1 e2 hbel).symm
      rw [step_clause_found hkw e1 hbel e2 e3 rfl, refused_found]
      -- rows: the current clause a `@case` (`@case`, `@else`, `@end` all go on); an `@else` (only `@end`)
      cases b.cur.ctype <;> cases hkw
      · exact (if_neg Bool.false_ne_true).mpr
          ⟨_, _, some _, rfl, congrArg (_ :: ·) hcl, at_i _ rfl, reg _, _, rfl, rfl, rfl⟩
      · exact (if_neg Bool.false_ne_true).mpr
          ⟨_, _, some _, rfl, congrArg (_ :: ·) hcl, at_i _ rfl, reg _, _, rfl, rfl, rfl⟩
      · exact (if_neg Bool.false_ne_true).mpr ⟨_, _, none, rfl, hcl, nofun, reg _, rfl⟩
      · exact (if_pos rfl).mpr rfl
      · exact (if_pos rfl).mpr rfl
      · exact (if_neg Bool.false_ne_true).mpr ⟨_, _, none, rfl, hcl, nofun, reg _, rfl⟩
    · have ho : ∀ t, o ≠ some (t, x) := by
        rintro t rfl
        obtain ⟨c, h1, _, h3⟩ := hm
        obtain ⟨b, bs, e1, e2, e3⟩ := openTop_some h1
        exact hno b bs e1 e2 (e3 ▸ h3)
      rw [step_clause_new hkw e rfl rfl, refused_new i _ ho]
      cases hkw
      · exact (if_neg Bool.false_ne_true).mpr ⟨_, _, some _, rfl, rfl, at_i _ rfl, reg _, _, rfl, rfl, rfl⟩
      · exact (if_pos rfl).mpr rfl
      · exact (if_pos rfl).mpr rfl
  · -- a line that is no clause line closes what is indented at least like it
    cases kw with
    | group => exact (if_neg Bool.false_ne_true).mpr ⟨_, _, none, rfl, rfl, nofun, reg _, rfl⟩
    | prop p => exact (if_neg Bool.false_ne_true).mpr ⟨_, _, none, rfl, rfl, nofun, fun _ _ => rfl, rfl⟩
    | unit b => exact (if_neg Bool.false_ne_true).mpr ⟨_, _, none, rfl, rfl, nofun, fun _ _ => rfl, rfl⟩
    | imp nd => exact (if_neg Bool.false_ne_true).mpr ⟨_, _, none, rfl, rfl, nofun, reg _, rfl⟩
    | node m v => exact (if_neg Bool.false_ne_true).mpr ⟨_, _, none, step_node rfl rfl, rfl, nofun, reg _, rfl⟩
    | case c => exact absurd (.case c) hkw
    | els => exact absurd .els hkw
    | fin => exact absurd .fin hkw

theorem step_inv {before : List Line} {s : St} {l : Line} (hinv : Inv before s) :
    if misplacedAt before l = true then step s l = .error () else
      ∃ s' out, step s l = .ok (s', out) ∧ Inv (before ++ [l]) s' := by
  have hl := step_level hinv.sorted (hinv.agree l.indent)
  rw [← misplacedAt_eq] at hl
  cases hm : misplacedAt before l with
  | true => rw [hm] at hl; exact hl
  | false =>
    rw [hm, if_neg Bool.false_ne_true] at hl
    obtain ⟨s', out, top, e, hst, hat, hlow, htop⟩ := hl
    refine (if_neg Bool.false_ne_true).mpr ⟨s', out, e, hst ▸ sortedSt_level hinv.sorted top hat, fun k => ?_⟩
    rw [specOpenAt_snoc, hst, openTop_level k _ _ top hat]
    by_cases h1 : l.indent ≤ k
    · rw [if_pos h1, if_pos h1]
      by_cases h2 : l.indent = k
      · rw [if_pos h2, if_pos h2, ← h2, hlow _ (Nat.le_refl _)]
        exact htop
      · rw [if_neg h2, if_neg h2]
        rfl
    · rw [if_neg h1, if_neg h1, hlow k (Nat.le_of_lt (Nat.not_le.mp h1))]
      exact hinv.agree k

theorem run_error_iff {before ls : List Line} {s : St} (hinv : Inv before s) :
    run s ls = .error () ↔ misplacedFrom before ls = true := by
  induction ls generalizing before s with
  | nil => exact iff_of_false nofun Bool.false_ne_true
  | cons l ls ih =>
    have hl := step_inv (l := l) hinv
    show _ ↔ (misplacedAt before l || misplacedFrom (before ++ [l]) ls) = true
    cases hm : misplacedAt before l with
    | true =>
      rw [hm, if_pos rfl] at hl
      exact iff_of_true (by simp only [run, hl]) rfl
    | false =>
      rw [hm, if_neg Bool.false_ne_true] at hl
      obtain ⟨s', out, e, hinv'⟩ := hl
      rw [Bool.false_or, ← ih hinv']
      simp only [run, e]
      cases run s' ls with
      | error u => exact iff_of_true rfl rfl
      | ok r => exact iff_of_false nofun nofun

theorem parse_error_iff (ls : List Line) : parse ls = .error () ↔ misplaced ls = true := by
  refine Iff.trans ?_ (run_error_iff (ls := ls) (inv_closed (s := St.init) rfl))
  unfold parse
  cases run St.init ls with
  | error u => exact iff_of_true rfl rfl
  | ok r => exact iff_of_false nofun nofun

end SciVerif.C15
