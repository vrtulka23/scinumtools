import SciVerif.Lemmas.C13Lexer
import SciVerif.Lemmas.C13Hierarchy
/-!
Inline arrays: `json.loads` (`pVal` / `pElems`) on a rendered rectangular nested list of any depth gives its
shape and its leaves in row-major order; on a list whose items disagree in shape it fails.
-/
namespace SciVerif.C13
open SciVerif.Util

/-- an array element as written: a non-empty word without blanks, commas, brackets, not a string -/
def TokOk (t : Str) : Prop :=
  (∃ c r, t = c :: r ∧ c ≠ '"') ∧ ∀ c ∈ t, isDelim c = false

/-- a flat inline array as written: `[t1,…,tn]` -/
def renderFlat (toks : List Str) : Str := '[' :: (joinWith [','] toks ++ [']'])

/-- the text between the quotes of a JSON string element: no quote, no backslash, no control character -/
def StrOk (x : Str) : Prop := ∀ c ∈ x, c ≠ '"' ∧ c ≠ '\\' ∧ 32 ≤ c.toNat

/-- `Rendered s sh toks`: the text `s` is a rectangular nested list of shape `sh` whose leaves, in
    row-major order, are the words `toks` — a single word (shape `[]`), or `[item,…,item]` with
    `n ≥ 1` items that are themselves rendered with one common shape. -/
inductive Rendered : Str → List Nat → List Tok → Prop where
  | tok (t : Str) (h : TokOk t) : Rendered t [] [.bare t]
  | arr (items : List (Str × List Tok)) (sh : List Nat) (hne : items ≠ [])
      (h : ∀ it ∈ items, Rendered it.1 sh it.2) :
      Rendered ('[' :: (joinWith [','] (items.map Prod.fst) ++ [']'])) (items.length :: sh)
        (items.flatMap Prod.snd)

/-- `Rendered` with quoted string leaves as well -/
inductive RenderedQ : Str → List Nat → List Tok → Prop where
  | tok (t : Str) (h : TokOk t) : RenderedQ t [] [.bare t]
  | str (x : Str) (h : StrOk x) : RenderedQ ('"' :: (x ++ ['"'])) [] [.str x]
  | arr (items : List (Str × List Tok)) (sh : List Nat) (hne : items ≠ [])
      (h : ∀ it ∈ items, RenderedQ it.1 sh it.2) :
      RenderedQ ('[' :: (joinWith [','] (items.map Prod.fst) ++ [']'])) (items.length :: sh)
        (items.flatMap Prod.snd)

theorem rendered_toQ {s : Str} {sh : List Nat} {toks : List Tok} (h : Rendered s sh toks) : RenderedQ s sh toks := by
  induction h with
  | tok t ht => exact .tok t ht
  | arr items sh hne _ ih => exact .arr items sh hne ih

/-- the characters of all items together (what the fuel of `pElems` has to cover) -/
def totalLen (items : List (Str × List Tok)) : Nat := (items.map (fun it => it.1.length)).sum

/-- what the induction on the nesting provides for one item: it starts with a character that is neither
    white space nor `]`, and `pVal` with enough fuel reads exactly the item -/
def ItemOk (sh0 : List Nat) (it : Str × List Tok) : Prop :=
  (∃ c r, it.1 = c :: r ∧ isWs c = false ∧ c ≠ ']') ∧
  ∀ (f : Nat) (rest : Str), it.1.length + 1 ≤ f → (rest = [] ∨ ∃ c r, rest = c :: r ∧ isDelim c = true) →
    pVal f (it.1 ++ rest) = .ok (sh0, it.2, rest)

theorem tokOk_head (t : Str) (h : TokOk t) : ∃ c r, t = c :: r ∧ c ≠ '"' ∧ c ≠ '[' ∧ c ≠ ']' ∧ isWs c = false := by
  obtain ⟨⟨c, r, rfl, hq⟩, hall⟩ := h
  have hd := hall c (by simp)
  simp only [isDelim, Bool.or_eq_false_iff, beq_eq_false_iff_ne] at hd
  exact ⟨c, r, rfl, hq, hd.2, hd.1.2, hd.1.1.1⟩

theorem pVal_tok (f : Nat) (t rest : Str) (ht : TokOk t)
    (hr : rest = [] ∨ ∃ c r, rest = c :: r ∧ isDelim c = true) :
    pVal (f + 1) (t ++ rest) = .ok ([], [.bare t], rest) := by
  obtain ⟨c, r, rfl, hq, hb, _, hw⟩ := tokOk_head t ht
  have hp : ∀ x ∈ c :: r, (fun c => !isDelim c) x = true := by intro x hx; simp [ht.2 x hx]
  have hrest : HeadNot (fun c => !isDelim c) rest := by
    rcases hr with rfl | ⟨x, y, rfl, hx⟩
    · exact .nil
    · exact .cons (by simp [hx]) y
  have htw := takeWhile_append_headNot hp hrest
  have hdw := dropWhile_append_headNot hp hrest
  simp only [List.cons_append] at htw hdw ⊢
  unfold pVal
  rw [dropWs_cons c _ hw]
  split
  · rename_i heq; exact absurd (List.cons.inj heq).1 hb
  · rename_i heq; exact absurd (List.cons.inj heq).1 hq
  · simp only [htw, hdw]
    rfl

theorem pVal_str (f : Nat) (x rest : Str) (hx : StrOk x) :
    pVal (f + 1) ('"' :: (x ++ '"' :: rest)) = .ok ([], [.str x], rest) := by
  have hp : ∀ c ∈ x, (fun c => c != '"') c = true := by intro c hc; simp [(hx c hc).1]
  have hb : HeadNot (fun c => c != '"') ('"' :: rest) := .cons (by decide) rest
  have hbs : x.contains '\\' = false := by
    rw [Bool.eq_false_iff]
    exact fun h => (hx _ (List.contains_iff_mem.mp h)).2.1 rfl
  have hctl : x.any (fun c => decide (c.toNat < 32)) = false := by
    rw [List.any_eq_false]
    intro c hc
    have := (hx c hc).2.2
    simp only [decide_eq_true_eq]
    omega
  unfold pVal
  rw [dropWs_cons '"' _ (by decide)]
  simp only [takeWhile_append_headNot hp hb, dropWhile_append_headNot hp hb, hbs, hctl, Bool.false_eq_true,
    if_false]

theorem pVal_open (f : Nat) (c : Char) (r : Str) (hw : isWs c = false) (hb : c ≠ ']') :
    pVal (f + 1) ('[' :: c :: r) = pElems f (c :: r) none 0 [] := by
  unfold pVal
  rw [dropWs_cons '[' _ (by decide)]
  simp only
  rw [dropWs_cons c r hw]
  split
  · rename_i heq; exact absurd (List.cons.inj heq).1 hb
  · rfl

theorem pElems_item {sh0 : List Nat} {it : Str × List Tok} (hit : ItemOk sh0 it) (f n : Nat) (acc : List Tok)
    (sh : Option (List Nat)) (hf : it.1.length + 1 ≤ f) (hsh : sh = none ∨ sh = some sh0) (rest : Str) :
    pElems (f + 1) (it.1 ++ ',' :: rest) sh n acc = pElems f rest (some sh0) (n + 1) (acc ++ it.2) ∧
    pElems (f + 1) (it.1 ++ ']' :: rest) sh n acc = .ok ((n + 1) :: sh0, acc ++ it.2, rest) := by
  have hpv : ∀ d, isDelim d = true → pVal f (it.1 ++ d :: rest) = .ok (sh0, it.2, d :: rest) :=
    fun d hd => hit.2 f (d :: rest) hf (.inr ⟨d, rest, rfl, hd⟩)
  constructor
  · rw [pElems]
    simp only [bind, Except.bind, hpv ',' rfl]
    rw [if_neg]
    · simp only [dropWs_cons ',' rest rfl]
    · -- no shape seen yet, or the same shape: the ragged test passes
      rcases hsh with rfl | rfl <;> simp
  · rw [pElems]
    simp only [bind, Except.bind, hpv ']' rfl]
    rw [if_neg]
    · simp only [dropWs_cons ']' rest rfl]
    · rcases hsh with rfl | rfl <;> simp

theorem pElems_bad (sh0 sh1 : List Nat) (bad : Str × List Tok) (hb : ItemOk sh1 bad) (hne : sh1 ≠ sh0)
    (f n : Nat) (acc : List Tok) (post : Str) (hf : bad.1.length + 1 ≤ f)
    (hpost : post = [] ∨ ∃ c r, post = c :: r ∧ isDelim c = true) :
    pElems (f + 1) (bad.1 ++ post) (some sh0) n acc = .error .fail := by
  unfold pElems
  simp only [bind, Except.bind]
  rw [hb.2 f post hf hpost]
  have : (sh0 != sh1) = true := by
    rw [bne_iff_ne]; exact fun e => hne e.symm
  simp only [this, if_true]

theorem totalLen_cons (it : Str × List Tok) (ts : List (Str × List Tok)) :
    totalLen (it :: ts) = it.1.length + totalLen ts := by
  simp [totalLen]

theorem joinWith_cons_cons (sep a b : Str) (t : List Str) (tail : Str) :
    joinWith sep (a :: b :: t) ++ tail = a ++ (sep ++ (joinWith sep (b :: t) ++ tail)) := by
  simp [joinWith]

/-! The fuel: one unit per item and per character is enough.  `a` = length of the first item, `b`, `c` = total
length and number of the other items, `d` = what is needed behind the items (in `fuel_behind`: `a + 1` the length of the first item, `f` the fuel left behind
the items).  `parseJson` supplies `s.length + 1`, which covers it (`joinWith_length_le`). -/

theorem fuel_head {a b c d f : Nat} (h : a + b + (c + 1) + d + 1 ≤ f) : ∃ f', f = f' + 1 ∧ a + 1 ≤ f' :=
  ⟨f - 1, by omega⟩

theorem fuel_succ {a f : Nat} (h : a + 1 ≤ f) : ∃ f', f = f' + 1 :=
  Nat.exists_eq_add_of_le' (Nat.le_trans (Nat.le_add_left 1 a) h)

theorem fuel_behind {a b c d f : Nat} (h : a + 1 + b + (c + 1) + d + 1 ≤ f + (c + 1)) : ∃ f', f = f' + 1 ∧ d + 1 ≤ f' := by
  rw [Nat.add_right_comm _ (c + 1) d, Nat.add_right_comm _ (c + 1) 1] at h
  have h1 := Nat.le_of_add_le_add_right h
  obtain ⟨f', rfl⟩ := Nat.exists_eq_add_of_le' (Nat.le_trans (Nat.le_add_left 1 _) h1)
  refine ⟨f', rfl, Nat.le_trans ?_ (Nat.le_of_add_le_add_right h1)⟩
  rw [Nat.add_comm d 1, Nat.add_right_comm a 1 b]
  exact Nat.add_le_add_right (Nat.le_add_left 1 (a + b)) d

theorem fuel_rest {a b c d f : Nat} (h : a + b + (c + 1) + d + 1 ≤ f + 1) : b + c + d + 1 ≤ f := by omega

/-- A list of good items of one shape, then `]`: the array is read.  The same list, then `,`: reading goes on behind
    the comma, the shape fixed, with the fuel the items have not used (`d`: what the rest still needs). -/
theorem pElems_items (sh0 : List Nat) : ∀ (items : List (Str × List Tok)) (f n d : Nat) (acc : List Tok)
    (sh : Option (List Nat)) (rest : Str),
    items ≠ [] → (∀ it ∈ items, ItemOk sh0 it) → totalLen items + items.length + d + 1 ≤ f →
    (sh = none ∨ sh = some sh0) →
    pElems f (joinWith [','] (items.map Prod.fst) ++ ']' :: rest) sh n acc =
      .ok ((n + items.length) :: sh0, acc ++ items.flatMap Prod.snd, rest) ∧
    ∃ f', f = f' + items.length ∧
      pElems f (joinWith [','] (items.map Prod.fst) ++ ',' :: rest) sh n acc =
        pElems f' rest (some sh0) (n + items.length) (acc ++ items.flatMap Prod.snd) := by
  intro items
  induction items with
  | nil => intro _ _ _ _ _ _ h; exact absurd rfl h
  | cons it ts ih =>
    intro f n d acc sh rest _ hok hf hsh
    rw [totalLen_cons, List.length_cons] at hf
    obtain ⟨f', rfl, hf'⟩ := fuel_head hf
    have hit := pElems_item (hok it (by simp)) f' n acc sh hf' hsh
    cases ts with
    | nil =>
      rw [List.map_cons, List.map_nil, joinWith, (hit rest).2, (hit rest).1]
      exact ⟨by simp, f', rfl, by simp⟩
    | cons it2 ts2 =>
      obtain ⟨h1, f'', hf'', h2⟩ := ih f' (n + 1) d (acc ++ it.2) (some sh0) rest (by simp)
        (fun x hx => hok x (List.mem_cons_of_mem _ hx)) (fuel_rest hf) (.inr rfl)
      rw [List.map_cons, List.map_cons, joinWith_cons_cons, joinWith_cons_cons, List.singleton_append,
        List.singleton_append, (hit _).1, (hit _).1, ← List.map_cons, h1, h2]
      refine ⟨?_, f'', by rw [hf'', List.length_cons (a := it), Nat.add_assoc], ?_⟩ <;>
        simp only [List.length_cons, List.flatMap_cons, List.append_assoc, Nat.add_assoc, Nat.add_comm 1]

theorem joinWith_length_le : ∀ items : List (Str × List Tok), items ≠ [] →
    totalLen items + items.length ≤ (joinWith [','] (items.map Prod.fst)).length + 1
  | [], h => absurd rfl h
  | [a], _ => by simp [totalLen, joinWith]
  | a :: b :: t, _ => by
    have := joinWith_length_le (b :: t) (by simp)
    rw [totalLen_cons, List.map_cons, List.map_cons, ← List.append_nil (joinWith _ _), joinWith_cons_cons]
    simp only [List.length_append, List.length_cons, List.length_nil, List.map_cons] at this ⊢
    omega

theorem joinWith_head (sep : Str) (p : Str) (ps : List Str) (tail : Str) (c : Char) (r : Str) (hp : p = c :: r) :
    ∃ r', joinWith sep (p :: ps) ++ tail = c :: r' := by
  subst hp
  cases ps <;> exact ⟨_, rfl⟩

theorem pVal_renderedQ {s : Str} {sh : List Nat} {toks : List Tok} (h : RenderedQ s sh toks) :
    ItemOk sh (s, toks) := by
  induction h with
  | tok t ht =>
    obtain ⟨c, r, hcr, _, _, hb, hw⟩ := tokOk_head t ht
    refine ⟨⟨c, r, hcr, hw, hb⟩, ?_⟩
    intro f rest hf hrest
    obtain ⟨f', rfl⟩ := fuel_succ hf
    exact pVal_tok f' t rest ht hrest
  | str x hx =>
    refine ⟨⟨'"', _, rfl, by decide, by decide⟩, ?_⟩
    intro f rest hf _
    obtain ⟨f', rfl⟩ := fuel_succ hf
    have := pVal_str f' x rest hx
    simpa using this
  | arr items sh0 hne _ ih =>
    refine ⟨⟨'[', _, rfl, by decide, by decide⟩, ?_⟩
    intro f rest hf hrest
    obtain ⟨f', rfl⟩ := fuel_succ hf
    obtain ⟨it0, ts, rfl⟩ := List.exists_cons_of_ne_nil hne
    obtain ⟨⟨c, r, hc, hcw, hcb⟩, _⟩ := ih it0 (by simp)
    obtain ⟨r', hr'⟩ := joinWith_head [','] it0.1 (ts.map Prod.fst) (']' :: rest) c r hc
    have hlen := joinWith_length_le (it0 :: ts) (by simp)
    have hfuel : totalLen (it0 :: ts) + (it0 :: ts).length + 1 ≤ f' := by
      simp only [List.length_cons, List.length_append, List.length_nil] at hf hlen ⊢
      omega
    have e : ('[' :: (joinWith [','] ((it0 :: ts).map Prod.fst) ++ [']']), (it0 :: ts).flatMap Prod.snd).1 ++ rest =
        '[' :: (joinWith [','] (it0.1 :: ts.map Prod.fst) ++ ']' :: rest) := by simp
    rw [e, hr', pVal_open f' c r' hcw hcb, ← hr', ← List.map_cons,
      (pElems_items sh0 (it0 :: ts) f' 0 0 [] none rest (by simp) ih hfuel (.inl rfl)).1]
    simp

theorem parseJson_renderedQ {s : Str} {sh : List Nat} {toks : List Tok} (h : RenderedQ s sh toks) :
    parseJson s = .ok (sh, toks) := by
  have := (pVal_renderedQ h).2 (s.length + 1) [] (Nat.le_refl _) (.inl rfl)
  simp only [List.append_nil] at this
  simp [parseJson, this, bind, Except.bind, isBlank]

theorem parseJson_rendered {s : Str} {sh : List Nat} {toks : List Tok} (h : Rendered s sh toks) :
    parseJson s = .ok (sh, toks) :=
  parseJson_renderedQ (rendered_toQ h)

theorem rendered_flat (toks : List Str) (hne : toks ≠ []) (hok : ∀ t ∈ toks, TokOk t) :
    Rendered (renderFlat toks) [toks.length] (toks.map Tok.bare) := by
  have := Rendered.arr (toks.map (fun t => (t, [Tok.bare t]))) [] (by simpa using hne)
    (by intro it hit; obtain ⟨t, ht, rfl⟩ := List.mem_map.mp hit; exact .tok t (hok t ht))
  rw [List.map_eq_flatMap]
  simpa [renderFlat, List.flatMap_map, Function.comp_def] using this

theorem rendered_chars_tok {s : Str} {sh : List Nat} {toks : List Tok} (h : Rendered s sh toks) :
    ∀ c ∈ s, c = '[' ∨ c = ']' ∨ c = ',' ∨ ∃ t, Tok.bare t ∈ toks ∧ TokOk t ∧ c ∈ t := by
  induction h with
  | tok t ht => intro c hc; exact .inr (.inr (.inr ⟨t, by simp, ht, hc⟩))
  | arr items sh hne _ ih =>
    intro c hc
    simp only [List.mem_cons, List.mem_append, List.not_mem_nil, or_false] at hc
    rcases hc with rfl | hc | rfl
    · exact .inl rfl
    · rcases mem_join (joinWith_eq _ _ ▸ hc) with h | ⟨x, hx, hcx⟩
      · simp only [List.mem_singleton] at h; exact .inr (.inr (.inl h))
      · obtain ⟨it, hit, rfl⟩ := List.mem_map.mp hx
        rcases ih it hit c hcx with h | h | h | ⟨t, ht, hok, hct⟩
        · exact .inl h
        · exact .inr (.inl h)
        · exact .inr (.inr (.inl h))
        · exact .inr (.inr (.inr ⟨t, List.mem_flatMap.mpr ⟨it, hit, ht⟩, hok, hct⟩))
    · exact .inr (.inl rfl)

theorem rendered_chars {s : Str} {sh : List Nat} {toks : List Tok} (h : Rendered s sh toks) :
    ∀ c ∈ s, c = '[' ∨ c = ']' ∨ c = ',' ∨ ∃ t, Tok.bare t ∈ toks ∧ c ∈ t := fun c hc =>
  (rendered_chars_tok h c hc).imp id (.imp id (.imp id fun ⟨t, ht, _, hct⟩ => ⟨t, ht, hct⟩))

/-- so the lexer reads a rendered nested list as ONE bare word -/
theorem rendered_noWs {s : Str} {sh : List Nat} {toks : List Tok} (h : Rendered s sh toks) :
    ∀ c ∈ s, isWs c = false := by
  intro c hc
  rcases rendered_chars_tok h c hc with rfl | rfl | rfl | ⟨t, _, ht, hct⟩
  · decide
  · decide
  · decide
  · have := ht.2 c hct
    simp only [isDelim, Bool.or_eq_false_iff] at this
    exact this.1.1.1

theorem renderedQ_head {s : Str} {sh : List Nat} {toks : List Tok} (h : RenderedQ s sh toks) (hsh : sh ≠ []) :
    ∃ r, s = '[' :: r := by
  cases h with
  | tok t ht => exact absurd rfl hsh
  | str x hx => exact absurd rfl hsh
  | arr items sh hne _ => exact ⟨_, rfl⟩

theorem pElems_ragged (sh0 sh1 : List Nat) (bad : Str × List Tok) (hb : ItemOk sh1 bad) (hne : sh1 ≠ sh0) (post : Str)
    (hpost : post = [] ∨ ∃ c r, post = c :: r ∧ isDelim c = true) :
    ∀ (pre : List (Str × List Tok)) (f n : Nat) (acc : List Tok) (sh : Option (List Nat)),
    pre ≠ [] → (∀ it ∈ pre, ItemOk sh0 it) → totalLen pre + pre.length + bad.1.length + 1 ≤ f →
    (sh = none ∨ sh = some sh0) →
    pElems f (joinWith [','] (pre.map Prod.fst) ++ ',' :: (bad.1 ++ post)) sh n acc = .error .fail := by
  intro pre f n acc sh hpre hok hf hsh
  obtain ⟨_, f', rfl, h⟩ := pElems_items sh0 pre f n bad.1.length acc sh (bad.1 ++ post) hpre hok hf hsh
  -- the first item is not empty, so the fuel left behind the good items covers the bad one
  obtain ⟨it0, ts, rfl⟩ := List.exists_cons_of_ne_nil hpre
  obtain ⟨⟨c0, r0, hc0, _⟩, _⟩ := hok it0 (by simp)
  rw [totalLen_cons, hc0, List.length_cons, List.length_cons] at hf
  obtain ⟨f'', rfl, hf''⟩ := fuel_behind hf
  rw [h]
  exact pElems_bad sh0 sh1 bad hb hne f'' _ _ post hf'' hpost

theorem parseJson_ragged (sh0 sh1 : List Nat) (pre : List (Str × List Tok)) (bad : Str × List Tok) (post : Str)
    (hpre : pre ≠ []) (h0 : ∀ it ∈ pre, Rendered it.1 sh0 it.2) (h1 : Rendered bad.1 sh1 bad.2) (hne : sh1 ≠ sh0)
    (hpost : post = [] ∨ ∃ c r, post = c :: r ∧ isDelim c = true) :
    parseJson ('[' :: (joinWith [','] (pre.map Prod.fst) ++ ',' :: (bad.1 ++ post))) = .error .fail := by
  have hok : ∀ it ∈ pre, ItemOk sh0 it := fun it hit => pVal_renderedQ (rendered_toQ (h0 it hit))
  obtain ⟨it0, ts, rfl⟩ := List.exists_cons_of_ne_nil hpre
  obtain ⟨⟨c, r, hc, hcw, hcb⟩, _⟩ := hok it0 (by simp)
  obtain ⟨r', hr'⟩ := joinWith_head [','] it0.1 (ts.map Prod.fst) (',' :: (bad.1 ++ post)) c r hc
  have hlen := joinWith_length_le (it0 :: ts) (by simp)
  have hpe := pElems_ragged sh0 sh1 bad (pVal_renderedQ (rendered_toQ h1)) hne post hpost (it0 :: ts)
    ('[' :: (joinWith [','] ((it0 :: ts).map Prod.fst) ++ ',' :: (bad.1 ++ post))).length 0 [] none (by simp) hok
    (by simp only [List.length_cons, List.length_append] at hlen ⊢; omega) (.inl rfl)
  rw [List.map_cons] at hpe ⊢
  simp only [parseJson, bind, Except.bind]
  rw [hr', pVal_open _ c r' hcw hcb, ← hr', hpe]

end SciVerif.C13
