import SciVerif.Lemmas.C19Machine
import SciVerif.Lemmas.C19Shape
/-!
# C19 — typed values: print, read back with the machine, interpret (`ValOK`, `StyleOK`, `roundtrip_val`); the step C, C++
and Rust share (`readInit_printVal`, `targetKind_of_lookup`, `declLine_read`); shapes of values; the two evaluations of the regenerated tables (`typeRows_spec`, `dipTypes_spec`, with `typeOK`); printed values
without newline (`NoNL`, `printVal_clean`)
-/
namespace SciVerif.C19

mutual
def tokTree (st : Style) : Val → TokTree
  | .leaf s => .leaf (printScalar st s)
  | .arr vs => .arr (tokTrees st vs)
def tokTrees (st : Style) : List Val → List TokTree
  | [] => []
  | v :: vs => tokTree st v :: tokTrees st vs
end

theorem tokTree_leaf (st : Style) (s : Scalar) : tokTree st (.leaf s) = .leaf (printScalar st s) := rfl

theorem tokTree_arr (st : Style) (vs : List Val) : tokTree st (.arr vs) = .arr (tokTrees st vs) := rfl

theorem tokTrees_cons (st : Style) (v : Val) (vs : List Val) : tokTrees st (v :: vs) = tokTree st v :: tokTrees st vs := rfl

/-- a scalar that belongs to kind `k` (a float is carried as the non-empty `str(float)` text;
    strings are arbitrary) -/
def ScalarOK (k : Kind) : Scalar → Prop
  | .b _ => k = Kind.bool
  | .i _ => k = Kind.int ∨ k = Kind.uint
  | .f t => k = Kind.float ∧ t ≠ [] ∧ t.all floatChar = true
  | .s _ => k = Kind.str

theorem scalarOK_str (s : Scalar) (h : ScalarOK Kind.str s) : ∃ x, s = .s x := by
  cases s with
  | s x => exact ⟨x, rfl⟩
  | b x => cases h
  | i x => rcases h with h | h <;> cases h
  | f x => cases h.1

mutual
def ValOK (k : Kind) : Val → Prop
  | .leaf s => ScalarOK k s
  | .arr vs => ValsOK k vs
def ValsOK (k : Kind) : List Val → Prop
  | [] => True
  | v :: vs => ValOK k v ∧ ValsOK k vs
end

theorem valsOK_iff (k : Kind) : ∀ vs : List Val, ValsOK k vs ↔ ∀ v ∈ vs, ValOK k v
  | [] => by simp [ValsOK]
  | v :: vs => by rw [ValsOK, valsOK_iff k vs, List.forall_mem_cons]

mutual
theorem printVal_eq (st : Style) (o c : Char) (ho : st.opn = [o]) (hc : st.cls = [c]) :
    (v : Val) → printVal st v = printTok o c (tokTree st v)
  | .leaf s => rfl
  | .arr vs => by simp [printVal, tokTree, printTok, ho, hc, printVals_eq st o c ho hc vs]
theorem printVals_eq (st : Style) (o c : Char) (ho : st.opn = [o]) (hc : st.cls = [c]) :
    (vs : List Val) → printVals st vs = printToks o c (tokTrees st vs)
  | [] => rfl
  | [v] => by simp [printVals, tokTrees, printToks, printVal_eq st o c ho hc v]
  | v :: w :: vs => by
    have h1 := printVal_eq st o c ho hc v
    have h2 := printVals_eq st o c ho hc (w :: vs)
    simp only [printVals, tokTrees, printToks, h1]
    simp only [tokTrees] at h2
    rw [h2]
end

/-- what a style must satisfy for the bracket pair it is read with -/
structure StyleOK (st : Style) (o c : Char) : Prop where
  good : Good o c
  opn : st.opn = [o]
  cls : st.cls = [c]
  ne : st.tru ≠ st.fls
  tru : SafeTok st.q o c st.tru
  fls : SafeTok st.q o c st.fls
  fc : ∀ ch, floatChar ch = true → plainChar o c ch

/-- what the back ends need of a printed scalar is read off these four cases -/
theorem printScalar_cases (st : Style) (k : Kind) (s : Scalar) (h : ScalarOK k s) :
    (∃ v, s = .s v) ∨ printScalar st s = st.tru ∨ printScalar st s = st.fls ∨
      (printScalar st s ≠ [] ∧ ∀ ch ∈ printScalar st s, floatChar ch = true) := by
  cases s with
  | s v => exact .inl ⟨v, rfl⟩
  | b v =>
    cases v
    · exact .inr (.inr (.inl rfl))
    · exact .inr (.inl rfl)
  | i v => exact .inr (.inr (.inr ⟨showInt_ne_nil v, showInt_floatChars v⟩))
  | f t => exact .inr (.inr (.inr ⟨h.2.1, fun ch hch => List.all_eq_true.mp h.2.2 ch hch⟩))

theorem safe_scalar (st : Style) (o c : Char) (ok : StyleOK st o c) (k : Kind) (s : Scalar)
    (h : ScalarOK k s) : SafeTok st.q o c (printScalar st s) := by
  rcases printScalar_cases st k s h with ⟨v, rfl⟩ | e | e | ⟨hne, hc⟩
  · exact SafeTok.quoted v
  · exact e ▸ ok.tru
  · exact e ▸ ok.fls
  · exact SafeTok.bare _ hne (fun ch hch => ok.fc ch (hc ch hch))

mutual
theorem safe_tree (st : Style) (o c : Char) (ok : StyleOK st o c) (k : Kind) :
    (v : Val) → ValOK k v → SafeTree st.q o c (tokTree st v)
  | .leaf s, h => safe_scalar st o c ok k s h
  | .arr vs, h => safe_trees st o c ok k vs h
theorem safe_trees (st : Style) (o c : Char) (ok : StyleOK st o c) (k : Kind) :
    (vs : List Val) → ValsOK k vs → SafeTrees st.q o c (tokTrees st vs)
  | [], _ => trivial
  | v :: vs, h => ⟨safe_tree st o c ok k v h.1, safe_trees st o c ok k vs h.2⟩
end

/-- per character of the value: the chunk `escChar q ch` takes the decoder from `.normal` through `.afterBackslash`
    resp. `.afterQuote` back to `.normal` with `ch` decoded (the cases are the branches of `escChar`) -/
theorem unescGo_escStr (q : Quoting) : ∀ v : Str, unescGo q .normal (escStr q v ++ ['"']) = some v
  | [] => by simp [escStr_nil, unescGo]
  | ch :: v => by
    have ih := unescGo_escStr q v
    rw [escStr_cons]
    fun_cases escChar q ch <;> simp [unescGo, *]

theorem unquote_quote (q : Quoting) (v : Str) : unquote q (quoteStr q v) = some v := by
  simp [unquote, quoteStr, unescBody, unescGo_escStr]

theorem readScalar_print (st : Style) (hne : st.tru ≠ st.fls) (k : Kind) (s : Scalar) (h : ScalarOK k s) :
    readScalar st.q k st.tru st.fls (printScalar st s) = some s := by
  cases s with
  | b v =>
    have hk : k = Kind.bool := h
    subst hk
    cases v
    · simp [readScalar, printScalar, Ne.symm hne]
    · simp [readScalar, printScalar]
  | i v =>
    rcases h with hk | hk <;> subst hk <;> simp [readScalar, printScalar, readInt_showInt]
  | f t =>
    obtain ⟨hk, hne', hall⟩ := h
    subst hk
    simp only [readScalar, printScalar, hall]
    simp [hne']
  | s v =>
    have hk : k = Kind.str := h
    subst hk
    simp only [readScalar, printScalar, unquote_quote]
    rfl

mutual
theorem interp_tokTree (st : Style) (hne : st.tru ≠ st.fls) (k : Kind) :
    (v : Val) → ValOK k v → interp st.q k st.tru st.fls (tokTree st v) = some v
  | .leaf s, h => congrArg (Option.map Tree.leaf) (readScalar_print st hne k s h)
  | .arr vs, h => congrArg (Option.map Tree.arr) (interp_tokTrees st hne k vs h)
theorem interp_tokTrees (st : Style) (hne : st.tru ≠ st.fls) (k : Kind) :
    (vs : List Val) → ValsOK k vs → interpList st.q k st.tru st.fls (tokTrees st vs) = some vs
  | [], _ => rfl
  | v :: vs, h => by
    rw [tokTrees, interpList, interp_tokTree st hne k v h.1, interp_tokTrees st hne k vs h.2]
    rfl
end

/-- digits, sign, `.` and `e` are plain for every bracket pair outside them -/
theorem plain_of_floatChar (o c : Char) (ho : floatChar o = false) (hc : floatChar c = false) (ch : Char)
    (h : floatChar ch = true) : plainChar o c ch :=
  ⟨Util.ne_of_class h rfl, Util.ne_of_class h ho, Util.ne_of_class h hc, Util.ne_of_class h rfl,
    Util.ne_of_class h rfl⟩

theorem styleC_ok : StyleOK styleC '{' '}' where
  good := good_brace
  opn := rfl
  cls := rfl
  ne := by decide
  tru := SafeTok.bare _ (by decide) (by decide)
  fls := SafeTok.bare _ (by decide) (by decide)
  fc := plain_of_floatChar '{' '}' rfl rfl

theorem styleRust_ok : StyleOK styleRust '[' ']' where
  good := good_bracket
  opn := rfl
  cls := rfl
  ne := by decide
  tru := SafeTok.bare _ (by decide) (by decide)
  fls := SafeTok.bare _ (by decide) (by decide)
  fc := plain_of_floatChar '[' ']' rfl rfl

mutual
/-- `0 ∉ sh`, here and in every back end: on an empty list `shapeOf` (the exporters' shape) fails, while `rectShape`
    says `[0]` -/
theorem shapeOf_of_rect : (v : Val) → ∀ sh, rectShape v = some sh → 0 ∉ sh → shapeOf v = some sh
  | .leaf _, sh, h, _ => by cases h; rfl
  | .arr vs, sh, h, h0 => by
    rcases rectShape_arr vs sh h with ⟨_, rfl⟩ | ⟨s, rfl, hne, hall⟩
    · simp at h0
    · have h0' : 0 ∉ s := fun hm => h0 (by simp [hm])
      have := shapeLast_of_rect vs s hne hall h0'
      simp [shapeOf, this]
theorem shapeLast_of_rect : (vs : List Val) → ∀ s, vs ≠ [] → (∀ t ∈ vs, rectShape t = some s) → 0 ∉ s →
    shapeLast vs = some s
  | [], _, hne, _, _ => absurd rfl hne
  | [v], s, _, hall, h0 => by
    simp only [shapeLast]
    exact shapeOf_of_rect v s (hall v (by simp)) h0
  | _ :: w :: vs, s, _, hall, h0 => by
    simp only [shapeLast]
    exact shapeLast_of_rect (w :: vs) s (by simp) (fun t ht => hall t (by simp [ht])) h0
end

mutual
theorem rectShape_tokTree (st : Style) : (v : Val) → rectShape (tokTree st v) = rectShape v
  | .leaf _ => rfl
  | .arr vs => by
    simp only [tokTree, rectShape, rectShapes_tokTrees st vs, tokTrees_length st vs]
theorem rectShapes_tokTrees (st : Style) : (vs : List Val) → rectShapes (tokTrees st vs) = rectShapes vs
  | [] => rfl
  | v :: vs => by
    simp only [tokTrees, rectShapes_cons, rectShape_tokTree st v, rectShapes_tokTrees st vs]
theorem tokTrees_length (st : Style) : (vs : List Val) → (tokTrees st vs).length = vs.length
  | [] => rfl
  | _ :: vs => by simp [tokTrees, tokTrees_length st vs]
end

theorem parseInit_printVal (st : Style) (o c : Char) (ok : StyleOK st o c) (k : Kind) (v : Val)
    (hv : ValOK k v) : parseInit st.q o c (printVal st v) = some (tokTree st v) := by
  rw [printVal_eq st o c ok.opn ok.cls v]
  exact parseInit_printTok st.q o c ok.good _ (safe_tree st o c ok k v hv)

theorem roundtrip_val (st : Style) (o c : Char) (ok : StyleOK st o c) (k : Kind) (v : Val) (hv : ValOK k v) :
    (parseInit st.q o c (printVal st v)).bind (interp st.q k st.tru st.fls) = some v := by
  rw [parseInit_printVal st o c ok k v hv]
  exact interp_tokTree st ok.ne k v hv

theorem showNat_plain (n : Nat) : ∀ ch ∈ showNat n, plainChar '[' ']' ch :=
  fun ch h => plain_of_floatChar '[' ']' rfl rfl ch (showNat_floatChars n ch h)

theorem shape_nil_of_leaf (v : Val) (sh : List Nat) (h : rectShape v = some sh) (hia : v.isArr = false) : sh = [] := by
  cases v with
  | leaf a => cases h; rfl
  | arr ts => cases hia

theorem shape_ne_nil_of_arr (v : Val) (sh : List Nat) (h : rectShape v = some sh) (hia : v.isArr = true) : sh ≠ [] := by
  cases v with
  | leaf a => simp [Val.isArr] at hia
  | arr ts => rcases rectShape_arr ts sh h with ⟨_, rfl⟩ | ⟨s, rfl, _, _⟩ <;> simp

/-- one sweep over the regenerated type table (a row `r` is back end `r.1`, kind `r.2.1`, bits `r.2.2.1`, target type
    `r.2.2.2`), all that the proofs need of a row with a target type `t`:
    no newline in `t`; for C, C++ and Rust the compiler probe knows `t` with the class of the DIP type; Rust names have
    no blank, semicolon or bracket; for Fortran (kinds other than string) `t` is no `character(len=…)`, has no comma, and
    the probe gives the class, for integers also the width, for default reals width 32 -/
theorem typeRows_spec : ∀ r ∈ Gen.typeRows, ∀ t, r.2.2.2 = some t →
    clean t = true ∧
    (r.1 ∈ [bC, bCpp, bRust] → (targetKind r.1 t).map (·.1) = some r.2.1) ∧
    (r.1 = bRust → t.all (fun c => c ≠ ';' ∧ c ≠ ' ' ∧ c ≠ '[') = true) ∧
    (r.1 = bFortran → r.2.1 ≠ Kind.str →
      charLen? t = none ∧ t.all (fun c => c ≠ ',') = true ∧
      (r.2.1 = Kind.bool → (targetKind bFortran t).map (·.1) = some Kind.bool) ∧
      (r.2.1 = Kind.int → targetKind bFortran t = some (Kind.int, r.2.2.1)) ∧
      (r.2.1 = Kind.float → r.2.2.1 = 32 → targetKind bFortran t = some (Kind.float, 32))) := by
  decide +kernel

/-- the target type the live `_parse_dtype` chooses for DIP type `d` has, according to the real
    compiler, the same class (bool / signed int / unsigned int / float / string) and, for the numeric classes, the same
    width -/
def typeOK (b : Str) (d : Kind × Nat) : Bool :=
  match lookupType b d.1 d.2 with
  | some t =>
    match (if b = bFortran then fortranKind t else targetKind b t) with
    | some (k, bits) => decide (k = d.1) && (decide (d.1 = Kind.bool) || decide (d.1 = Kind.str) || decide (bits = d.2))
    | none => false
  | none => false

/-- DIP types for which a back-end has no type of the same class and width -/
def lackingRust : List (Kind × Nat) := [(Kind.float, 128)]
/-- DIP types for which Fortran has none: the unsigned integers -/
def lackingFortran : List (Kind × Nat) := [(Kind.uint, 16), (Kind.uint, 32), (Kind.uint, 64)]

/-- one sweep over the types the DIP parser accepts: how each of the four compiled back ends declares them -/
theorem dipTypes_spec : ∀ d ∈ Gen.dipTypes, typeOK bC d = true ∧ typeOK bCpp d = true ∧
    (typeOK bRust d = true ↔ d ∉ lackingRust) ∧ (typeOK bFortran d = true ↔ d ∉ lackingFortran) := by
  decide +kernel

theorem mem_targets (b t : Str) : t ∈ targets b ↔ ∃ r ∈ Gen.typeRows, r.1 = b ∧ r.2.2.2 = some t := by
  unfold targets
  rw [List.mem_eraseDups, List.mem_filterMap]
  constructor
  · rintro ⟨r, hr, h⟩
    split at h
    · exact ⟨r, hr, ‹_›, h⟩
    · cases h
  · rintro ⟨r, hr, h1, h2⟩
    exact ⟨r, hr, by rw [if_pos h1, h2]⟩

theorem lookupType_row (b : Str) (k : Kind) (bits : Nat) (t : Str) (h : lookupType b k bits = some t) :
    ∃ r ∈ Gen.typeRows, r.1 = b ∧ r.2.1 = k ∧ r.2.2.1 = bits ∧ r.2.2.2 = some t := by
  unfold lookupType at h
  split at h
  · rename_i r hf
    have hm := List.mem_of_find?_eq_some hf
    have hp := List.find?_some hf
    simp at hp
    exact ⟨r, hm, hp.1, hp.2.1, hp.2.2, h⟩
  · cases h

theorem readInit_printVal (st : Style) (o c : Char) (ok : StyleOK st o c) (htru : st.tru = cs!"true")
    (hfls : st.fls = cs!"false") (backend decl name : Str) (k : Kind) (n : Nat)
    (hk : targetKind backend decl = some (k, n)) (v : Val) (hv : ValOK k v) (sh : List Nat)
    (hr : rectShape v = some sh) :
    readInit st.q o c backend decl name sh (printVal st v) = some ⟨name, decl, sh, false, v⟩ := by
  have h1 := parseInit_printVal st o c ok k v hv
  have h2 : rectShape (tokTree st v) = some sh := by rw [rectShape_tokTree, hr]
  have h3 := interp_tokTree st ok.ne k v hv
  rw [htru, hfls] at h3
  simp [readInit, h1, h2, hk, h3]

theorem exists_of_map_fst {α β : Type} {o : Option (α × β)} {a : α} (h : o.map (·.1) = some a) :
    ∃ b, o = some (a, b) := by
  cases o with
  | none => cases h
  | some ab => exact ⟨ab.2, by cases h; rfl⟩

theorem targetKind_of_lookup (b : Str) (hb : b ∈ [bC, bCpp, bRust]) (k : Kind) (bits : Nat) (t : Str)
    (h : lookupType b k bits = some t) :
    ∃ n, targetKind b t = some (k, n) ∧ t ∈ targets b ∧ clean t = true ∧
      (b = bRust → t.all (fun c => c ≠ ';' ∧ c ≠ ' ' ∧ c ≠ '[') = true) := by
  obtain ⟨r, hm, h1, h2, _, h3⟩ := lookupType_row b k bits t h
  obtain ⟨hc, hk, hp, _⟩ := typeRows_spec r hm t h3
  rw [h1] at hk hp
  obtain ⟨n, hq⟩ := exists_of_map_fst (hk hb)
  exact ⟨n, h2 ▸ hq, (mem_targets b t).mpr ⟨r, hm, h1, h3⟩, hc, hp⟩

theorem expectedSym_eq (backend : Str) (hnf : backend ≠ bFortran) (ren : Bool) (p : Param) (sh : List Nat)
    (hs : shapeOf p.value = some sh) :
    expectedSym backend ren false p =
      (lookupType backend p.kind p.bits).map (fun d => ⟨rename ren p.name, d, sh, false, p.value⟩) := by
  simp only [expectedSym, expectedDecl, hs, hnf, false_and, if_false, Option.bind_eq_bind, Option.bind_some,
    Bool.false_eq_true]
  cases lookupType backend p.kind p.bits <;> rfl

/-- a declaration line of C, C++ or Rust, whatever its template `text`: the exporter writes `text dtype` for the table's type,
    and a reader that takes `text dtype` to `readInit` on the printed value gives the expected symbol -/
theorem declLine_read (b : Str) (hb : b ∈ [bC, bCpp, bRust]) (st : Style) (o c : Char) (ok : StyleOK st o c)
    (htru : st.tru = cs!"true") (hfls : st.fls = cs!"false") (ren : Bool) (p : Param) (sh : List Nat)
    (hv : ValOK p.kind p.value) (hr : rectShape p.value = some sh) (h0 : 0 ∉ sh) (text : Str → Str) (rd : Str → Option Sym)
    (hrd : ∀ dtype, lookupType b p.kind p.bits = some dtype →
      rd (text dtype) = readInit st.q o c b dtype (rename ren p.name) sh (printVal st p.value)) :
    ((lookupType b p.kind p.bits).map text).bind rd = expectedSym b ren false p := by
  have hnf : b ≠ bFortran := by rintro rfl; revert hb; decide
  rw [expectedSym_eq b hnf ren p sh (shapeOf_of_rect p.value sh hr h0)]
  cases ht : lookupType b p.kind p.bits with
  | none => rfl
  | some dtype =>
    obtain ⟨n, hk, _⟩ := targetKind_of_lookup b hb p.kind p.bits dtype ht
    rw [Option.map_some, Option.bind_some, hrd dtype ht, Option.map_some]
    exact readInit_printVal st o c ok htru hfls b dtype _ p.kind n hk p.value hv sh hr

theorem clean_escStr (q : Quoting) (v : Str) (h : clean v = true) : clean (escStr q v) = true := by
  cases q
  · exact clean_replaceChar _ _ rfl _ (clean_replaceChar _ _ rfl _ h)
  · exact clean_replaceChar _ _ rfl _ h

mutual
def NoNL : Val → Prop
  | .leaf (.s v) => clean v = true
  | .leaf _ => True
  | .arr vs => NoNLs vs
def NoNLs : List Val → Prop
  | [] => True
  | v :: vs => NoNL v ∧ NoNLs vs
end

theorem noNLs_iff : ∀ vs : List Val, NoNLs vs ↔ ∀ v ∈ vs, NoNL v
  | [] => by simp [NoNLs]
  | v :: vs => by rw [NoNLs, noNLs_iff vs, List.forall_mem_cons]

theorem printScalar_clean (st : Style) (hT : clean st.tru = true) (hF : clean st.fls = true)
    (k : Kind) (s : Scalar) (hk : ScalarOK k s) (hn : NoNL (.leaf s)) : clean (printScalar st s) = true := by
  rcases printScalar_cases st k s hk with ⟨v, rfl⟩ | e | e | ⟨_, hc⟩
  · have hv : clean v = true := hn
    simp [printScalar, quoteStr, clean_cons, clean_append, clean_escStr st.q v hv, clean_nil]
  · exact e ▸ hT
  · exact e ▸ hF
  · exact clean_of_floatChars _ hc

mutual
theorem printVal_clean (st : Style) (hT : clean st.tru = true) (hF : clean st.fls = true)
    (hO : clean st.opn = true) (hC : clean st.cls = true) (k : Kind) :
    (v : Val) → ValOK k v → NoNL v → clean (printVal st v) = true
  | .leaf s, hv, hn => printScalar_clean st hT hF k s hv hn
  | .arr vs, hv, hn => by
    rw [printVal, clean_append, clean_append, hO, hC, printVals_clean st hT hF hO hC k vs hv hn]
    rfl
theorem printVals_clean (st : Style) (hT : clean st.tru = true) (hF : clean st.fls = true)
    (hO : clean st.opn = true) (hC : clean st.cls = true) (k : Kind) :
    (vs : List Val) → ValsOK k vs → NoNLs vs → clean (printVals st vs) = true
  | [], _, _ => rfl
  | [v], hv, hn => printVal_clean st hT hF hO hC k v hv.1 hn.1
  | v :: w :: vs, hv, hn => by
    rw [printVals, clean_append, clean_append, printVal_clean st hT hF hO hC k v hv.1 hn.1,
      printVals_clean st hT hF hO hC k (w :: vs) hv.2 hn.2]
    rfl
end

end SciVerif.C19
