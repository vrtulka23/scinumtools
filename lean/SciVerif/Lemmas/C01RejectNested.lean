import SciVerif.Lemmas.C01Reject

/-!
# C01, character level: a rejected text stays rejected inside any number of one-argument calls.  `BadCore`
  is an argument text every nested solver rejects; it is closed under wrapping in a call (`BadCore.wrap`),
  and a call with such an argument is rejected after any admissible prefix (`solve_badCore`).
-/
namespace SciVerif.C01
open SciVerif.C01.Gen

variable {A : Type} (alg : AtomAlg A) (lit : List Char → A)

/-- a stripped, balanced argument text that every sufficiently fuelled solver rejects with `m`;
    `d` is the fuel that suffices, i.e. the call nesting down to the place of the error -/
structure BadCore (m : String) (C : List Char) (d : Nat) : Prop where
  bal : ∀ k, nest C k = some k
  safe : SafeHead C
  tight : Tight C
  len : d + 1 ≤ C.length
  err : ∀ n, d ≤ n → (solveFromF dflt alg dfltSteps (n + 1) ⟨[], []⟩ C).2 = .error m

theorem BadCore.ne_nil {m : String} {C : List Char} {d : Nat} (h : BadCore alg m C d) : C ≠ [] := by
  intro hc
  have := h.len
  rw [hc] at this
  simp at this

theorem BadCore.strip_eq {m : String} {C : List Char} {d : Nat} (h : BadCore alg m C d) (a b : Nat) :
    strip (blanks a ++ C ++ blanks b) = C :=
  strip_pad a b C h.tight

theorem BadCore.pad_bal {m : String} {C : List Char} {d : Nat} (h : BadCore alg m C d) (a b k : Nat) :
    nest (blanks a ++ C ++ blanks b) k = some k := by
  rw [nest_append, nest_append, nest_blanks]
  simp only [Option.bind_some]
  rw [h.bal]
  simp only [Option.bind_some]
  exact nest_blanks b k

theorem BadCore.pad_safe {m : String} {C : List Char} {d : Nat} (h : BadCore alg m C d) (a b : Nat)
    (r : List Char) : SafeHead ((blanks a ++ C ++ blanks b) ++ r) := by
  rw [List.append_assoc, List.append_assoc]
  exact safeHead_blanks a _ (h.safe.append (h.ne_nil alg) _)

theorem callText_core (sym inner : List Char)
    (hs : GoodLex sym ∧ SafeHead sym ∧ ∀ k, nest sym k = some (k + 1))
    (hi : ∀ k, nest inner (k + 1) = some (k + 1)) :
    (∀ k, nest (sym ++ (inner ++ [')'])) k = some k) ∧ SafeHead (sym ++ (inner ++ [')'])) ∧
      Tight (sym ++ (inner ++ [')'])) := by
  obtain ⟨⟨hne, hall⟩, hsafe, hnest⟩ := hs
  refine ⟨fun k => ?_, hsafe.append hne _, ?_⟩
  · rw [nest_append, hnest k]
    simp only [Option.bind_some]
    rw [nest_append, hi k]
    exact nest_close k
  · cases sym with
    | nil => exact absurd rfl hne
    | cons c cs =>
      refine ⟨c, ')', rfl, hall c (by simp), ?_, by decide⟩
      rw [← List.append_assoc, List.getLast?_append]
      simp

-- `lit` is not in the statement; the proof needs some `lit` to call the lemmas about item lists (with an empty list)
include lit in
theorem BadCore.wrap {m : String} {C : List Char} {d : Nat} (h : BadCore alg m C d) (f : F1) (a b : Nat) :
    BadCore alg m (f.sym ++ ((blanks a ++ C ++ blanks b) ++ [')'])) (d + 1) := by
  have hsym := callSym_props (.f1 f)
  obtain ⟨hb, hsf, ht⟩ := callText_core f.sym (blanks a ++ C ++ blanks b) hsym
    (fun k => h.pad_bal alg a b (k + 1))
  refine ⟨hb, hsf, ht, ?_, ?_⟩
  · have := h.len
    have hl : 0 < f.sym.length := List.length_pos_iff.mpr hsym.1.1
    simp only [List.length_append, List.length_cons, List.length_nil, blanks_length]
    omega
  · intro n hn
    obtain ⟨q, rfl⟩ : ∃ q, n = q + 1 := ⟨n - 1, by omega⟩
    have := solveFromF_arg_err alg lit (q + 1) [] trivial (List.forall_mem_nil _) [] Pre.nil f
      (blanks a ++ C ++ blanks b) (h.pad_bal alg a b 0) 0 [] (h.pad_safe alg a b _) m
      (by rw [h.strip_eq alg a b]; exact h.err q (by omega))
    simpa [blanks_zero] using this

theorem badCore_base (hn : NegNeg alg) (e' : E) (hwf' : e'.WF) (hl' : LitOK alg lit e') (o : OprK)
    (v : List Char) (hv : Pre (lexemes e' ++ [o.sym]) v) (m : String)
    (hs : solveToks dflt alg dfltSteps (toks dflt alg lit e' ++ [tokOf alg lit (.opr o)]) = .error m) :
    ∃ k0 C, v = blanks k0 ++ C ∧ BadCore alg m C (cdepth e') := by
  have hgood : ∀ x ∈ lexemes e' ++ [o.sym], GoodLex x :=
    List.forall_mem_append.mpr ⟨lexemes_good alg lit e' hl', List.forall_mem_singleton.mpr (oprSym_props o).1⟩
  obtain ⟨x, xs, e1, h1, h2⟩ := lexemes_head alg lit e' hl'
  have hv' : Pre (x :: (xs ++ [o.sym])) v := by simpa [e1] using hv
  obtain ⟨k0, s, rfl, hs'⟩ := Pre.cons_inv hv'
  have hp : Pre (lexemes e' ++ [o.sym]) (x ++ s) := by
    rw [e1]; exact Pre.cons0 x hs'
  refine ⟨k0, x ++ s, by simp, ?_, ?_, ?_, ?_, ?_⟩
  · intro k
    rw [nest_pre hp, nestLex_append, nestLex_lexemes alg lit e' hl' k]
    simp [nestLex, nest_neutral _ (oprSym_props o).2]
  · exact h2.append h1 _
  · exact Pre.tight hs' (fun y hy => hgood y (by rw [e1]; simpa using hy))
  · obtain ⟨u1, u2, e2, h1', _⟩ := Pre.append_inv hp
    have := cdepth_lt_text alg lit e' hl' h1'
    rw [e2, List.length_append]
    omega
  · intro n hd
    have := solveFromF_framed_err alg lit hn e' hwf' hl' [] [.opr o] (List.forall_mem_nil _)
      (List.forall_mem_singleton.mpr rfl)
      (adj_post_opr alg lit e' hl' _) (x ++ s) 0
      (by rw [framed_lex]; exact hp) m (by simpa using hs) n hd
    simpa [blanks_zero] using this

/-- `nestCalls fs t`: the text `t` wrapped in the one-argument calls `fs`, outermost first; each
    `(f, a, b)` contributes `a` blanks, the symbol of `f`, the inner text, `)` and `b` blanks -/
def nestCalls : List (F1 × Nat × Nat) → List Char → List Char
  | [], t => t
  | (f, a, b) :: fs, t => blanks a ++ f.sym ++ nestCalls fs t ++ ')' :: blanks b

include lit in
theorem badCore_nest (m : String) (fs : List (F1 × Nat × Nat)) (t : List Char) (d : Nat)
    (h : ∃ a b C, t = blanks a ++ C ++ blanks b ∧ BadCore alg m C d) :
    ∃ a b C, nestCalls fs t = blanks a ++ C ++ blanks b ∧ BadCore alg m C (d + fs.length) := by
  induction fs with
  | nil => simpa [nestCalls] using h
  | cons x fs ih =>
    obtain ⟨f, a, b⟩ := x
    obtain ⟨a', b', C', e, hc⟩ := ih
    refine ⟨a, b, _, ?_, hc.wrap alg lit f a' b'⟩
    simp [nestCalls, e, List.append_assoc]

theorem solve_badCore (its : List LItem) (hadj : Adj its) (u : List Char)
    (hu : Pre (its.flatMap itemLex) u) (f : F1) (j : Nat) (rest : List Char)
    (m : String) (C : List Char) (d : Nat) (h : BadCore alg m C d) (a b : Nat)
    (hok : ∀ it ∈ its, ItemOK alg lit
      (nestedSolve alg (u ++ (blanks j ++ (f.sym ++ ((blanks a ++ C ++ blanks b) ++ ')' :: rest)))).length) it) :
    solve dflt alg dfltSteps (u ++ (blanks j ++ (f.sym ++ ((blanks a ++ C ++ blanks b) ++ ')' :: rest))))
      = .error m := by
  obtain ⟨q, hq⟩ : ∃ q, (u ++ (blanks j ++ (f.sym ++ ((blanks a ++ C ++ blanks b)
      ++ ')' :: rest)))).length = q + 1 :=
    ⟨(u ++ (blanks j ++ (f.sym ++ ((blanks a ++ C ++ blanks b) ++ ')' :: rest)))).length - 1,
      by simp; omega⟩
  have hdq : d ≤ q := by
    have := h.len
    simp only [List.length_append, List.length_cons, blanks_length] at hq
    omega
  rw [hq] at hok
  have := solveFromF_arg_err alg lit (q + 1) its hadj hok u hu f _ (h.pad_bal alg a b 0) j rest
    (h.pad_safe alg a b _) m (by rw [h.strip_eq alg a b]; exact h.err q hdq)
  unfold solve solveI solveFrom resetBufs
  rw [hq]
  exact this

/-- `solve` raises what the step loop raises on the innermost token list (`e'` followed by the
    dangling operator `o`), however many one-argument calls / parentheses `fs` surround it. -/
theorem solve_nested_err (hn : NegNeg alg) (its : List LItem) (hadj : Adj its) (u : List Char)
    (hu : Pre (its.flatMap itemLex) u) (N : Nat) (hN : N ≤ u.length)
    (hok : ∀ n, N ≤ n → ∀ it ∈ its, ItemOK alg lit (nestedSolve alg n) it)
    (f : F1) (j : Nat) (rest : List Char) (fs : List (F1 × Nat × Nat))
    (e' : E) (hwf' : e'.WF) (hl' : LitOK alg lit e') (o : OprK) (v : List Char) (k : Nat)
    (hv : Pre (lexemes e' ++ [o.sym]) v) (m : String)
    (hs : solveToks dflt alg dfltSteps (toks dflt alg lit e' ++ [tokOf alg lit (.opr o)]) = .error m) :
    solve dflt alg dfltSteps
      (u ++ (blanks j ++ (f.sym ++ (nestCalls fs (v ++ blanks k) ++ ')' :: rest)))) = .error m := by
  obtain ⟨k0, C, rfl, hC⟩ := badCore_base alg lit hn e' hwf' hl' o v hv m hs
  obtain ⟨a, b, C', e, hC'⟩ := badCore_nest alg lit m fs (blanks k0 ++ C ++ blanks k) _
    ⟨k0, k, C, rfl, hC⟩
  rw [e]
  exact solve_badCore alg lit its hadj u hu f j rest m C' _ hC' a b
    (hok _ (by simp only [List.length_append]; omega))

theorem nest_joinArgs (Ts : List (List Char)) (hne : Ts ≠ [])
    (hb : ∀ T ∈ Ts, nest T 0 = some 0) (k : Nat) : nest (joinArgs Ts) (k + 1) = some (k + 1) := by
  induction Ts with
  | nil => exact absurd rfl hne
  | cons T Ts ih =>
    have hT : nest T (k + 1) = some (k + 1) := by
      have := nest_shift T 0 0 (k + 1) (hb T (by simp))
      simpa using this
    cases Ts with
    | nil => simpa [joinArgs] using hT
    | cons T' Ts' =>
      have := ih (by simp) (fun X hX => hb X (by simp [hX]))
      simp only [joinArgs]
      rw [nest_append, hT]
      rw [Option.bind_some, nest_sep]
      exact this

include lit in
theorem badCore_arity (c : Call) (Ts : List (List Char)) (hne : Ts ≠ [])
    (hb : ∀ T ∈ Ts, nest T 0 = some 0) (hk : Ts.length ≠ c.narg) :
    BadCore alg "arity" (c.sym ++ (joinArgs Ts ++ [')'])) 0 := by
  have hsym := callSym_props c
  obtain ⟨hbal, hsf, ht⟩ := callText_core c.sym (joinArgs Ts) hsym (nest_joinArgs Ts hne hb)
  refine ⟨hbal, hsf, ht, ?_, ?_⟩
  · have hl : 0 < c.sym.length := List.length_pos_iff.mpr hsym.1.1
    simp only [List.length_append]
    omega
  · intro n _
    obtain ⟨bb, hbb⟩ := tokLoop_arity_pending alg lit (nestedSolve alg n) c Ts hne hb hk 0 []
      ((c.sym ++ (joinArgs Ts ++ [')'])).length + 1) [] [] ⟨[], []⟩ (pending_nil alg lit)
      (by simp [blanks_zero])
    simp only [blanks_zero, List.nil_append] at hbb
    rw [solveFromF_tok_error alg n _ _ _ _ hbb]

/-- as `solve_nested_err`, for a call with the wrong number of arguments in the innermost position -/
theorem solve_nested_arity (its : List LItem) (hadj : Adj its) (u : List Char)
    (hu : Pre (its.flatMap itemLex) u) (N : Nat) (hN : N ≤ u.length)
    (hok : ∀ n, N ≤ n → ∀ it ∈ its, ItemOK alg lit (nestedSolve alg n) it)
    (f : F1) (j : Nat) (rest : List Char) (fs : List (F1 × Nat × Nat))
    (c : Call) (Ts : List (List Char)) (hne : Ts ≠ [])
    (hb : ∀ T ∈ Ts, nest T 0 = some 0) (hk : Ts.length ≠ c.narg) (a b : Nat) :
    solve dflt alg dfltSteps
      (u ++ (blanks j ++ (f.sym ++ (nestCalls fs (blanks a ++ (c.sym ++ (joinArgs Ts ++ [')'])) ++ blanks b)
        ++ ')' :: rest)))) = .error "arity" := by
  obtain ⟨a', b', C', e, hC'⟩ := badCore_nest alg lit "arity" fs
    (blanks a ++ (c.sym ++ (joinArgs Ts ++ [')'])) ++ blanks b) 0
    ⟨a, b, _, rfl, badCore_arity alg lit c Ts hne hb hk⟩
  rw [e]
  exact solve_badCore alg lit its hadj u hu f j rest "arity" C' _ hC' a' b'
    (hok _ (by simp only [List.length_append]; omega))

end SciVerif.C01
