import SciVerif.Lemmas.C15

/-! The main induction of C15: running the state machine over a rendered program tree.

Frame invariant.  While the lines of an item sequence written at indent `k` are processed,
the part `B` of the stack of open branches and the part `P` of the hierarchy that lie below
indent `k` never change; whatever deeper lines left on top of them is removed by the next
line at indent `k` (`closeGE k s.state = B`, `popGE k s.parents = P`).  The lines of the
sequence take effect iff `falseCase B = false`, i.e. iff every enclosing clause is selected.
A block written in compact form (`pfx.@case`) is told apart from a neighbouring block by its
path `fullName P ++ nms pfx`.

The renderings and effects of the single constructors are not rewritten with equation lemmas
(generating those for the mutually recursive tree functions is slow): the facts about `run`
are stated on the unfolded line lists and meet the goals up to unfolding.

At the end, independent of the machine: `occ_sem`, the occurrences all of whose enclosing clauses
are selected are the effects `sem` lists. -/
namespace SciVerif.C15

/-- A block followed by a block of parent `q` gets an `@end` or has another parent than `q`. -/
theorem needsEnd_or_ne (a : Option (List String)) (q : List String) : needsEnd a (some q) = true ∨ a ≠ some q := by
  cases a with
  | none => exact Or.inr nofun
  | some x =>
    by_cases h : x = q
    · exact Or.inl (beq_iff_eq.mpr h)
    · exact Or.inr fun e => h (Option.some.inj e)

theorem skip_append {α : Type} (c : Bool) (a b : List α) :
    (if c then [] else a) ++ (if c then [] else b) = if c then [] else a ++ b := by
  cases c <;> rfl

/-- Statement of the induction for an item sequence rendered at indent `k` in the frame `B`, `P`.
    The last hypothesis says that no block with the parent `q` of the first item is left open at
    indent `k` (`closeFor … = (B, false)`: a `q.@case` there opens a new block). -/
def ItemsOK (is : Items) : Prop :=
  ∀ (k : Nat) (s : St) (B : List Branch) (P : List (Nat × List Comp)),
    Below k B → BelowP k P → closeGE k s.state = B → popGE k s.parents = P →
    (∀ q, is.firstPfx = some q → closeFor k (fullName P ++ nms q) s.state = (B, false)) →
    ∃ s', run s (is.render k) = .ok (s', if falseCase B then [] else is.sem (cleanName (fullName P))) ∧
      closeGE k s'.state = B ∧ popGE k s'.parents = P

/-- The same for one item; `fe`: the item is rendered with a forced `@end`.  The last conjunct says
    which parents `q` have no block left open at indent `k` afterwards: all of them after an `@end`,
    otherwise all but the item's own. -/
def ItemOK (i : Item) : Prop :=
  ∀ (k : Nat) (s : St) (B : List Branch) (P : List (Nat × List Comp)) (fe : Bool),
    Below k B → BelowP k P → closeGE k s.state = B → popGE k s.parents = P →
    (∀ q, i.blockPfx = some q → closeFor k (fullName P ++ nms q) s.state = (B, false)) →
    ∃ s', run s (i.render k fe) = .ok (s', if falseCase B then [] else i.sem (cleanName (fullName P))) ∧
      closeGE k s'.state = B ∧ popGE k s'.parents = P ∧
      (∀ q, (fe = true ∨ i.blockPfx ≠ some q) → closeFor k (fullName P ++ nms q) s'.state = (B, false))

/-- Inside the block `blk` (written at indent `k` with parent `pfx`, current clause a `@case`),
    after a clause body. -/
def ChainOK (ch : Chain) : Prop :=
  ∀ (k : Nat) (s : St) (B : List Branch) (P : List (Nat × List Comp)) (pfx : List String) (blk : Branch)
    (fe : Bool),
    Below k B → BelowP k P → closeGE (k + 1) s.state = blk :: B → blk.cur.indent = k →
    blk.cur.path = fullName P ++ nms pfx → blk.cur.ctype = .case → popGE k s.parents = P →
    ∃ s', run s (ch.render k pfx fe) =
        .ok (s', (if falseCase B || anyTrue blk then [] else ch.sem (cleanName (fullName P) ++ pfx)) ++
                 (if falseCase B then [] else ch.tail (cleanName (fullName P) ++ pfx))) ∧
      closeGE k s'.state = B ∧ popGE k s'.parents = P ∧
      (∀ q, (fe = true ∨ pfx ≠ q) → closeFor k (fullName P ++ nms q) s'.state = (B, false))

/-- The lines written below a line at indent `k` that left `B'` on the stack and registered `c`
    in the hierarchy: they are run under the frame `B'`, `(k, c) :: P`; the next line at indent
    `k` finds `B'` and `P` again. -/
theorem ItemsOK.nested {body : Items} (ih : ItemsOK body) (k e : Nat) (c : List Comp) (s1 : St)
    (B' : List Branch) (P : List (Nat × List Comp)) (hB' : Below (k + 1) B') (hP : BelowP k P)
    (h1 : s1.state = B') (h2 : s1.parents = (k, c) :: P) :
    ∃ s2, run s1 (body.render (k + 1 + e)) =
        .ok (s2, if falseCase B' then [] else body.sem (cleanName (fullName ((k, c) :: P)))) ∧
      closeGE (k + 1) s2.state = B' ∧ popGE k s2.parents = P := by
  have hk : k + 1 ≤ k + 1 + e := Nat.le_add_right _ _
  have hp' : BelowP (k + 1) ((k, c) :: P) := belowP_cons (Nat.lt_succ_self k)
  obtain ⟨s2, hr, hs, hpp⟩ := ih (k + 1 + e) s1 B' ((k, c) :: P) (hB'.mono hk) (hp'.mono hk)
    (by rw [h1]; exact closeGE_of_below (hB'.mono hk)) (by rw [h2]; exact popGE_of_below (hp'.mono hk))
    (fun q _ => by rw [h1]; exact closeFor_of_below _ (hB'.mono hk))
  exact ⟨s2, hr, closeGE_mono hs hk hB', popGE_of_deeper c (Nat.le_trans (Nat.le_succ k) hk) hpp hP⟩

theorem clause_body {body : Items} (ih : ItemsOK body) (k e n : Nat) (pfx : List String) (s1 : St)
    (B : List Branch) (P : List (Nat × List Comp)) (blk : Branch) (hP : BelowP k P)
    (h1 : s1.state = blk :: B) (h2 : s1.parents = (k, nms pfx ++ [.cs n]) :: P) (hi : blk.cur.indent = k) :
    ∃ s2, run s1 (body.render (k + 1 + e)) =
        .ok (s2, if falseCase B || falseBranch blk then [] else body.sem (cleanName (fullName P) ++ pfx)) ∧
      closeGE (k + 1) s2.state = blk :: B ∧ popGE k s2.parents = P := by
  have h := ih.nested k e (nms pfx ++ [.cs n]) s1 (blk :: B) P (below_cons (hi ▸ Nat.lt_succ_self _)) hP h1 h2
  rwa [falseCase_cons, cleanName_fullName_cs, Bool.or_comm] at h

theorem props_run (k : Nat) (props : List (Nat × PKind)) (s : St) (B : List Branch) (hB : Below (k + 1) B)
    (hs : s.state = B) :
    run s (propLines k props) = .ok (s, if falseCase B then [] else props.map (fun ep => Eff.prop ep.2)) := by
  subst hs
  induction props with
  | nil => cases falseCase s.state <;> rfl
  | cons ep rest ih =>
    have hstep : step s ⟨k + 1 + ep.1, [], .prop ep.2⟩ =
        .ok (s, if falseCase s.state then [] else [.prop ep.2]) :=
      step_prop (closeGE_of_below (hB.mono (Nat.le_add_right _ _)))
    exact (run_cons_ok hstep ih).trans (congrArg (fun o => Except.ok (s, o)) (skip_append _ _ _))

theorem node_ok (n : String) (m : Bool) (v : Int) (props : List (Nat × PKind)) : ItemOK (.node n m v props) := by
  intro k s B P fe hB hP h1 h2 _
  have hp := props_run k props { s with parents := (k, nms [n]) :: P, state := B } B
    (hB.mono (Nat.le_succ k)) rfl
  exact ⟨_, (run_cons_ok (step_node h1 h2) hp).trans (congrArg (fun o => Except.ok (_, o)) (skip_append _ _ _)),
    closeGE_of_below hB, popGE_top _ hP, fun q _ => closeFor_of_below _ hB⟩

theorem prop_ok (p : PKind) : ItemOK (.prop p) := by
  intro k s B P fe hB _ h1 h2 _
  exact ⟨{ s with state := B },
    (run_cons_ok (step_prop h1) rfl).trans (congrArg (fun o => Except.ok (_, o)) (List.append_nil _)),
    closeGE_of_below hB, h2, fun q _ => closeFor_of_below _ hB⟩

theorem imp_ok (src : List String) (nd : Option String) : ItemOK (.imp src nd) := by
  intro k s B P fe hB hP h1 h2 _
  exact ⟨_, (run_cons_ok (step_imp h1 h2) rfl).trans (congrArg (fun o => Except.ok (_, o)) (List.append_nil _)),
    closeGE_of_below hB, popGE_top _ hP, fun q _ => closeFor_of_below _ hB⟩

theorem unit_ok (n : String) (b : Bool) : ItemOK (.unit n b) := by
  intro k s B P fe hB _ h1 h2 _
  refine ⟨{ s with state := B }, (run_cons_ok (step_unit h1) rfl).trans (congrArg (fun o => Except.ok (_, o)) ?_),
    closeGE_of_below hB, h2, fun q _ => closeFor_of_below _ hB⟩
  cases b <;> cases falseCase B <;> rfl

theorem group_ok (n : String) (e : Nat) (body : Items) (ih : ItemsOK body) : ItemOK (.group n e body) := by
  intro k s B P fe hB hP h1 h2 _
  obtain ⟨s2, hr, hst, hpp⟩ := ih.nested k e (nms [n]) { s with parents := (k, nms [n]) :: P, state := B } B P
    (hB.mono (Nat.le_succ k)) hP rfl rfl
  rw [cleanName_fullName_nm] at hr
  exact ⟨s2, run_cons_ok (step_group h1 h2) hr, closeGE_mono hst (Nat.le_succ k) hB, hpp,
    fun q _ => closeFor_new hst hB⟩

theorem items_nil_ok : ItemsOK .nil := by
  intro k s B P _ _ h1 h2 _
  refine ⟨s, ?_, h1, h2⟩
  cases falseCase B <;> rfl

theorem items_cons_ok (i : Item) (rest : Items) (ihi : ItemOK i) (ihr : ItemsOK rest) :
    ItemsOK (.cons i rest) := by
  intro k s B P hB hP h1 h2 h3
  obtain ⟨s1, hr1, hs1, hp1, hpost⟩ := ihi k s B P (needsEnd i.blockPfx rest.firstPfx) hB hP h1 h2 h3
  obtain ⟨s2, hr2, hs2, hp2⟩ := ihr k s1 B P hB hP hs1 hp1
    (fun q hq => hpost q (hq ▸ needsEnd_or_ne i.blockPfx q))
  exact ⟨s2, (run_append_ok hr1 hr2).trans (congrArg (fun o => Except.ok (s2, o)) (skip_append _ _ _)), hs2, hp2⟩

/-- The end of a block: the optional `@end` (written if asked for or forced), and after an
    explicit `@end` the lines indented deeper than it, which hang below its `pfx.@n`. -/
theorem chain_end {tr : Items} (ih : ItemsOK tr) (ee : Bool) (k te : Nat) (pfx : List String) (fe : Bool)
    (s : St) (B : List Branch) (P : List (Nat × List Comp)) (blk : Branch)
    (hB : Below k B) (hP : BelowP k P) (h1 : closeGE (k + 1) s.state = blk :: B)
    (hi : blk.cur.indent = k) (hpath : blk.cur.path = fullName P ++ nms pfx) (h2 : popGE k s.parents = P) :
    ∃ s', run s (endLine k pfx (ee || fe) ++ if ee then tr.render (k + 1 + te) else []) =
        .ok (s', if falseCase B then [] else if ee then tr.sem (cleanName (fullName P) ++ pfx) else []) ∧
      closeGE k s'.state = B ∧ popGE k s'.parents = P ∧
      (∀ q, (fe = true ∨ pfx ≠ q) → closeFor k (fullName P ++ nms q) s'.state = (B, false)) := by
  obtain ⟨s1, hs1, hst, hpa⟩ : ∃ s1, step s ⟨k, pfx, .fin⟩ = .ok (s1, []) ∧ s1.state = B ∧
      s1.parents = (k, nms pfx ++ [.cs (s.numCases + 1)]) :: P :=
    ⟨_, step_clause_found .fin h1 hB hi hpath h2, rfl, rfl⟩
  cases ee with
  | false =>
    cases fe with
    | false =>
      refine ⟨s, ?_, closeGE_of_top h1 hi hB, h2, fun q hq => ?_⟩
      · cases falseCase B <;> rfl
      · exact closeFor_other h1 hi (hpath ▸ path_ne (hq.resolve_left Bool.false_ne_true)) hB
    | true =>
      refine ⟨s1, (run_cons_ok hs1 rfl).trans ?_, ?_, ?_, fun q _ => ?_⟩
      · cases falseCase B <;> rfl
      · rw [hst]; exact closeGE_of_below hB
      · rw [hpa]; exact popGE_top _ hP
      · rw [hst]; exact closeFor_of_below _ hB
  | true =>
    obtain ⟨s2, hr, hs2, hpp⟩ := ih.nested k te _ s1 B P (hB.mono (Nat.le_succ k)) hP hst hpa
    rw [cleanName_fullName_cs] at hr
    exact ⟨s2, run_cons_ok hs1 hr, closeGE_mono hs2 (Nat.le_succ k) hB, hpp, fun q _ => closeFor_new hs2 hB⟩

theorem chain_fin_ok (ee : Bool) (te : Nat) (tr : Items) (iht : ItemsOK tr) : ChainOK (.fin ee te tr) := by
  intro k s B P pfx blk fe hB hP h1 hi hpath _ h2
  obtain ⟨s', hr, hs, hp, hpost⟩ := chain_end iht ee k te pfx fe s B P blk hB hP h1 hi hpath h2
  exact ⟨s', hr.trans (by cases (falseCase B || anyTrue blk) <;> rfl), hs, hp, hpost⟩

theorem chain_els_ok (e : Nat) (body : Items) (ee : Bool) (te : Nat) (tr : Items) (ih : ItemsOK body)
    (iht : ItemsOK tr) : ChainOK (.els e body ee te tr) := by
  intro k s B P pfx blk fe hB hP h1 hi hpath ht h2
  let blk' : Branch :=
    { blk with cur := ⟨fullName P ++ nms pfx, k, true, .els, s.numCases + 1⟩, earlier := blk.cur :: blk.earlier }
  let s1 : St := St.mk ((k, nms pfx ++ [.cs (s.numCases + 1)]) :: P) (blk' :: B) (s.numCases + 1) s.numBranches
  have hs : step s ⟨k, pfx, .els⟩ = .ok (s1, []) := by
    rw [step_clause_found .els h1 hB hi hpath h2, ht]
  obtain ⟨s2, hr2, hs2, hp2⟩ := clause_body ih k e (s.numCases + 1) pfx s1 B P blk' hP rfl rfl rfl
  rw [falseBranch_switch] at hr2
  obtain ⟨s3, hr3, hs3, hp3, hpost⟩ := chain_end iht ee k te pfx fe s2 B P blk' hB hP hs2 rfl rfl hp2
  refine ⟨s3, ?_, hs3, hp3, hpost⟩
  refine (run_cons_ok hs (run_append_ok hr2 hr3)).trans (congrArg (fun o => Except.ok (s3, o)) ?_)
  cases falseCase B <;> cases anyTrue blk <;> rfl

theorem chain_case_ok (c : Bool) (e : Nat) (body : Items) (more : Chain) (ih : ItemsOK body)
    (ihm : ChainOK more) : ChainOK (.case c e body more) := by
  intro k s B P pfx blk fe hB hP h1 hi hpath ht h2
  let blk' : Branch :=
    { blk with cur := ⟨fullName P ++ nms pfx, k, c && !falseCase B, .case, s.numCases + 1⟩,
               earlier := blk.cur :: blk.earlier }
  let s1 : St := St.mk ((k, nms pfx ++ [.cs (s.numCases + 1)]) :: P) (blk' :: B) (s.numCases + 1) s.numBranches
  have hs : step s ⟨k, pfx, .case c⟩ = .ok (s1, []) := by
    rw [step_clause_found (.case c) h1 hB hi hpath h2, ht]
  obtain ⟨s2, hr2, hs2, hp2⟩ := clause_body ih k e (s.numCases + 1) pfx s1 B P blk' hP rfl rfl rfl
  obtain ⟨s3, hr3, hs3, hp3, hpost⟩ := ihm k s2 B P pfx blk' fe hB hP hs2 rfl rfl rfl hp2
  rw [falseBranch_switch] at hr2
  rw [anyTrue_switch] at hr3
  refine ⟨s3, ?_, hs3, hp3, hpost⟩
  refine (run_cons_ok hs (run_append_ok hr2 hr3)).trans (congrArg (fun o => Except.ok (s3, o)) ?_)
  cases c <;> cases falseCase B <;> cases anyTrue blk <;> rfl

theorem block_ok (pfx : List String) (c : Bool) (e : Nat) (body : Items) (more : Chain) (ih : ItemsOK body)
    (ihm : ChainOK more) : ItemOK (.block pfx c e body more) := by
  intro k s B P fe hB hP h0 h2 h3
  let blk' : Branch := ⟨s.numBranches + 1, ⟨fullName P ++ nms pfx, k, c && !falseCase B, .case, s.numCases + 1⟩, []⟩
  let s1 : St := St.mk ((k, nms pfx ++ [.cs (s.numCases + 1)]) :: P) (blk' :: B) (s.numCases + 1) (s.numBranches + 1)
  have hs : step s ⟨k, pfx, .case c⟩ = .ok (s1, []) :=
    step_clause_new (.case c) (h3 pfx rfl) h0 h2
  obtain ⟨s2, hr2, hs2, hp2⟩ := clause_body ih k e (s.numCases + 1) pfx s1 B P blk' hP rfl rfl rfl
  obtain ⟨s3, hr3, hs3, hp3, hpost⟩ := ihm k s2 B P pfx blk' fe hB hP hs2 rfl rfl rfl hp2
  have ha : anyTrue blk' = (c && !falseCase B) := Bool.or_false _
  rw [falseBranch_open] at hr2
  rw [ha] at hr3
  refine ⟨s3, ?_, hs3, hp3, fun q hq => hpost q (hq.imp_right fun h e => h (congrArg some e))⟩
  refine (run_cons_ok hs (run_append_ok hr2 hr3)).trans (congrArg (fun o => Except.ok (s3, o)) ?_)
  show _ = if falseCase B then [] else _ ++ _
  cases c <;> cases falseCase B <;> rfl

mutual
  theorem item_ok : (i : Item) → ItemOK i
    | .node n m v props => node_ok n m v props
    | .prop p => prop_ok p
    | .imp src nd => imp_ok src nd
    | .unit n b => unit_ok n b
    | .group n e body => group_ok n e body (items_ok body)
    | .block pfx c e body more => block_ok pfx c e body more (items_ok body) (chain_ok more)
  theorem items_ok : (is : Items) → ItemsOK is
    | .nil => items_nil_ok
    | .cons i rest => items_cons_ok i rest (item_ok i) (items_ok rest)
  theorem chain_ok : (ch : Chain) → ChainOK ch
    | .case c e body more => chain_case_ok c e body more (items_ok body) (chain_ok more)
    | .els e body ee te tr => chain_els_ok e body ee te tr (items_ok body) (items_ok tr)
    | .fin ee te tr => chain_fin_ok ee te tr (items_ok tr)
end

theorem items_ok_top (p : Items) (s : St) (h : s.state = []) :
    ∃ s', run s (p.render 0) = .ok (s', p.sem []) := by
  obtain ⟨s', hr, _, _⟩ := items_ok p 0 s [] [] (below_nil 0) (belowP_nil 0) (by rw [h]; rfl)
    (popGE_zero s.parents) (fun _ _ => by rw [h]; rfl)
  exact ⟨s', hr⟩

theorem Items.sem_append : (a b : Items) → (pre : List String) →
    (a.append b).sem pre = a.sem pre ++ b.sem pre
  | .nil, _, _ => rfl
  | .cons i r, b, pre =>
    (congrArg (i.sem pre ++ ·) (Items.sem_append r b pre)).trans (List.append_assoc ..).symm

theorem selectedOnly_append (a b : List (List Bool × Eff)) :
    selectedOnly (a ++ b) = selectedOnly a ++ selectedOnly b := by
  unfold selectedOnly
  rw [List.filter_append, List.map_append]

theorem selectedOnly_cons (sel : List Bool) (e : Eff) (l : List (List Bool × Eff)) :
    selectedOnly ((sel, e) :: l) = if sel.all id then e :: selectedOnly l else selectedOnly l := by
  unfold selectedOnly
  rw [List.filter_cons]
  cases sel.all id <;> rfl

theorem selectedOnly_map_const {α : Type} (sel : List Bool) (f : α → Eff) (l : List α) :
    selectedOnly (l.map (fun a => (sel, f a))) = if sel.all id then l.map f else [] := by
  induction l with
  | nil => cases sel.all id <;> rfl
  | cons a t ih =>
    rw [List.map_cons, selectedOnly_cons, ih]
    cases sel.all id <;> rfl

/-- Occurrences `occ` that are written only if the `@end` is explicit (`ee`), as the trailer of a chain is:
    `selectedOnly` of them, from `h` for `occ` itself. -/
theorem tail_occ_sem {occ : List (List Bool × Eff)} {sem : List Eff} {a : Bool} (ee : Bool)
    (h : selectedOnly occ = if a then sem else []) :
    selectedOnly (if ee then occ else []) = if a then (if ee then sem else []) else [] := by
  cases ee
  · cases a <;> rfl
  · exact h

mutual
  theorem Item.occ_sem : (i : Item) → (pre : List String) → (sel : List Bool) →
      selectedOnly (i.occ pre sel) = if sel.all id then i.sem pre else []
    | .node n m v props, pre, sel => by
      refine (selectedOnly_cons sel _ _).trans ?_
      rw [selectedOnly_map_const]
      cases sel.all id <;> rfl
    | .prop p, pre, sel => selectedOnly_cons sel (.prop p) []
    | .imp src nd, pre, sel => selectedOnly_cons sel (.imp pre src nd) []
    | .unit n b, pre, sel => by
      cases b
      · cases sel.all id <;> rfl
      · exact selectedOnly_cons sel .fail []
    | .group n e body, pre, sel => Items.occ_sem body _ sel
    | .block pfx c e body more, pre, sel => by
      refine (selectedOnly_append _ _).trans ?_
      rw [Items.occ_sem body _ (c :: sel), Chain.occ_sem more _ sel c, List.all_cons]
      generalize sel.all id = a
      cases c <;> cases a <;> rfl
  theorem Items.occ_sem : (is : Items) → (pre : List String) → (sel : List Bool) →
      selectedOnly (is.occ pre sel) = if sel.all id then is.sem pre else []
    | .nil, pre, sel => by cases sel.all id <;> rfl
    | .cons i rest, pre, sel => by
      refine (selectedOnly_append _ _).trans ?_
      rw [Item.occ_sem i pre sel, Items.occ_sem rest pre sel]
      cases sel.all id <;> rfl
  theorem Chain.occ_sem : (ch : Chain) → (pre : List String) → (sel : List Bool) → (done : Bool) →
      selectedOnly (ch.occ pre sel done) =
        (if sel.all id && !done then ch.sem pre else []) ++ (if sel.all id then ch.tail pre else [])
    | .case c e body more, pre, sel, done => by
      refine (selectedOnly_append _ _).trans ?_
      rw [Items.occ_sem body pre _, Chain.occ_sem more pre sel _, List.all_cons]
      generalize sel.all id = a
      cases c <;> cases done <;> cases a <;> rfl
    | .els e body ee te tr, pre, sel, done => by
      refine (selectedOnly_append _ _).trans ?_
      rw [Items.occ_sem body pre _, List.all_cons, tail_occ_sem ee (Items.occ_sem tr pre sel)]
      generalize sel.all id = a
      cases done <;> cases a <;> rfl
    | .fin ee te tr, pre, sel, done => by
      refine (tail_occ_sem ee (Items.occ_sem tr pre sel)).trans ?_
      cases (sel.all id && !done) <;> rfl
end

end SciVerif.C15
