import SciVerif.Lemmas.C13Determine
/-!
Block grouping (`DIP._get_queue`); what the pieces of a rendered line are made of (`NoEsc`); a definition line up
to its value (`definePrefix`) and the node it denotes (`blockNode`); the directive lines `!constant`, `$unit`.
-/
namespace SciVerif.C13
open SciVerif.Util

theorem takeBlock_append (cl : Str) (rest : List Str) (hcl : hasTriple cl = true) :
    ∀ (blk acc : List Str), (∀ l ∈ blk, hasTriple l = false) →
      takeBlock acc (blk ++ cl :: rest) = some (acc.reverse ++ blk, cl, rest) := by
  intro blk
  induction blk with
  | nil => intro acc _; simp [takeBlock, hcl]
  | cons l t ih =>
    intro acc h
    have hl : hasTriple l = false := h l (by simp)
    simp only [List.cons_append, takeBlock, hl, Bool.false_eq_true, if_false]
    rw [ih (l :: acc) (fun x hx => h x (List.mem_cons_of_mem _ hx))]
    simp

theorem getQueue_plain (l : Str) (t : List Str) (hl : hasTriple l = false) :
    getQueue (l :: t) = (getQueue t).map (fun q => l :: q) := by
  rw [getQueue]
  simp only [hl, Bool.false_eq_true, if_false, bind, Except.bind]
  cases getQueue t <;> rfl

theorem getQueue_block (hd cl : Str) (blk rest : List Str) (hhd : hasTriple hd = true)
    (hblk : ∀ l ∈ blk, hasTriple l = false) (hcl : hasTriple cl = true) :
    getQueue (hd :: (blk ++ cl :: rest)) =
      (getQueue rest).map (fun q => (hd ++ joinWith ['\n'] blk ++ lstrip cl) :: q) := by
  have htb := takeBlock_append cl rest hcl blk [] hblk
  simp only [List.reverse_nil, List.nil_append] at htb
  rw [getQueue]
  simp only [hhd, if_true]
  split
  · rename_i heq; rw [htb] at heq; cases heq
  · rename_i b c r heq
    rw [htb] at heq
    simp only [Option.some.injEq, Prod.mk.injEq] at heq
    obtain ⟨rfl, rfl, rfl⟩ := heq
    simp only [bind, Except.bind]
    cases getQueue rest <;> rfl

theorem getQueue_unterminated (hd : Str) (blk : List Str) (hhd : hasTriple hd = true)
    (hblk : ∀ l ∈ blk, hasTriple l = false) : getQueue (hd :: blk) = .error .fail := by
  have htb : ∀ (b acc : List Str), (∀ l ∈ b, hasTriple l = false) → takeBlock acc b = none := by
    intro b
    induction b with
    | nil => intro acc _; rfl
    | cons l t ih =>
      intro acc h
      simp only [takeBlock, h l (by simp), Bool.false_eq_true, if_false]
      exact ih (l :: acc) (fun x hx => h x (List.mem_cons_of_mem _ hx))
  rw [getQueue]
  simp only [hhd, if_true]
  split
  · rfl
  · rename_i b c r heq; rw [htb blk [] hblk] at heq; cases heq

theorem NoEsc_name (nm : Str) (h : NameOk nm) : NoEsc nm := by
  intro c hc
  have hn := h.2 c hc
  exact ⟨ne_of_class hn (by decide), ne_of_class hn (by decide)⟩

theorem NoEsc_ty (t : TyD) : NoEsc t.render := by
  rcases t with _ | _ | ⟨_ | _, _ | _ | _ | _⟩ | ⟨_ | _ | _ | _⟩ <;> decide

theorem NoEsc_dims (dims : Option (List DimD)) (h : DimsOk dims) : NoEsc (renderDims dims) := by
  cases dims with
  | none => intro c hc; cases hc
  | some ds =>
    intro c hc
    simp only [renderDims, List.mem_cons, List.mem_append, List.not_mem_nil, or_false] at hc
    rcases hc with rfl | hc | rfl
    · exact ⟨by decide, by decide⟩
    · have hdim : isDimCh c = true := by
        refine joinWith_chars (fun c => isDimCh c = true) ',' (by decide) _ ?_ c hc
        intro x hx y hy
        obtain ⟨d, hd, rfl⟩ := List.mem_map.mp hx
        exact ((dimD_chars d (h.2 d hd)).1 y hy).1
      exact ⟨ne_of_class hdim (by decide), ne_of_class hdim (by decide)⟩
    · exact ⟨by decide, by decide⟩

/-- a definition line up to, not including, its value: `name type[dims] = ` with the blanks written -/
def definePrefix (nm : Str) (a : Nat) (ty : TyD) (dims : Option (List DimD)) (b c : Nat) : Str :=
  nm ++ (List.replicate (a + 1) ' ' ++ (ty.render ++ (renderDims dims ++
    (List.replicate b ' ' ++ '=' :: List.replicate c ' '))))

theorem define_render_prefix (nm : Str) (a : Nat) (ty : TyD) (dims : Option (List DimD)) (b c : Nat) (v : ValD) :
    (LineD.define nm a ty dims b c v).render = definePrefix nm a ty dims b c ++ v.render := by
  simp [LineD.render, definePrefix, List.append_assoc]

theorem NoEsc_definePrefix (nm : Str) (a : Nat) (ty : TyD) (dims : Option (List DimD)) (b c : Nat)
    (hn : NameOk nm) (hd : DimsOk dims) : NoEsc (definePrefix nm a ty dims b c) := by
  unfold definePrefix
  refine NoEsc_append (NoEsc_name nm hn) (NoEsc_append (NoEsc_spaces _) (NoEsc_append (NoEsc_ty ty)
    (NoEsc_append (NoEsc_dims dims hd) (NoEsc_append (NoEsc_spaces _) ?_))))
  intro x hx
  rcases List.mem_cons.mp hx with rfl | hx
  · exact ⟨by decide, by decide⟩
  · exact NoEsc_spaces c x hx

theorem hasTriple_suffix (b : Str) : ∀ a : Str, hasTriple (a ++ '"' :: '"' :: '"' :: b) = true := by
  intro a
  induction a with
  | nil => simp [hasTriple, List.isPrefixOf]
  | cons x t ih => simp [hasTriple, ih]

theorem hasTriple_noQuote : ∀ l : Str, (∀ c ∈ l, c ≠ '"') → hasTriple l = false := by
  intro l
  induction l with
  | nil => intro _; rfl
  | cons x t ih =>
    intro h
    have hx : x ≠ '"' := h x (by simp)
    simp [hasTriple, List.isPrefixOf, Ne.symm hx, ih (fun c hc => h c (List.mem_cons_of_mem _ hc))]

def blockText (blk : List Str) : Str := joinWith ['\n'] blk

/-- the node ANY definition line denotes when its value text is `text` (a block value is one case): indentation `k`,
    name, written type, dimensions, unit; see `blockNode_eq` -/
def blockNode (k : Nat) (nm : Str) (ty : TyD) (dims : Option (List DimD)) (text : Str) (unit : Option (Nat × Str)) : Node :=
  { kind := .typed ty.ty, indent := k, name := some nm, info := ty.info, dims := dimsValue dims, raw := some (.text text), units := unit.map Prod.snd }

theorem blockNode_eq (k : Nat) (nm : Str) (a : Nat) (ty : TyD) (dims : Option (List DimD)) (b c : Nat) (v : ValD) :
    { (LineD.define nm a ty dims b c v).node with indent := k } = blockNode k nm ty dims (decode v.lit.text) v.unit :=
  rfl

def constantWord : Str := ['!', 'c', 'o', 'n', 's', 't', 'a', 'n', 't']
def unitWord : Str := ['$', 'u', 'n', 'i', 't']

theorem stripPrefix?_append (p s : Str) : stripPrefix? p (p ++ s) = some s := by
  simp [stripPrefix?]

theorem determine_constant (k : Nat) (cm : Option (Nat × Str)) (hcm : NoEsc (renderComment cm)) :
    determine (List.replicate k ' ' ++ (constantWord ++ renderComment cm)) = .ok { kind := .constant, indent := k } := by
  have henc : encode (constantWord ++ renderComment cm) = '!' :: (['c', 'o', 'n', 's', 't', 'a', 'n', 't'] ++ renderComment cm) :=
    encode_noEsc _ (NoEsc_append (by decide) hcm)
  have e : "!constant".toList = constantWord := String.toList_ofList
  rw [determine_indent k _ '!' _ henc (by decide) (by decide)]
  have hb : determineBody ('!' :: (['c', 'o', 'n', 's', 't', 'a', 'n', 't'] ++ renderComment cm)) = .ok { kind := .constant } := by
    rw [determineBody]
    simp only [e, show '!' :: (['c', 'o', 'n', 's', 't', 'a', 'n', 't'] ++ renderComment cm) = constantWord ++ renderComment cm from rfl,
      stripPrefix?_append, endOrComment_comment cm, if_true]
  rw [hb]
  rfl

theorem determine_unitdef (k : Nat) (w : Char) (rest : Str) (hw : isWs w = true) (hr : NoEsc (w :: rest)) :
    determine (List.replicate k ' ' ++ (unitWord ++ w :: rest)) = .ok { kind := .unit, indent := k } := by
  have henc : encode (unitWord ++ w :: rest) = '$' :: (['u', 'n', 'i', 't'] ++ w :: rest) :=
    encode_noEsc _ (NoEsc_append (by decide) hr)
  have e : "$unit".toList = unitWord := String.toList_ofList
  rw [determine_indent k _ '$' _ henc (by decide) (by decide)]
  have hb : determineBody ('$' :: (['u', 'n', 'i', 't'] ++ w :: rest)) = .ok { kind := .unit } := by
    rw [determineBody]
    have hs : stripPrefix? unitWord ('$' :: (['u', 'n', 'i', 't'] ++ w :: rest)) = some (w :: rest) :=
      stripPrefix?_append unitWord (w :: rest)
    simp only [List.dropWhile_cons, show isNameCh '$' = false from rfl, Bool.false_eq_true, if_false, e, hs, hw,
      if_true]
    all_goals exact fun _ h => absurd (List.cons.inj h).1 (by decide)
  rw [hb]
  rfl
end SciVerif.C13
