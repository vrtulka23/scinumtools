import SciVerif.Model.C20

/-!
Lists re-indexed by an index list (`takeIdx`, i.e. `np.array(col)[ids]`), the two cell numberings of
`DataPlotGrid`, and the Cartesian product of `DataCombination` with its index tuples.
-/
namespace SciVerif.C20

theorem map_getElem?_range {α : Type} (l : List α) :
    (List.range l.length).map (fun i => l[i]?) = l.map some := by
  refine List.ext_getElem? fun i => ?_
  rw [List.getElem?_map, List.getElem?_map]
  by_cases h : i < l.length
  · rw [List.getElem?_range h, Option.map_some, List.getElem?_eq_getElem h]; rfl
  · rw [List.getElem?_eq_none (by rw [List.length_range]; exact Nat.le_of_not_lt h),
      List.getElem?_eq_none (Nat.le_of_not_lt h)]; rfl

theorem takeIdx_range {α : Type} (l : List α) : takeIdx l (List.range l.length) = l :=
  calc takeIdx l (List.range l.length)
      = ((List.range l.length).map (fun i => l[i]?)).filterMap id :=
        (List.filterMap_map (f := fun i => l[i]?) (g := id)).symm
    _ = l := by rw [map_getElem?_range, List.filterMap_map]; exact List.filterMap_some

theorem takeIdx_perm {α : Type} (l : List α) (ids : List Nat)
    (h : ids.Perm (List.range l.length)) : (takeIdx l ids).Perm l :=
  (List.Perm.filterMap (fun i => l[i]?) h).trans (List.Perm.of_eq (takeIdx_range l))

theorem takeIdx_cons {α : Type} {l : List α} {i : Nat} (t : List Nat) (hi : i < l.length) :
    takeIdx l (i :: t) = l[i] :: takeIdx l t := by
  rw [takeIdx, List.filterMap_cons, List.getElem?_eq_getElem hi]; rfl

theorem takeIdx_length {α : Type} (l : List α) (ids : List Nat)
    (h : ∀ i ∈ ids, i < l.length) : (takeIdx l ids).length = ids.length := by
  induction ids with
  | nil => rfl
  | cons i t ih =>
    rw [takeIdx_cons t (h i (List.mem_cons_self ..)), List.length_cons, List.length_cons,
      ih (fun j hj => h j (List.mem_cons_of_mem _ hj))]

theorem takeIdx_getElem? {α : Type} (l : List α) (ids : List Nat)
    (h : ∀ i ∈ ids, i < l.length) (j : Nat) :
    (takeIdx l ids)[j]? = (ids[j]?).bind (fun i => l[i]?) := by
  induction ids generalizing j with
  | nil => rfl
  | cons i t ih =>
    have hi : i < l.length := h i (List.mem_cons_self ..)
    rw [takeIdx_cons t hi]
    cases j with
    | zero => exact (List.getElem?_eq_getElem hi).symm
    | succ j => exact ih (fun k hk => h k (List.mem_cons_of_mem _ hk)) j

theorem gridRows_bounds (n ncols : Nat) (hc : 0 < ncols) :
    n ≤ ncols * gridRows n ncols ∧ ncols * gridRows n ncols < n + ncols := by
  -- `ncols * gridRows + rest = n + ncols - 1` with `rest < ncols`
  have h := Nat.div_add_mod (n + ncols - 1) ncols
  have h2 := Nat.mod_lt (n + ncols - 1) hc
  constructor
  · apply Nat.le_of_add_le_add_right (b := (n + ncols - 1) % ncols)
    rw [gridRows, h]
    exact Nat.le_sub_one_of_lt (Nat.add_lt_add_left h2 n)
  · apply Nat.lt_of_le_of_lt (Nat.le_add_right _ ((n + ncols - 1) % ncols))
    rw [gridRows, h]
    exact Nat.sub_lt (Nat.add_pos_right n hc) Nat.one_pos

theorem cellN_bounds (R C i : Nat) (hC : 0 < C) (hi : i < C * R) :
    (cellN C i).1 < R ∧ (cellN C i).2 < C :=
  ⟨(Nat.div_lt_iff_lt_mul hC).mpr (Nat.mul_comm C R ▸ hi), Nat.mod_lt _ hC⟩

theorem cellN_inj (C i j : Nat) (h : cellN C i = cellN C j) : i = j := by
  have h1 : i / C = j / C := congrArg Prod.fst h
  have h2 : i % C = j % C := congrArg Prod.snd h
  rw [← Nat.div_add_mod i C, ← Nat.div_add_mod j C, h1, h2]

theorem cellN_surj (R C r c : Nat) (hr : r < R) (hc : c < C) :
    ∃ i, i < C * R ∧ cellN C i = (r, c) := by
  have hC : 0 < C := Nat.zero_lt_of_lt hc
  refine ⟨C * r + c, ?_, Prod.ext ?_ ?_⟩
  · exact Nat.lt_of_lt_of_le (Nat.add_lt_add_left hc _) (Nat.mul_le_mul_left C hr)
  · show (C * r + c) / C = r
    rw [Nat.mul_add_div hC, Nat.div_eq_of_lt hc, Nat.add_zero]
  · show (C * r + c) % C = c
    rw [Nat.mul_add_mod, Nat.mod_eq_of_lt hc]

/-- `cellT R i = ((cellN R i).2, (cellN R i).1)` by definition: the three `cellT` facts are the `cellN` facts
    with `R` and `C` exchanged. -/
theorem cellT_bounds (R C i : Nat) (hR : 0 < R) (hi : i < C * R) :
    (cellT R i).1 < R ∧ (cellT R i).2 < C :=
  (cellN_bounds C R i hR (Nat.mul_comm C R ▸ hi)).symm

theorem cellT_inj (R i j : Nat) (h : cellT R i = cellT R j) : i = j :=
  cellN_inj R i j (Prod.ext (congrArg Prod.snd h) (congrArg Prod.fst h))

theorem cellT_surj (R C r c : Nat) (hr : r < R) (hc : c < C) :
    ∃ i, i < C * R ∧ cellT R i = (r, c) := by
  obtain ⟨i, hi, e⟩ := cellN_surj C R c r hc hr
  exact ⟨i, Nat.mul_comm R C ▸ hi, Prod.ext (congrArg Prod.snd e) (congrArg Prod.fst e)⟩

/-- `v` picks one element of each list, in order. -/
def InProd {α : Type} : List α → List (List α) → Prop
  | [], [] => True
  | x :: v, l :: ls => x ∈ l ∧ InProd v ls
  | _, _ => False

theorem mem_product {α : Type} (ls : List (List α)) (v : List α) :
    v ∈ product ls ↔ InProd v ls := by
  induction ls generalizing v with
  | nil => cases v <;> simp [product, InProd]
  | cons l ls ih =>
    cases v with
    | nil => simp [product, InProd]
    | cons x v =>
      simp only [product, List.mem_flatMap, List.mem_map, InProd]
      constructor
      · rintro ⟨a, ha, t, ht, e⟩
        simp only [List.cons.injEq] at e
        obtain ⟨rfl, rfl⟩ := e
        exact ⟨ha, (ih _).mp ht⟩
      · rintro ⟨hx, hv⟩
        exact ⟨x, hx, v, (ih _).mpr hv, rfl⟩

theorem length_product {α : Type} (ls : List (List α)) :
    (product ls).length = (ls.map List.length).prod := by
  induction ls with
  | nil => simp [product]
  | cons l ls ih =>
    simp only [product, List.length_flatMap, List.length_map, ih, List.map_cons, List.prod_cons]
    rw [List.map_const', List.sum_replicate_nat]

theorem product_nodup {α : Type} (ls : List (List α)) (h : ∀ l ∈ ls, l.Nodup) :
    (product ls).Nodup := by
  induction ls with
  | nil => exact List.nodup_cons.mpr ⟨List.not_mem_nil, List.nodup_nil⟩
  | cons l ls ih =>
    have ih' := ih (fun l' hl' => h l' (List.mem_cons_of_mem _ hl'))
    -- tuples with one head differ in the tail, tuples with different heads differ there
    rw [product, List.Nodup, List.pairwise_flatMap]
    refine ⟨fun a _ => List.Pairwise.map _ (fun x y hxy e => hxy (List.cons.inj e).2) ih',
      (h l (List.mem_cons_self ..)).imp fun hne x hx y hy e => ?_⟩
    obtain ⟨v, _, rfl⟩ := List.mem_map.mp hx
    obtain ⟨w, _, rfl⟩ := List.mem_map.mp hy
    exact hne (List.cons.inj e).1

theorem mapM_id_cons {α : Type} (o : Option α) (rest : List (Option α)) :
    (o :: rest).mapM id = o.bind (fun a => (rest.mapM id).map (a :: ·)) := by
  cases o with
  | none => simp [List.mapM_cons]
  | some a =>
    cases h : rest.mapM id <;> simp [List.mapM_cons, h]

theorem combo_lookup {α : Type} (items : List (List α)) :
    (comboKeys items).map (fun ks =>
        (List.zipWith (fun (l : List α) (k : Nat) => l[k]?) items ks).mapM id) =
      (product items).map some := by
  induction items with
  | nil => simp [comboKeys, product]
  | cons l ls ih =>
    simp only [comboKeys, List.map_cons, product, List.map_flatMap, List.map_map,
      Function.comp_def, List.zipWith_cons_cons, mapM_id_cons]
    -- the head index `x` occurs only as `l[x]?`: read the outer `flatMap` over `range l.length` as a
    -- `flatMap` over the looked-up values `l.map some`, so that it runs over `l` like `product (l :: ls)`
    rw [← List.flatMap_map (fun i => l[i]?) (fun (o : Option α) =>
      (product (ls.map (fun l => List.range l.length))).map (fun ks =>
        o.bind (fun a => ((List.zipWith (fun (l : List α) (k : Nat) => l[k]?) ls ks).mapM id).map (a :: ·)))),
      map_getElem?_range, List.flatMap_map]
    -- under each head value `a` the tails are looked up as the induction hypothesis says
    congr 1
    funext a
    have := congrArg (List.map (Option.map (a :: ·))) ih
    simpa [comboKeys, List.map_map, Function.comp_def] using this

end SciVerif.C20
