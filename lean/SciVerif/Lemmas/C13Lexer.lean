import SciVerif.Model.C13
import SciVerif.Lemmas.Util.Scan
/-!
Lexer facts for C13 (indentation, blank and comment lines) and the first scanner lemmas for the literal
round trip: each `part_*` scanner consumes exactly the rendered field and leaves the rest.  Also here: `replaceAll` on
text built character by character (`replaceAll_flatMap`), text the escape marks leave alone (`NoEsc`, `encode_noEsc`,
`decode_noDollar`), and the tail of a line as written (`UnitOk`, `renderComment`, `renderTail`).
-/
namespace SciVerif.C13
open SciVerif.Util

theorem all_isWs_replicate (k : Nat) : (List.replicate k ' ').all isWs = true := by
  simp [isWs]

theorem dropWhile_spaces (k : Nat) (b : Str) : (List.replicate k ' ' ++ b).dropWhile isWs = b.dropWhile isWs :=
  List.dropWhile_append_of_pos (all_replicate (p := isWs) rfl k)

theorem replaceAll_head (pat rep : Str) (c : Char) (h : pat.head? ≠ some c) (t : Str) :
    replaceAll pat rep (c :: t) = c :: replaceAll pat rep t := by
  rw [replaceAll]
  have : (pat.isPrefixOf (c :: t) && !pat.isEmpty) = false := by
    cases pat with
    | nil => simp
    | cons d r =>
      have hc : d ≠ c := by simpa using h
      simp [List.isPrefixOf, hc]
  rw [if_neg (by simp [this])]

theorem replaceAll_nil (pat rep : Str) : replaceAll pat rep [] = [] := by
  rw [replaceAll]

theorem replaceAll_step (pat rep : Str) (c : Char) (t : Str) (h : pat.isPrefixOf (c :: t) = false) :
    replaceAll pat rep (c :: t) = c :: replaceAll pat rep t := by
  rw [replaceAll]
  simp [h]

theorem replaceAll_hit (pat rep tl : Str) (hp : pat ≠ []) :
    replaceAll pat rep (pat ++ tl) = rep ++ replaceAll pat rep tl := by
  obtain ⟨c, r, rfl⟩ := List.exists_cons_of_ne_nil hp
  have hpre : (c :: r).isPrefixOf (c :: (r ++ tl)) = true :=
    List.isPrefixOf_iff_prefix.mpr (List.prefix_append (c :: r) tl)
  rw [List.cons_append, replaceAll, if_pos (by simp [hpre])]
  congr 2
  exact List.drop_left' rfl

/-- The one induction behind the lemmas on escaped and marked text (`s.flatMap g` is text built character by
    character): each of them only says what `replaceAll` does to the piece of one character. -/
theorem replaceAll_flatMap (pat rep : Str) (g h : Char → Str) (rest : Str) :
    ∀ s : Str, (∀ c ∈ s, ∀ tl, replaceAll pat rep (g c ++ tl) = h c ++ replaceAll pat rep tl) →
      replaceAll pat rep (s.flatMap g ++ rest) = s.flatMap h ++ replaceAll pat rep rest := by
  intro s
  induction s with
  | nil => intro _; rfl
  | cons c t ih =>
    intro hs
    rw [List.flatMap_cons, List.flatMap_cons, List.append_assoc, hs c (by simp),
      ih (fun x hx => hs x (List.mem_cons_of_mem _ hx)), List.append_assoc]

theorem replaceAll_prefix_id (pat rep : Str) (c0 : Char) (hp : pat.head? = some c0) (rest : Str) :
    ∀ pre : Str, (∀ c ∈ pre, c ≠ c0) → replaceAll pat rep (pre ++ rest) = pre ++ replaceAll pat rep rest := by
  intro pre h
  have := replaceAll_flatMap pat rep (fun c => [c]) (fun c => [c]) rest pre (fun c hc tl =>
    replaceAll_head pat rep c (by rw [hp]; exact fun e => h c hc (Option.some.inj e).symm) tl)
  simpa using this

theorem replaceAll_id (pat rep : Str) (c0 : Char) (hp : pat.head? = some c0) :
    ∀ s : Str, (∀ c ∈ s, c ≠ c0) → replaceAll pat rep s = s := by
  intro s h
  simpa [replaceAll_nil] using replaceAll_prefix_id pat rep c0 hp [] s h

theorem replaceAll_spaces (pat rep : Str) (h : pat.head? ≠ some ' ') (k : Nat) (t : Str) :
    replaceAll pat rep (List.replicate k ' ' ++ t) = List.replicate k ' ' ++ replaceAll pat rep t := by
  induction k with
  | zero => rfl
  | succ n ih => simp [List.replicate_succ, replaceAll_head pat rep ' ' h, ih]

theorem encode_spaces (k : Nat) (t : Str) : encode (List.replicate k ' ' ++ t) = List.replicate k ' ' ++ encode t := by
  simp only [encode]
  rw [replaceAll_spaces _ _ (by decide), replaceAll_spaces _ _ (by decide), replaceAll_spaces _ _ (by decide)]

theorem determine_indent (k : Nat) (body : Str) (c : Char) (r : Str) (hb : encode body = c :: r)
    (hc : isWs c = false) (hh : c ≠ '#') :
    determine (List.replicate k ' ' ++ body) = (determineBody (c :: r)).map (fun nd => { nd with indent := k }) := by
  have hdrop : (List.replicate k ' ' ++ c :: r).dropWhile isWs = c :: r := by
    rw [dropWhile_spaces]; simp [hc]
  unfold determine
  simp only [encode_spaces, hb]
  have h1 : isBlank (List.replicate k ' ' ++ c :: r) = false := by
    simp [isBlank, hc]
  have h2 : startsComment (List.replicate k ' ' ++ c :: r) = false := by
    simp only [startsComment, dropWs, hdrop]
    simpa using hh
  simp only [h1, h2, hdrop, takeWhile_append_headNot (all_replicate (p := isWs) (c := ' ') rfl k) (.cons hc r), List.length_replicate]
  rfl

theorem determine_blank (s : Str) (h : isBlank (encode s) = true) : determine s = .ok { kind := .empty } := by
  simp [determine, h]

theorem determine_comment (k : Nat) (c : Str) :
    determine (List.replicate k ' ' ++ '#' :: c) = .ok { kind := .empty } := by
  unfold determine
  simp only [encode_spaces]
  have henc : ∃ r, encode ('#' :: c) = '#' :: r := by
    simp only [encode]
    have e1 : ∀ (pat rep : Str) (t : Str), pat.head? ≠ some '#' →
        replaceAll pat rep ('#' :: t) = '#' :: replaceAll pat rep t :=
      fun pat rep t h => replaceAll_head pat rep '#' h t
    rw [e1 _ _ _ (by decide), e1 _ _ _ (by decide), e1 _ _ _ (by decide)]
    exact ⟨_, rfl⟩
  obtain ⟨r, hr⟩ := henc
  rw [hr]
  have h2 : startsComment (List.replicate k ' ' ++ '#' :: r) = true := by
    simp only [startsComment, dropWs]
    rw [dropWhile_spaces]
    simp [isWs]
  simp [h2]

theorem not_isWs_of_class {p : Char → Bool} {c : Char} (h : p c = true)
    (hp : (p ' ' || p '\t' || p '\n' || p '\r' || p '\x0b' || p '\x0c') = false) : isWs c = false := by
  simp only [Bool.or_eq_false_iff] at hp
  simp only [isWs, Bool.or_eq_false_iff, beq_eq_false_iff_ne]
  exact ⟨⟨⟨⟨⟨ne_of_class h hp.1.1.1.1.1, ne_of_class h hp.1.1.1.1.2⟩, ne_of_class h hp.1.1.1.2⟩,
    ne_of_class h hp.1.1.2⟩, ne_of_class h hp.1.2⟩, ne_of_class h hp.2⟩

theorem dropWs_spaces_cons (k : Nat) (c : Char) (r : Str) (hc : isWs c = false) :
    dropWs (List.replicate k ' ' ++ c :: r) = c :: r := by
  simp only [dropWs]
  rw [dropWhile_spaces]
  simp [hc]

theorem dropWs_spaces_nil (k : Nat) : dropWs (List.replicate k ' ') = [] := by
  have := dropWhile_spaces k []
  simpa [dropWs] using this

theorem dropWs_cons (c : Char) (r : Str) (hc : isWs c = false) : dropWs (c :: r) = c :: r := by
  simp [dropWs, hc]

/-- text on which the escape marks of `_determine_node` have nothing to do: no backslash, no newline -/
def NoEsc (s : Str) : Prop := ∀ c ∈ s, c ≠ '\\' ∧ c ≠ '\n'

instance (s : Str) : Decidable (NoEsc s) := inferInstanceAs (Decidable (∀ c ∈ s, c ≠ '\\' ∧ c ≠ '\n'))

theorem NoEsc_append {a b : Str} (ha : NoEsc a) (hb : NoEsc b) : NoEsc (a ++ b) := by
  intro c hc
  rcases List.mem_append.mp hc with h | h
  · exact ha c h
  · exact hb c h

theorem NoEsc_spaces (n : Nat) : NoEsc (List.replicate n ' ') := by
  intro c hc
  have := List.eq_of_mem_replicate hc
  subst this
  exact ⟨by decide, by decide⟩
theorem encode_noEsc (s : Str) (h : NoEsc s) : encode s = s := by
  simp only [encode]
  rw [replaceAll_id _ _ '\\' rfl s (fun c hc => (h c hc).1),
    replaceAll_id _ _ '\\' rfl s (fun c hc => (h c hc).1),
    replaceAll_id _ _ '\n' rfl s (fun c hc => (h c hc).2)]

theorem decode_noDollar (s : Str) (h : ∀ c ∈ s, c ≠ '$') : decode s = s := by
  simp only [decode]
  rw [replaceAll_id _ _ '$' rfl s h, replaceAll_id _ _ '$' rfl s h, replaceAll_id _ _ '$' rfl s h]

/-- a unit as written: non-empty, `[^\s#=]+`, not starting with an arithmetic sign -/
def UnitOk (x : Str) : Prop :=
  (∃ c r, x = c :: r ∧ c ≠ '/' ∧ c ≠ '*' ∧ c ≠ '+' ∧ c ≠ '-') ∧ ∀ c ∈ x, isUnitCh c = true

/-- an optional trailing comment as written: `n` blanks, `#`, the comment text -/
def renderComment : Option (Nat × Str) → Str
  | some (n, c) => List.replicate n ' ' ++ '#' :: c
  | none => []

/-- what follows a value or a type on its line: optional unit (behind `n + 1` blanks), optional comment -/
def renderTail (u : Option (Nat × Str)) (cm : Option (Nat × Str)) : Str :=
  (match u with | some (n, x) => List.replicate (n + 1) ' ' ++ x | none => []) ++ renderComment cm

theorem endOrComment_spaces_cons (n : Nat) (c : Char) (r : Str) (hc : isWs c = false) :
    endOrComment (List.replicate n ' ' ++ c :: r) = (c == '#') := by
  simp only [endOrComment, dropWs_spaces_cons n c r hc]

theorem endOrComment_comment (cm : Option (Nat × Str)) : endOrComment (renderComment cm) = true := by
  cases cm with
  | none => rfl
  | some p => exact endOrComment_spaces_cons p.1 '#' p.2 (by decide)

theorem comment_head (cm : Option (Nat × Str)) : HeadIn [' ', '#'] (renderComment cm) := by
  cases cm with
  | none => exact .nil
  | some p => exact (HeadIn.cons (cs := ['#']) (List.mem_cons_self ..) p.2).replicate_append ' ' p.1

theorem partUnits_comment (cm : Option (Nat × Str)) :
    partUnits (renderComment cm) = (none, renderComment cm) := by
  cases cm with
  | none => rfl
  | some p =>
    obtain ⟨n, c⟩ := p
    cases n with
    | zero => simp [renderComment, partUnits, isWs]
    | succ m =>
      have hr : renderComment (some (m + 1, c)) = ' ' :: (List.replicate m ' ' ++ '#' :: c) := by
        simp [renderComment, List.replicate_succ]
      rw [hr]
      have hd : dropWs (' ' :: (List.replicate m ' ' ++ '#' :: c)) = '#' :: c := by
        have := dropWs_spaces_cons (m + 1) '#' c (by decide)
        simpa [List.replicate_succ] using this
      simp only [partUnits, hd]
      simp [isWs, isUnitCh]

theorem renderTail_unit (n : Nat) (x : Str) (hx : UnitOk x) (cm : Option (Nat × Str)) :
    ∃ c r, x = c :: r ∧ isWs c = false ∧
      renderTail (some (n, x)) cm = ' ' :: (List.replicate n ' ' ++ (x ++ renderComment cm)) ∧
      dropWs (renderTail (some (n, x)) cm) = x ++ renderComment cm := by
  obtain ⟨⟨c, r, rfl, _⟩, hall⟩ := hx
  have hcw : isWs c = false := by
    have hcu : isUnitCh c = true := hall c (by simp)
    simp only [isUnitCh, Bool.and_eq_true, Bool.not_eq_eq_eq_not, Bool.not_true] at hcu
    exact hcu.1.1
  have hr : renderTail (some (n, c :: r)) cm = ' ' :: (List.replicate n ' ' ++ (c :: r ++ renderComment cm)) := by
    simp [renderTail, List.replicate_succ]
  refine ⟨c, r, rfl, hcw, hr, ?_⟩
  rw [hr]
  have := dropWs_spaces_cons (n + 1) c (r ++ renderComment cm) hcw
  simpa [List.replicate_succ] using this

theorem partUnits_unit (n : Nat) (x : Str) (hx : UnitOk x) (cm : Option (Nat × Str)) :
    partUnits (renderTail (some (n, x)) cm) = (some x, renderComment cm) := by
  obtain ⟨c, r, rfl, hcw, hr, hd⟩ := renderTail_unit n x hx cm
  obtain ⟨⟨_, _, e, h1, h2, h3, h4⟩, hall⟩ := hx
  obtain ⟨rfl, rfl⟩ := List.cons.inj e
  have e1 : (c == '/' || c == '*' || c == '+' || c == '-') = false := by simp [h1, h2, h3, h4]
  rw [hr] at hd ⊢
  simp only [partUnits, hd]
  simp only [isWs, beq_self_eq_true, Bool.true_or, if_true, List.cons_append, e1, Bool.false_eq_true, if_false]
  have htw := takeWhile_append_headNot hall ((comment_head cm).headNot (by decide))
  have hdw := dropWhile_append_headNot hall ((comment_head cm).headNot (by decide))
  simp only [List.cons_append] at htw hdw
  rw [htw, hdw]
  rfl

theorem partUnits_tail (u cm : Option (Nat × Str)) (hu : ∀ n x, u = some (n, x) → UnitOk x) :
    partUnits (renderTail u cm) = (u.map Prod.snd, renderComment cm) := by
  cases u with
  | none => simpa [renderTail] using partUnits_comment cm
  | some p => exact partUnits_unit p.1 p.2 (hu p.1 p.2 rfl) cm

theorem tailOk_tail (u : Option (Nat × Str)) (cm : Option (Nat × Str)) (hu : ∀ n x, u = some (n, x) → UnitOk x) :
    tailOk (renderTail u cm) = true := by
  cases u with
  | none =>
    simp only [renderTail, List.nil_append, tailOk, endOrComment_comment, Bool.true_or]
  | some p =>
    obtain ⟨n, x⟩ := p
    have hx := hu n x rfl
    obtain ⟨c, r, rfl, _, hr, hd⟩ := renderTail_unit n x hx cm
    rw [hr] at hd ⊢
    simp only [tailOk, hd]
    rw [takeWhile_append_headNot hx.2 ((comment_head cm).headNot (by decide)),
      dropWhile_append_headNot hx.2 ((comment_head cm).headNot (by decide)), endOrComment_comment]
    simp [isWs]

theorem tail_head (u : Option (Nat × Str)) (cm : Option (Nat × Str)) : HeadIn [' ', '#'] (renderTail u cm) := by
  cases u with
  | none => exact comment_head cm
  | some p => exact .cons (List.mem_cons_self ..) _

end SciVerif.C13
