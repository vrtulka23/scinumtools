import Lean.Meta.Tactic.Simp.RegisterCommand

/-- rewriting rules that turn statements about the character classes of C10 (`isUp`, `isDig`,
    `PlainC`, `c = '('`, …) into linear arithmetic on `Char.toNat`.  A module of its own: an attribute cannot
    be used in the file that registers it. -/
register_simp_attr charcode
