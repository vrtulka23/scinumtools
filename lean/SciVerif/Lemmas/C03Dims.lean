import SciVerif.Lemmas.C03Exp

/-! # C03: `get_unit_base` in the terms of the specification; the dimension vector accumulated by
`BaseUnits.__init__` -/
namespace SciVerif.C03

def dimsOk (d : List Frac) : Prop := d.length = 8 ∧ ∀ f ∈ d, f.den ≠ 0

/-- part of `factPositive` (`tableDimsOk_of_positive`) -/
def tableDimsOk (T : Tables) : Prop := (∀ u ∈ T.units, dimsOk u.dims) ∧ (∀ u ∈ T.sys, dimsOk u.dims)

theorem tableDimsOk_of_positive {T : Tables} (h : factPositive T = true) : tableDimsOk T := by
  unfold factPositive at h
  simp only [Bool.and_eq_true, List.all_eq_true, decide_eq_true_eq, beq_iff_eq, bne_iff_ne, ne_eq] at h
  exact ⟨fun u hu => ⟨(h.1.2 u hu).1.2, (h.1.2 u hu).2⟩, fun u hu => ⟨(h.2 u hu).1.2, (h.2 u hu).2⟩⟩

/-! the vectors are added component by component: each fact is read off `List.getElem_zipWith` -/

theorem zipWith_ext {α β γ : Type} {f g : α → β → γ} (a : List α) (b : List β)
    (h : ∀ x ∈ a, ∀ y ∈ b, f x y = g x y) : List.zipWith f a b = List.zipWith g a b := by
  apply List.ext_getElem (by simp)
  intro i h1 h2
  rw [List.getElem_zipWith, List.getElem_zipWith]
  exact h _ (List.getElem_mem _) _ (List.getElem_mem _)

theorem map_toRat_addDims (a b : List Frac) (ha : ∀ f ∈ a, f.den ≠ 0) (hb : ∀ f ∈ b, f.den ≠ 0) :
    (addDims a b).map Frac.toRat = addRDims (a.map Frac.toRat) (b.map Frac.toRat) := by
  rw [addDims, addRDims, List.map_zipWith, List.zipWith_map]
  exact zipWith_ext a b fun x hx y hy => Frac.toRat_add x y (ha x hx) (hb y hy)

theorem addDims_dens (a b : List Frac) (ha : ∀ f ∈ a, f.den ≠ 0) (hb : ∀ f ∈ b, f.den ≠ 0) :
    ∀ f ∈ addDims a b, f.den ≠ 0 := by
  intro f hf
  obtain ⟨i, hi, rfl⟩ := List.mem_iff_getElem.mp hf
  simp only [addDims, List.getElem_zipWith]
  exact Int.mul_ne_zero (ha _ (List.getElem_mem _)) (hb _ (List.getElem_mem _))

theorem addDims_ok (a b : List Frac) (ha : dimsOk a) (hb : dimsOk b) : dimsOk (addDims a b) :=
  ⟨by simp [addDims, ha.1, hb.1], addDims_dens a b ha.2 hb.2⟩

theorem addRDims_zero_left (z S : List Rat) (hz : ∀ x ∈ z, x = 0) (h : S.length ≤ z.length) :
    addRDims z S = S := by
  apply List.ext_getElem (by simp [addRDims]; omega)
  intro i h1 h2
  simp only [addRDims, List.getElem_zipWith, hz _ (List.getElem_mem _), zero_add]

theorem addRDims_zero (X z : List Rat) (hz : ∀ x ∈ z, x = 0) (h : X.length ≤ z.length) :
    addRDims X z = X := by
  apply List.ext_getElem (by simp [addRDims]; omega)
  intro i h1 h2
  simp only [addRDims, List.getElem_zipWith, hz _ (List.getElem_mem _), add_zero]

theorem addRDims_assoc (a b c : List Rat) : addRDims (addRDims a b) c = addRDims a (addRDims b c) := by
  apply List.ext_getElem (by simp only [addRDims, List.length_zipWith, Nat.min_assoc])
  intro i h1 h2
  simp only [addRDims, List.getElem_zipWith, add_assoc]

/-- the exponent text `get_unit_base` writes: nothing for exponent 1, else `{exp}` of its f-string, which is `str(exp)` -/
def etxt (e : Frac) : Str := if e.rebase.num = 1 ∧ e.rebase.den = 1 then [] else e.str

/-- the text `get_unit_base` writes for one dict entry -/
def entryText : UnitId → Frac → Str
  | .sys n, e => n ++ etxt e
  | .std p b, e => p ++ b ++ etxt e

def rowDims (T : Tables) : UnitId → Option (List Frac)
  | .sys n => (T.findSys n).map (·.dims)
  | .std _ b => (T.findUnit b).map (·.dims)

theorem unitMag_cases {T : Tables} {k : UnitId} {mag : Rat} (h : unitMag T k = some mag) :
    (∃ n row, k = .sys n ∧ T.findSys n = some row ∧ mag = row.mag) ∨
    (∃ p b row, k = .std p b ∧ T.findUnit b = some row ∧
      ((p = [] ∧ mag = row.mag) ∨ (p ≠ [] ∧ ∃ q, T.findPrefix p = some q ∧ mag = q.mag * row.mag))) := by
  revert h; fun_cases unitMag T k <;> intro h
  · obtain ⟨row, hr, rfl⟩ := Option.map_eq_some_iff.mp h
    exact Or.inl ⟨_, row, rfl, hr, rfl⟩
  · cases h
  · cases h; exact Or.inr ⟨_, _, _, rfl, ‹_›, Or.inl ⟨rfl, rfl⟩⟩
  · obtain ⟨q, hq, rfl⟩ := Option.map_eq_some_iff.mp h
    exact Or.inr ⟨_, _, _, rfl, ‹_›, Or.inr ⟨‹_›, q, hq, rfl⟩⟩

theorem unitMag_std_isSome {T : Tables} {p b : Str} {row : UnitRow} (hr : T.findUnit b = some row)
    (hp : p = [] ∨ ∃ q, T.findPrefix p = some q) : (unitMag T (.std p b)).isSome = true := by
  rw [unitMag, hr]
  by_cases hp0 : p = []
  · simp only [if_pos hp0]; rfl
  · obtain ⟨q, hq⟩ := hp.resolve_left hp0
    simp only [if_neg hp0, hq]; rfl

theorem getUnitBase_iff (T : Tables) (u : UnitId) (e : Frac) (base : Base) :
    getUnitBase T u e = some base ↔ ¬ (e.den = 0 ∧ e.num ≠ 0) ∧ ∃ mag d, unitMag T u = some mag ∧
      rowDims T u = some d ∧ base = ⟨⟨mag, e⟩, d.map (·.mul e), entryText u e⟩ := by
  unfold getUnitBase
  by_cases he : e.den = 0 ∧ e.num ≠ 0
  · simp [he]
  · simp only [he, if_false, not_false_eq_true, true_and]
    cases u with
    | sys n =>
      cases hrow : T.findSys n <;> simp [unitMag, rowDims, hrow, entryText, etxt, eq_comm]
    | std p b =>
      cases hrow : T.findUnit b with
      | none => simp [unitMag, rowDims, hrow]
      | some row =>
        by_cases hp : p = []
        · simp [unitMag, rowDims, hrow, hp, entryText, etxt, eq_comm]
        · cases hq : T.findPrefix p <;> simp [unitMag, rowDims, hrow, hp, hq, entryText, etxt, eq_comm]

theorem rowDims_spec (T : Tables) (hT : tableDimsOk T) (u : UnitId) (d : List Frac)
    (h : rowDims T u = some d) : unitDims T u = some (d.map Frac.toRat) ∧ dimsOk d := by
  cases u with
  | sys n =>
    obtain ⟨row, hrow, rfl⟩ := Option.map_eq_some_iff.mp h
    exact ⟨by simp [unitDims, hrow], hT.2 row (List.mem_of_find?_eq_some hrow)⟩
  | std p b =>
    obtain ⟨row, hrow, rfl⟩ := Option.map_eq_some_iff.mp h
    exact ⟨by simp [unitDims, hrow], hT.1 row (List.mem_of_find?_eq_some hrow)⟩

theorem scaled_ok (d0 : List Frac) (e : Frac) (h : dimsOk d0) (he : e.den ≠ 0) :
    dimsOk (d0.map (·.mul e)) := by
  refine ⟨by simp [h.1], ?_⟩
  intro f hf
  rw [List.mem_map] at hf
  obtain ⟨g, hg, rfl⟩ := hf
  exact Int.mul_ne_zero (h.2 g hg) he

theorem scaled_toRat (d0 : List Frac) (e : Frac) :
    (d0.map (·.mul e)).map Frac.toRat = (d0.map Frac.toRat).map (fun d => e.toRat * d) := by
  simp only [List.map_map]
  apply List.map_congr_left
  intro f _
  simp [Frac.toRat_mul, mul_comm]

theorem unitDims_length (T : Tables) (hT : tableDimsOk T) (u : UnitId) :
    ((unitDims T u).getD zeroRDims).length = 8 := by
  cases h : rowDims T u with
  | none =>
    have : unitDims T u = none := by cases u <;> simpa [unitDims, rowDims] using h
    rw [this]; rfl
  | some d =>
    obtain ⟨e, hd⟩ := rowDims_spec T hT u d h
    simp [e, hd.1]

theorem specDims_length (T : Tables) (hT : tableDimsOk T) (l : List (UnitId × Rat)) :
    (specDims T l).length = 8 := by
  induction l with
  | nil => simp [specDims, zeroRDims]
  | cons x t ih =>
    obtain ⟨u, e⟩ := x
    simp [specDims, addRDims, ih, unitDims_length T hT u]

theorem baseUnitsLoop_dims (T : Tables) (hT : tableDimsOk T) (m : ExpMap) (acc b : BaseUnits)
    (hm : densOk m) (hacc : dimsOk acc.dims) (h : baseUnitsLoop T m acc = some b) :
    b.dims.map Frac.toRat =
      addRDims (acc.dims.map Frac.toRat) (specDims T (ratPairs m)) ∧
    dimsOk b.dims := by
  fun_induction baseUnitsLoop T m acc
  -- cases of the loop: 1 end of the dict, 2 a zero exponent is skipped, 3 the lookup fails, 4 the entry is appended
  case case1 =>
    cases h
    refine ⟨?_, hacc⟩
    simp only [ratPairs_nil, specDims]
    exact (addRDims_zero _ zeroRDims (fun x hx => (List.mem_replicate.mp hx).2)
      (by simp [zeroRDims, hacc.1])).symm
  case case2 u e rest _ hz ih =>
    obtain ⟨e1, d1⟩ := ih (fun y hy => hm y (List.mem_cons_of_mem _ hy)) hacc h
    refine ⟨?_, d1⟩
    simp only [ratPairs_cons, specDims]
    rw [e1]
    rw [toRat_of_num_zero e hz]
    have hl := unitDims_length T hT u
    have hs := specDims_length T hT (ratPairs rest)
    rw [addRDims_zero_left (((unitDims T u).getD zeroRDims).map fun d => 0 * d) _ (by simp)
      (by rw [List.length_map, hl, hs])]
  case case3 => cases h
  case case4 u e rest acc _ base hbase ih =>
    obtain ⟨_, mag, d0, _, hrow, rfl⟩ := (getUnitBase_iff T u e base).mp hbase
    obtain ⟨hd0, hok0⟩ := rowDims_spec T hT u d0 hrow
    have hbok : dimsOk (d0.map (·.mul e)) := scaled_ok d0 e hok0 (hm (u, e) List.mem_cons_self)
    obtain ⟨e1, d1⟩ := ih (fun y hy => hm y (List.mem_cons_of_mem _ hy)) (addDims_ok acc.dims _ hacc hbok) h
    refine ⟨?_, d1⟩
    simp only [ratPairs_cons, specDims]
    rw [e1]
    simp only
    rw [map_toRat_addDims acc.dims _ hacc.2 hbok.2, addRDims_assoc, scaled_toRat, hd0]
    rfl

theorem baseUnitsOfMap_dims (T : Tables) (hT : tableDimsOk T) (m : ExpMap) (b : BaseUnits) (hm : densOk m)
    (h : baseUnitsOfMap T m = some b) :
    b.dims.map Frac.toRat = specDims T (ratPairs m) := by
  have hz : dimsOk BaseUnits.empty.dims := by
    refine ⟨by simp [BaseUnits.empty, zeroDims], ?_⟩
    intro f hf
    simp only [BaseUnits.empty, zeroDims, List.mem_replicate] at hf
    rw [hf.2]; decide
  obtain ⟨e1, _⟩ := baseUnitsLoop_dims T hT m BaseUnits.empty b hm hz h
  rw [e1]
  exact addRDims_zero_left _ _
    (by simp [BaseUnits.empty, zeroDims, Frac.toRat, Frac.zero]) (by simp [BaseUnits.empty, zeroDims, specDims_length T hT])

end SciVerif.C03
