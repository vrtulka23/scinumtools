import SciVerif.Lemmas.C10Passes

/-! C10: passes 1 and 2 of `preprocess` on the SHORT notation of parenthesis-free formulas:
    items (species with an optional count) separated by gaps (blanks or ` + `); pass 1 resolves one
    implicit addition per substitution whatever position the leftmost match picks. -/
namespace SciVerif.C10
open Util

theorem startsP_shape (sp w : Str) (h : SpeciesShape sp) : startsP (sp ++ w) = true := by
  obtain ⟨sym, br, rfl, _, hsym⟩ := h
  rcases hsym with ⟨u, hu, rfl⟩ | ⟨u, l, hu, _, rfl⟩ | ⟨x, hx, rfl⟩
  · exact startsP_up u _ hu
  · exact startsP_up u _ hu
  · have hxx : (x == 'p' || x == 'n' || x == 'e') = true := by
      rcases hx with rfl | rfl | rfl <;> decide
    show startsP ('[' :: x :: ']' :: (br ++ w)) = true
    rw [startsP, matchP_nuc x _ hxx]
    rfl


/-- what stands between two items: `n` blanks (the implicit addition, unresolved) or ` + ` -/
inductive Gap where
  | blanks (n : Nat)
  | plus
  deriving DecidableEq

def Gap.text : Gap → Str
  | .blanks n => List.replicate n ' '
  | .plus => symAdd

theorem Gap.text_cases (g : Gap) : g = .blanks 0 ∨ ∃ x, g.text = ' ' :: x := by
  cases g with
  | plus => exact Or.inr ⟨_, rfl⟩
  | blanks k => cases k with
    | zero => exact Or.inl rfl
    | succ k => exact Or.inr ⟨_, rfl⟩

/-- what follows the first item of a chain: gaps and items in turn -/
abbrev Rest := List (Gap × Item)

/-- the text of the chain that begins with `it` and goes on with the gaps and items of the list, as typed -/
def chainText (it : Item) : Rest → Str
  | [] => it.text
  | (g, it2) :: t => it.text ++ g.text ++ chainText it2 t

def restOK (r : Rest) : Prop := ∀ gi ∈ r, gi.2.OK

theorem restOK.head {g : Gap} {it : Item} {t : Rest} (h : restOK ((g, it) :: t)) : it.OK :=
  h (g, it) List.mem_cons_self

theorem restOK.tail {g : Gap} {it : Item} {t : Rest} (h : restOK ((g, it) :: t)) : restOK t :=
  (List.forall_mem_cons.mp h).2

theorem sp_head (it : Item) (hok : it.OK) : ∃ c t, it.sp = c :: t ∧ (isUp c = true ∨ c = '[') := by
  obtain ⟨⟨sym, br, hsp, _, hsym⟩, _⟩ := hok
  rcases hsym with ⟨u, hu, rfl⟩ | ⟨u, l, hu, _, rfl⟩ | ⟨x, _, rfl⟩
  · exact ⟨u, br, hsp, Or.inl hu⟩
  · exact ⟨u, l :: br, hsp, Or.inl hu⟩
  · exact ⟨'[', x :: ']' :: br, hsp, Or.inr rfl⟩

/-- the chain text behind its first item (`chainText_eq`) -/
def after : Rest → Str
  | [] => []
  | (g, it2) :: t => g.text ++ chainText it2 t

theorem chainText_cons (it : Item) (g : Gap) (it2 : Item) (t : Rest) :
    chainText it ((g, it2) :: t) = it.text ++ (g.text ++ chainText it2 t) := List.append_assoc _ _ _

theorem chainText_eq (it : Item) (r : Rest) : chainText it r = it.text ++ after r := by
  cases r with
  | nil => exact (List.append_nil _).symm
  | cons gi t => exact chainText_cons it gi.1 gi.2 t

theorem chainText_head (it : Item) (r : Rest) (hok : it.OK) :
    ∃ c t, chainText it r = c :: t ∧ (isUp c = true ∨ c = '[') := by
  obtain ⟨c, t, e, hc⟩ := sp_head it hok
  exact ⟨c, t ++ it.dg ++ after r, by rw [chainText_eq, Item.text, e]; rfl, hc⟩

/-- the text behind the first item of a chain starts with a blank, a capital or `[`, if at all -/
theorem after_headNot (r : Rest) (h : restOK r) {p : Char → Bool} (hsp : p ' ' = false)
    (hup : ∀ c, isUp c = true ∨ c = '[' → p c = false) : HeadNot p (after r) := by
  cases r with
  | nil => exact .nil
  | cons gi t =>
    obtain ⟨g, it2⟩ := gi
    rcases g.text_cases with rfl | ⟨x, e⟩
    · obtain ⟨c, t', e, hc⟩ := chainText_head it2 t h.head
      exact (show after ((Gap.blanks 0, it2) :: t) = c :: t' from e) ▸ .cons (hup c hc) t'
    · exact (show after ((g, it2) :: t) = ' ' :: (x ++ chainText it2 t) by rw [after, e]; rfl) ▸ .cons hsp _

theorem follow_after (it : Item) (r : Rest) (h : restOK r) (hb : it.bare → HeadNot isUp (after r)) :
    Follow it (after r) :=
  ⟨after_headNot r h (by decide) fun c hc => (head_facts c hc).2.2,
    after_headNot r h (by decide) fun c hc => by rcases hc with hu | rfl; exact (up_not_dig c hu).2.1; decide,
    after_headNot r h (by decide) fun c hc => by
      rcases hc with hu | rfl; exact beq_false_of_ne (up_not_dig c hu).2.2; decide, hb⟩


/-- Two capitals at the head: `[A-Z]+` takes both and gives back at most the last capital of its run, so the substitution
    at `u u2 …` is the one at `u2 …` with `u` in front or, if there is none, the split between `u` and `u2`. -/
theorem pass1At_cons_up (u u2 : Char) (w' : Str) (hu : isUp u = true) (hu2 : isUp u2 = true) :
    pass1At (u :: u2 :: w') =
      some (match pass1At (u2 :: w') with
        | some x => u :: x
        | none => u :: symAdd ++ (u2 :: w')) := by
  obtain ⟨k, sym, br, dg, rest, hm⟩ := matchP_up_some u2 w' hu2
  have hm2 := matchP_cons_up u u2 w' hu hu2
  rw [hm] at hm2
  rw [pass1At_of_match hm, pass1At_of_match hm2]
  by_cases hs : startsP (List.dropWhile isWs rest) = true
  · simp only [hs, if_true, List.cons_append]
  · simp only [hs, Bool.false_eq_true, if_false, Nat.le_add_left 2 k, ge_iff_le, if_true, Nat.add_sub_cancel]
    cases k with
    | zero => rfl
    | succ k =>
      simp only [Nat.le_add_left 2 k, if_true, List.take_succ_cons, List.drop_succ_cons, List.cons_append]


theorem item_tail_inert (it : Item) (hok : it.OK) :
    ∃ c0 tl, it.text = c0 :: tl ∧ ∀ c ∈ tl, Inert c := by
  obtain ⟨⟨c0, t, hs, _, ht⟩, _, _, _⟩ := speciesText_of_shape it.sp hok.1
  exact ⟨c0, t ++ it.dg, by simp [Item.text, hs],
    List.forall_mem_append.mpr ⟨ht, fun c h => inert_of_isDig c (hok.2 c h)⟩⟩

theorem gap_inert (g : Gap) : ∀ c ∈ g.text, Inert c := by
  cases g with
  | blanks n => intro c hc; rw [List.eq_of_mem_replicate hc]; decide
  | plus => exact inert_symAdd

/-- the number of blank gaps: the implicit additions pass 1 has still to resolve -/
def unres : Rest → Nat
  | [] => 0
  | (.blanks _, _) :: t => unres t + 1
  | (.plus, _) :: t => unres t

/-- every gap resolved to ` + `: the chain as pass 1 leaves it (`steps_chain`) -/
def allPlus (r : Rest) : Rest := r.map fun gi => (Gap.plus, gi.2)

/-- `r'` is `r` with one blank gap replaced by ` + ` -/
inductive Res : Rest → Rest → Prop
  | here (k : Nat) (it : Item) (t : Rest) : Res ((.blanks k, it) :: t) ((.plus, it) :: t)
  | later (gi : Gap × Item) {t t' : Rest} : Res t t' → Res (gi :: t) (gi :: t')

theorem Res.spec {r r' : Rest} (h : Res r r') : allPlus r' = allPlus r ∧ unres r' + 1 = unres r := by
  induction h with
  | here k it t => exact ⟨rfl, rfl⟩
  | later gi _ ih =>
    obtain ⟨g, it⟩ := gi
    refine ⟨by simp only [allPlus, List.map_cons] at ih ⊢; rw [ih.1], ?_⟩
    cases g with
    | blanks k => simp only [unres]; omega
    | plus => simpa only [unres] using ih.2

theorem Res.ok {r r' : Rest} (h : Res r r') (hr : restOK r) : restOK r' := by
  induction h with
  | here k it t => exact List.forall_mem_cons.mpr ⟨hr.head, hr.tail⟩
  | later gi _ ih => exact List.forall_mem_cons.mpr ⟨hr gi List.mem_cons_self, ih (List.forall_mem_cons.mp hr).2⟩

theorem pass1At_item (it : Item) (w : Str) (hok : it.OK) (hf : Follow it w) :
    pass1At (it.text ++ w) =
      if startsP (w.dropWhile isWs) then some (it.text ++ symAdd ++ w.dropWhile isWs) else none := by
  obtain ⟨k, sym, br, hm, hk, hsb⟩ := matchP_item it w hok hf
  rw [pass1At_of_match hm, if_neg (not_ge_two hk), hsb]
  rfl

/-- a capital directly behind an item is the first character of the next item -/
theorem after_up (r : Rest) (c : Char) (x : Str) (h : after r = c :: x) (hc : isUp c = true) :
    ∃ it2 t, r = (.blanks 0, it2) :: t ∧ chainText it2 t = c :: x := by
  cases r with
  | nil => cases h
  | cons gi t =>
    obtain ⟨g, it2⟩ := gi
    rcases g.text_cases with rfl | ⟨y, e⟩
    · exact ⟨it2, t, rfl, h⟩
    · rw [after, e] at h
      rw [← (List.cons.inj h).1] at hc; cases hc

theorem startsP_chainText (it : Item) (r : Rest) (hok : it.OK) : startsP (chainText it r) = true := by
  rw [chainText_eq, Item.text, List.append_assoc]; exact startsP_shape _ _ hok.1

theorem after_blanks (k : Nat) (it2 : Item) (t : Rest) (hok : it2.OK) :
    (after ((Gap.blanks k, it2) :: t)).dropWhile isWs = chainText it2 t := by
  obtain ⟨c2, t2, e2, hc2⟩ := chainText_head it2 t hok
  rw [after, Gap.text, e2]
  exact dropWhile_append_headNot (all_replicate (by decide) k) (.cons (head_facts c2 hc2).1.1 t2)

/-- One substitution of pass 1 attempted at the head of a chain acts on the chain: it resolves one blank gap, or it
    does nothing, and then no blank gap follows the first item. -/
theorem pass1At_res (r : Rest) : ∀ (it : Item), it.OK → restOK r → ∃ o : Option Rest,
    pass1At (chainText it r) = o.map (chainText it) ∧ (∀ r' ∈ o, Res r r') ∧
    (o = none → ∀ k it2 t, r ≠ (.blanks k, it2) :: t) := by
  induction r with
  | nil =>
    intro it hok _
    have h := pass1At_item it [] hok (follow_of_headIn it .nil)
    rw [List.append_nil] at h
    exact ⟨none, h.trans rfl, nofun, fun _ k it2 t e => nomatch e⟩
  | cons gi t ih =>
    intro it hok hr
    obtain ⟨g, it2⟩ := gi
    rw [chainText_eq]
    by_cases hm : it.bare ∧ ∃ c x, after ((g, it2) :: t) = c :: x ∧ isUp c = true
    · -- the capital run continues into the next item: the substitution happens further right, or
      -- the run is split before its last capital
      obtain ⟨⟨⟨u, hu, hsp⟩, hdg⟩, c, x, hc, hcu⟩ := hm
      obtain ⟨it2', t', e, hct⟩ := after_up _ c x hc hcu
      cases e
      obtain ⟨o, ho, hres, _⟩ := ih it2 hr.head hr.tail
      have htx : it.text = [u] := by rw [Item.text, hsp, hdg]; rfl
      rw [hc, htx, List.singleton_append, pass1At_cons_up u c x hu hcu, ← hct, ho]
      cases o with
      | some t'' =>
        exact ⟨some ((.blanks 0, it2) :: t''), by simp [chainText_cons, htx, Gap.text], fun r' hr' => by cases hr'; exact .later _ (hres t'' rfl), nofun⟩
      | none =>
        exact ⟨some ((.plus, it2) :: t), by simp [chainText_cons, htx, Gap.text],
          fun r' hr' => by cases hr'; exact .here 0 it2 t, nofun⟩
    · -- the pattern matches exactly this item
      have h := pass1At_item it _ hok (follow_after it _ hr fun hb c x e => by
        by_contra hu; exact hm ⟨hb, c, x, e, by simpa using hu⟩)
      cases g with
      | plus =>
        have hs : startsP ((after ((Gap.plus, it2) :: t)).dropWhile isWs) = false :=
          startsP_blanks_inert [' '] '+' (' ' :: chainText it2 t) (by decide) (by decide) (by decide)
        exact ⟨none, by rw [h, hs]; rfl, nofun, fun _ k it2' t' e => nomatch e⟩
      | blanks k =>
        refine ⟨some ((.plus, it2) :: t), ?_, fun r' hr' => by cases hr'; exact .here k it2 t, nofun⟩
        rw [h, after_blanks k it2 t hr.head, startsP_chainText it2 t hr.head, if_pos rfl]
        simp [chainText_cons, Gap.text, List.append_assoc]

/-- The pass-1 step in front of an item tries the item's own position and then looks behind the item: the other
    characters of an item start no match. -/
theorem pass1Step_item (it : Item) (hok : it.OK) (w : Str) :
    pass1Step (it.text ++ w) = (pass1At (it.text ++ w)).orElse fun _ => (pass1Step w).map (it.text ++ ·) := by
  obtain ⟨c0, tl, htx, htl⟩ := item_tail_inert it hok
  rw [htx, List.cons_append, pass1Step_cons, pass1Step_inert tl w htl, Option.map_map]
  rfl

/-- One step of pass 1 on a chain resolves one blank gap, wherever the leftmost match is; it does nothing only when no
    blank gap is left. -/
theorem pass1Step_res (r : Rest) : ∀ (it : Item), it.OK → restOK r → ∃ o : Option Rest,
    pass1Step (chainText it r) = o.map (chainText it) ∧ (∀ r' ∈ o, Res r r') ∧ (o = none → unres r = 0) := by
  induction r with
  | nil =>
    intro it hok hr
    obtain ⟨oA, hA, hresA, _⟩ := pass1At_res [] it hok hr
    cases oA with
    | some r' => cases hresA r' rfl
    | none =>
      have := pass1Step_item it hok []
      rw [List.append_nil] at this
      exact ⟨none, by rw [chainText, this, ← chainText, hA]; rfl, nofun, fun _ => rfl⟩
  | cons gi t ih =>
    intro it hok hr
    obtain ⟨g, it2⟩ := gi
    obtain ⟨oA, hA, hresA, hnA⟩ := pass1At_res ((g, it2) :: t) it hok hr
    obtain ⟨oS, hS, hresS, hnS⟩ := ih it2 hr.head hr.tail
    rw [chainText_cons, pass1Step_item it hok, ← chainText_cons, hA]
    cases oA with
    | some r' => exact ⟨some r', rfl, hresA, nofun⟩
    | none =>
      -- nothing to do at this item: the gap behind it is ` + ` and the step happens further right
      have hg : g = .plus := by
        cases g with
        | plus => rfl
        | blanks k => exact absurd rfl (hnA rfl k it2 t)
      refine ⟨oS.map ((g, it2) :: ·), ?_, ?_, ?_⟩
      · rw [pass1Step_inert g.text _ (gap_inert g), hS]
        cases oS <;> simp [chainText_cons]
      · intro r' hr'
        obtain ⟨t', ht', rfl⟩ := Option.mem_map.mp hr'
        exact .later _ (hresS t' ht')
      · intro ho
        subst hg
        exact hnS (by cases oS with | none => rfl | some _ => cases ho)
theorem allPlus_of_unres (r : Rest) (h : unres r = 0) : allPlus r = r := by
  induction r with
  | nil => rfl
  | cons gi t ih =>
    obtain ⟨g, it2⟩ := gi
    cases g with
    | blanks n => simp [unres] at h
    | plus => simp only [unres] at h; simp only [allPlus, List.map_cons] at ih ⊢; rw [ih h]

theorem restOK_allPlus (r : Rest) (h : restOK r) : restOK (allPlus r) :=
  List.forall_mem_map.mpr h


/-- an item in explicit notation: the count written ` * n` -/
def Item.expl (it : Item) : Str := it.sp ++ (if it.dg.isEmpty then [] else symMul ++ it.dg)

theorem P2_item (it : Item) (w tw : Str) (hok : it.OK) (hf : Follow it w) (h : P2 w tw) :
    P2 (it.text ++ w) (it.expl ++ tw) := by
  obtain ⟨k, sym, br, hm, _, hsb⟩ := matchP_item it w hok hf
  obtain ⟨c0, tl, htx, _⟩ := item_tail_inert it hok
  refine P2_intro fun n hn => ?_
  rw [htx, List.cons_append] at hm hn ⊢
  simp only [pass2, hm, h n (length_lt_of_cons_append hn), Item.expl]
  rw [hsb]

def explChain (it : Item) : Rest → Str
  | [] => it.expl
  | (_, it2) :: t => it.expl ++ symAdd ++ explChain it2 t

theorem explChain_cons (it : Item) (g : Gap) (it2 : Item) (t : Rest) :
    explChain it ((g, it2) :: t) = it.expl ++ (symAdd ++ explChain it2 t) := List.append_assoc _ _ _

theorem item_expl_noparen (it : Item) (hok : it.OK) : ∀ c ∈ it.expl, c ≠ '(' ∧ c ≠ ')' := by
  obtain ⟨_, hp, _, _⟩ := speciesText_of_shape it.sp hok.1
  refine List.forall_mem_append.mpr ⟨fun c h => ⟨(hp c h).1, (hp c h).2.1⟩, ?_⟩
  split
  · exact List.forall_mem_nil _
  · exact List.forall_mem_append.mpr ⟨by decide, fun c h =>
      have := (word_plain c (Or.inr (Or.inr (hok.2 c h)))).1
      ⟨this.1, this.2.1⟩⟩

theorem explChain_noparen (r : Rest) : ∀ (it : Item), it.OK → restOK r →
    ∀ c ∈ explChain it r, c ≠ '(' ∧ c ≠ ')' := by
  induction r with
  | nil => intro it hok _; exact item_expl_noparen it hok
  | cons gi t ih =>
    intro it hok hr
    exact List.forall_mem_append.mpr ⟨List.forall_mem_append.mpr ⟨item_expl_noparen it hok, by decide⟩,
      ih gi.2 hr.head hr.tail⟩

theorem unres_le (r : Rest) : unres r ≤ r.length := by
  induction r with
  | nil => simp [unres]
  | cons gi t ih =>
    obtain ⟨g, it2⟩ := gi
    cases g <;> simp only [unres, List.length_cons] <;> omega

theorem length_le_chainText (r : Rest) : ∀ (it : Item), it.OK → restOK r → r.length ≤ (chainText it r).length := by
  induction r with
  | nil => intro it _ _; simp
  | cons gi t ih =>
    intro it hok hr
    obtain ⟨g, it2⟩ := gi
    obtain ⟨c0, tl, htx, _⟩ := item_tail_inert it hok
    have := ih it2 (hr.head) hr.tail
    simp only [chainText_cons, List.length_append, htx, List.length_cons]
    omega

/-- Pass 1 makes one substitution per blank gap (`steps_chain`), and a chain has fewer gaps than characters: this is
    why the fuel `2 * length + 2` that `preprocess` hands to `pass1` suffices (`preprocess_seq`). -/
theorem unres_le_text (it : Item) (r : Rest) (hok : it.OK) (hr : restOK r) :
    unres r ≤ (chainText it r).length :=
  Nat.le_trans (unres_le r) (length_le_chainText r it hok hr)

/-- species, species with a count, juxtaposition (any blanks) and explicit ` + ` -/
def F.flat : F → Prop
  | .sp _ => True
  | .count (.sp _) _ => True
  | .seq _ a b => a.flat ∧ b.flat
  | .plus a b => a.flat ∧ b.flat
  | _ => False

/-- a flat formula as a chain; on any other formula a dummy (`toChain_spec` asks for `F.flat`) -/
def toChain : F → Item × Rest
  | .sp s => (⟨s, []⟩, [])
  | .count (.sp s) n => (⟨s, digitsOf n⟩, [])
  | .seq ws a b => ((toChain a).1, (toChain a).2 ++ (Gap.blanks ws, (toChain b).1) :: (toChain b).2)
  | .plus a b => ((toChain a).1, (toChain a).2 ++ (Gap.plus, (toChain b).1) :: (toChain b).2)
  | _ => (⟨[], []⟩, [])

theorem chainText_append (ra : Rest) : ∀ (it : Item) (g : Gap) (ib : Item) (rb : Rest),
    chainText it (ra ++ (g, ib) :: rb) = chainText it ra ++ g.text ++ chainText ib rb := by
  induction ra with
  | nil => intro it g ib rb; rfl
  | cons x t ih => intro it g ib rb; obtain ⟨g', it'⟩ := x; simp only [List.cons_append, chainText_cons, ih, List.append_assoc]

theorem explChain_append (ra : Rest) : ∀ (it : Item) (g : Gap) (ib : Item) (rb : Rest),
    explChain it (ra ++ (g, ib) :: rb) = explChain it ra ++ symAdd ++ explChain ib rb := by
  induction ra with
  | nil => intro it g ib rb; rfl
  | cons x t ih => intro it g ib rb; obtain ⟨g', it'⟩ := x; simp only [List.cons_append, explChain_cons, ih, List.append_assoc]

theorem allDig_digitsOf (n : Nat) : AllDig (digitsOf n) := fun c hc => (digitsOf_all n c hc).1

theorem toChain_spec (f : F) (hf : f.flat) (hs : f.spAll SpeciesShape) :
    render f = chainText (toChain f).1 (toChain f).2 ∧
    renderExplicit f = explChain (toChain f).1 (toChain f).2 ∧
    (toChain f).1.OK ∧ restOK (toChain f).2 := by
  -- the cases of `F.flat`: 1 a species; 2 a species with a count; 3 juxtaposition; 4 ` + `; 5 anything else is not flat
  fun_induction F.flat f with
  | case1 s =>
    exact ⟨by simp [toChain, chainText, render, Item.text], by simp [toChain, explChain, renderExplicit, Item.expl],
      ⟨hs, List.forall_mem_nil _⟩, List.forall_mem_nil _⟩
  | case2 s n =>
    have hne : (digitsOf n).isEmpty = false := List.isEmpty_eq_false_iff.mpr (digitsOf_ne_nil n)
    exact ⟨by simp [toChain, chainText, render, Item.text],
      by simp [toChain, explChain, renderExplicit, Item.expl, hne],
      ⟨hs, allDig_digitsOf n⟩, List.forall_mem_nil _⟩
  | case3 ws a b iha ihb | case4 a b iha ihb =>
    obtain ⟨a1, a2, a3, a4⟩ := iha hf.1 hs.1
    obtain ⟨b1, b2, b3, b4⟩ := ihb hf.2 hs.2
    refine ⟨?_, ?_, a3, ?_⟩
    · simp only [toChain, render, chainText_append, Gap.text, a1, b1]
    · simp only [toChain, renderExplicit, explChain_append, a2, b2]
    · exact List.forall_mem_append.mpr ⟨a4, List.forall_mem_cons.mpr ⟨b3, b4⟩⟩
  | case5 => exact hf.elim

end SciVerif.C10
