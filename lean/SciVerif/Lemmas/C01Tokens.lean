import SciVerif.Model.C01Spec
import SciVerif.Generated.C01Tables
import SciVerif.Lemmas.Util.StrKey

/-!
# C01, token level: the loop of `Tokens.operate` counted in iterations (`StepsTo`, `Moves`), the token list
  of an expression before each pass (`flat`), and the facts about the regenerated operator and step tables
  that the passes use, decided by the kernel on operator positions.
-/
namespace SciVerif.C01
open SciVerif.C01.Gen

variable {A : Type}

/-- `c` iterations of the loop body lead from `b` to `b'` (for every amount of spare fuel). -/
def StepsTo (f : Bufs A → M A (Bufs A)) (c : Nat) (b b' : Bufs A) : Prop :=
  ∀ n, loop f (n + c) b = loop f n b'

theorem StepsTo.refl (f : Bufs A → M A (Bufs A)) (b : Bufs A) : StepsTo f 0 b b := fun _ => rfl

theorem StepsTo.trans {f : Bufs A → M A (Bufs A)} {c1 c2 : Nat} {b1 b2 b3 : Bufs A}
    (h1 : StepsTo f c1 b1 b2) (h2 : StepsTo f c2 b2 b3) : StepsTo f (c1 + c2) b1 b3 := by
  intro n
  have : n + (c1 + c2) = (n + c2) + c1 := by omega
  rw [this, h1, h2]

theorem StepsTo.one {f : Bufs A → M A (Bufs A)} {l : List (Tok A)} {t : Tok A} {r : List (Tok A)}
    {b' : Bufs A} (h : f ⟨l, t :: r⟩ = .ok b') : StepsTo f 1 ⟨l, t :: r⟩ b' := by
  intro n
  simp [loop, h]

/-- The loop body works the tokens `T` off the right buffer, from stack `l` to stack `l'`, in at most
    `T.length` iterations, whatever follows `T`. -/
def Moves (f : Bufs A → M A (Bufs A)) (l T l' : List (Tok A)) : Prop :=
  ∀ rest, ∃ c, c ≤ T.length ∧ StepsTo f c ⟨l, T ++ rest⟩ ⟨l', rest⟩

section
variable {f : Bufs A → M A (Bufs A)} {l l1 l' T T1 T' : List (Tok A)} {t : Tok A}

theorem Moves.nil : Moves f l [] l := fun rest => ⟨0, Nat.le_refl _, StepsTo.refl f ⟨l, rest⟩⟩

/-- one iteration that takes the first token (and may rewrite what follows it, not making it longer), then the rest -/
theorem Moves.step (h : ∀ rest, f ⟨l, t :: (T ++ rest)⟩ = .ok ⟨l1, T1 ++ rest⟩) (hlen : T1.length ≤ T.length)
    (h2 : Moves f l1 T1 l') : Moves f l (t :: T) l' := fun rest => by
  obtain ⟨c, hc, s⟩ := h2 rest
  exact ⟨1 + c, by rw [List.length_cons, Nat.add_comm]; exact Nat.succ_le_succ (Nat.le_trans hc hlen),
    (StepsTo.one (h rest)).trans s⟩

theorem Moves.one (h : ∀ rest, f ⟨l, t :: (T ++ rest)⟩ = .ok ⟨l', rest⟩) : Moves f l (t :: T) l' :=
  .step (T1 := []) h (Nat.zero_le _) .nil

theorem Moves.append (h1 : Moves f l T l1) (h2 : Moves f l1 T' l') : Moves f l (T ++ T') l' := fun rest => by
  obtain ⟨c1, hc1, s1⟩ := h1 (T' ++ rest)
  obtain ⟨c2, hc2, s2⟩ := h2 rest
  exact ⟨c1 + c2, by rw [List.length_append]; exact Nat.add_le_add hc1 hc2,
    by rw [List.append_assoc]; exact s1.trans s2⟩

/-- a token that is shifted, then the tokens after it replaced on the stack by `T'` -/
theorem Moves.shift (h : ∀ rest, f ⟨l, t :: (T ++ rest)⟩ = .ok ⟨t :: l, T ++ rest⟩)
    (h2 : Moves f (t :: l) T (T'.reverse ++ t :: l)) : Moves f l (t :: T) ((t :: T').reverse ++ l) := by
  simpa using Moves.step h (Nat.le_refl _) h2

/-- two token lists replaced on the stack one after the other -/
theorem Moves.append_rev {T2 T2' : List (Tok A)} (h1 : Moves f l T (T'.reverse ++ l))
    (h2 : Moves f (T'.reverse ++ l) T2 (T2'.reverse ++ (T'.reverse ++ l))) :
    Moves f l (T ++ T2) ((T' ++ T2').reverse ++ l) := by
  simpa using h1.append h2
end

theorem loop_done (f : Bufs A → M A (Bufs A)) (n : Nat) (l : List (Tok A)) :
    loop f n ⟨l, []⟩ = .ok ⟨l, []⟩ := by
  cases n <;> simp [loop]

theorem loop_error (f : Bufs A → M A (Bufs A)) (n : Nat) (l r : List (Tok A)) (t : Tok A)
    (e : Bufs A × String) (h : f ⟨l, t :: r⟩ = .error e) : loop f (n + 1) ⟨l, t :: r⟩ = .error e := by
  simp [loop, h]

theorem operate_of_steps (tbl : Table) (alg : AtomAlg A) (ops : List Nat) (ot : Otype)
    (T out : List (Tok A)) (c : Nat) (hc : c ≤ 2 * T.length + 2)
    (h : StepsTo (step tbl alg ops ot) c ⟨[], T⟩ ⟨out.reverse, []⟩) :
    operate tbl alg ops ot ⟨[], T⟩ = .ok ⟨[], out⟩ := by
  unfold operate
  have e : 2 * T.length + 2 = (2 * T.length + 2 - c) + c := by omega
  simp only []
  rw [e, h, loop_done]
  simp

theorem operate_error_after (tbl : Table) (alg : AtomAlg A) (P : List Nat) (ot : Otype)
    (T l r : List (Tok A)) (t : Tok A) (c : Nat) (err : Bufs A × String) (hc : c < 2 * T.length + 2)
    (st : StepsTo (step tbl alg P ot) c ⟨[], T⟩ ⟨l, t :: r⟩)
    (he : step tbl alg P ot ⟨l, t :: r⟩ = .error err) :
    operate tbl alg P ot ⟨[], T⟩ = .error err := by
  unfold operate
  have e : 2 * T.length + 2 = ((2 * T.length + 1 - c) + 1) + c := by omega
  simp only []
  rw [e, st, loop_error _ _ _ _ _ _ he]

theorem step_atom (tbl : Table) (alg : AtomAlg A) (ops : List Nat) (ot : Otype)
    (l r : List (Tok A)) (v : A) :
    step tbl alg ops ot ⟨l, .atom v :: r⟩ = .ok ⟨.atom v :: l, r⟩ := rfl

theorem step_skip (tbl : Table) (alg : AtomAlg A) (ops : List Nat) (ot : Otype)
    (l r : List (Tok A)) (i : Nat) (a : List (Option A)) (h : isInst tbl ops i = false) :
    step tbl alg ops ot ⟨l, .op i a :: r⟩ = .ok ⟨.op i a :: l, r⟩ := by
  simp [step, h]

theorem step_binary (tbl : Table) (alg : AtomAlg A) (ops : List Nat) (ot : Otype)
    (l r : List (Tok A)) (i : Nat) (a : List (Option A)) (x y : A) (f : Fn2) (row : OpRow)
    (hot : ot = .binary) (hi : isInst tbl ops i = true) (hr : tbl.rows[i]? = some row)
    (hb : row.binary = some ⟨true, true, [(.left, .bin f .L .R)]⟩) :
    step tbl alg ops ot ⟨.atom x :: l, .op i a :: .atom y :: r⟩
      = .ok ⟨.atom (alg.bin f x y) :: l, r⟩ := by
  subst hot
  simp [step, hi, dispatch, hr, hb, runSimple, getLeft, getRight, runPuts, putTok, evalTm, tokAtom,
    put, putLeft]

/-- the operator tokens of the language as the tokeniser produces them: positions in the live table, no arguments -/
def tokB (o : B2) : Tok A := .op (idxOf dflt o.name) []
def tokS (neg : Bool) : Tok A := .op (idxOf dflt (if neg then "sub" else "add")) []
def tokN : Tok A := .op (idxOf dflt "not") []

/-- The token list before pass `k`: every sub-expression of a level below `k` has been
    replaced by its value. `flat 0` is the tokeniser's output, `flat 9` a single atom. -/
def flat (alg : AtomAlg A) (lit : List Char → A) (k : Nat) : E → List (Tok A)
  | .num t => [.atom (lit t)]
  | .fn1 f e =>
      if 0 < k then [.atom (eval alg lit (.fn1 f e))]
      else [.op (idxOf dflt f.name) [some (eval alg lit e)]]
  | .fn2 g a b =>
      if 0 < k then [.atom (eval alg lit (.fn2 g a b))]
      else [.op (idxOf dflt g.name) [some (eval alg lit a), some (eval alg lit b)]]
  | .sign s e =>
      if 1 < k then [.atom (eval alg lit (.sign s e))] else tokS s :: flat alg lit k e
  | .bin o l r =>
      if o.level < k then [.atom (eval alg lit (.bin o l r))]
      else flat alg lit k l ++ [tokB o] ++ flat alg lit k r
  | .not e =>
      if 6 < k then [.atom (eval alg lit (.not e))] else tokN :: flat alg lit k e

theorem flat_of_lt (alg : AtomAlg A) (lit : List Char → A) (k : Nat) (e : E) (h : e.level < k) :
    flat alg lit k e = [.atom (eval alg lit e)] := by
  cases e <;> simp_all [flat, E.level, eval]
  all_goals omega

theorem flat_bin_ge (alg : AtomAlg A) (lit : List Char → A) (k : Nat) (o : B2) (x y : E)
    (h : ¬ o.level < k) :
    flat alg lit k (.bin o x y) = flat alg lit k x ++ tokB o :: flat alg lit k y := by
  simp [flat, h]

theorem flat_sign_ge (alg : AtomAlg A) (lit : List Char → A) (k : Nat) (s : Bool) (x : E)
    (h : ¬ 1 < k) : flat alg lit k (.sign s x) = tokS s :: flat alg lit k x := by
  simp [flat, h]

theorem flat_not_ge (alg : AtomAlg A) (lit : List Char → A) (k : Nat) (x : E) (h : ¬ 6 < k) :
    flat alg lit k (.not x) = tokN :: flat alg lit k x := by
  simp [flat, h]

theorem flat_zero (alg : AtomAlg A) (lit : List Char → A) (e : E) :
    flat alg lit 0 e = toks dflt alg lit e := by
  induction e with
  | num t => rfl
  | fn1 f e _ => simp [flat, toks]
  | fn2 g a b _ _ => simp [flat, toks]
  | sign s e ih => simp [flat, toks, ih, tokS]
  | bin o l r ihl ihr => simp [flat, toks, ihl, ihr, tokB]
  | not e ih => simp [flat, toks, ih, tokN]

theorem flat_last (alg : AtomAlg A) (lit : List Char → A) (k : Nat) (hk : 0 < k) (e : E) :
    ∃ pre v, flat alg lit k e = pre ++ [.atom v] := by
  induction e with
  | num t => exact ⟨[], lit t, rfl⟩
  | fn1 f e _ => exact ⟨[], _, flat_of_lt alg lit k (.fn1 f e) hk⟩
  | fn2 g a b _ _ => exact ⟨[], _, flat_of_lt alg lit k (.fn2 g a b) hk⟩
  | sign s e ih =>
    by_cases h : 1 < k
    · exact ⟨[], _, flat_of_lt alg lit k (.sign s e) h⟩
    · obtain ⟨pre, v, e1⟩ := ih
      exact ⟨tokS s :: pre, v, by rw [flat_sign_ge alg lit k s e h, e1]; rfl⟩
  | bin o l r _ ihr =>
    by_cases h : o.level < k
    · exact ⟨[], _, flat_of_lt alg lit k (.bin o l r) h⟩
    · obtain ⟨pre, v, e1⟩ := ihr
      exact ⟨flat alg lit k l ++ tokB o :: pre, v, by rw [flat_bin_ge alg lit k o l r h, e1]; simp⟩
  | not e ih =>
    by_cases h : 6 < k
    · exact ⟨[], _, flat_of_lt alg lit k (.not e) h⟩
    · obtain ⟨pre, v, e1⟩ := ih
      exact ⟨tokN :: pre, v, by rw [flat_not_ge alg lit k e h, e1]; rfl⟩

theorem flat_eq_cons (alg : AtomAlg A) (lit : List Char → A) (k : Nat) (e : E) :
    ∃ t ts, flat alg lit k e = t :: ts := by
  have h : 0 < (flat alg lit k e).length := by
    cases e <;> simp only [flat] <;> (try split) <;> simp <;> omega
  cases hf : flat alg lit k e with
  | nil => simp [hf] at h
  | cons t ts => exact ⟨t, ts, rfl⟩

/-- the nine steps of the live step table, resolved against the live operator table (that this list
    is what the live tables give is `resolve_steps`): pass `k` applies the operators of level `k` -/
def passes : List (List Nat × Otype) :=
  [([0, 1, 2, 3, 4, 5, 6, 7, 8, 9], .args), ([13, 14], .unary), ([10], .binary),
   ([11, 12], .binary), ([13, 14], .binary), ([15, 16, 18, 19, 20, 21], .binary),
   ([17], .unary), ([22], .binary), ([23], .binary)]

/-- the look-up of an operator name, with the names compared as numbers (`Util.keyCode`): the form in
    which the kernel evaluates the larger look-up facts (`resolve_steps`, `idxOf_B2`, `idxOf_F1`) -/
theorem nameIdx_eq (tbl : Table) (n : String) :
    nameIdx tbl n = tbl.rows.findIdx? (fun r => Util.keyCode r.name == Util.keyCode n) := by
  simp only [nameIdx, Util.beq_eq_keyCode]

theorem resolve_steps : dfltSteps.map (resolveStep dflt) = passes := by
  have e : resolveStep dflt = fun s => (s.1.filterMap (fun n =>
      dflt.rows.findIdx? (fun r => Util.keyCode r.name == Util.keyCode n)), s.2) :=
    funext fun s => by simp only [resolveStep, ← nameIdx_eq]
  rw [e]
  decide +kernel

theorem passes_nonempty (k : Nat) (hk : k < passes.length) : passes[k].1.isEmpty = false := by
  revert k; decide

/-! The operator tokens are defined through the names of the operators; the facts below are proved
    on their positions in the live table.  The positions written out in `B2.idx`, `F1.idx`, `F2.idx`
    are checked against the live table, by comparing names, in `idxOf_B2`, `idxOf_F1`, `idxOf_F2`
    (so a regenerated table with another order fails there). -/

def B2.idx : B2 → Nat
  | .pow => 10 | .mul => 11 | .div => 12 | .add => 13 | .sub => 14 | .eq => 15 | .ne => 16
  | .le => 18 | .ge => 19 | .lt => 20 | .gt => 21 | .and => 22 | .or => 23

def F1.idx : F1 → Nat
  | .log => 0 | .log10 => 1 | .exp => 3 | .sqrt => 4 | .sin => 6 | .cos => 7 | .tan => 8 | .par => 9

def F2.idx : F2 → Nat
  | .logb => 2 | .powb => 5

def B2.all : List B2 := [.pow, .mul, .div, .add, .sub, .eq, .ne, .le, .ge, .lt, .gt, .and, .or]

theorem B2.mem_all (o : B2) : o ∈ B2.all := by cases o <;> decide

theorem idxOf_B2 (o : B2) : idxOf dflt o.name = o.idx := by
  have h : ∀ o ∈ B2.all, idxOf dflt o.name = o.idx := by
    simp only [idxOf, nameIdx_eq]
    decide +kernel
  exact h o o.mem_all

theorem idxOf_F1 (f : F1) : idxOf dflt f.name = f.idx := by
  have h : ∀ f ∈ [F1.par, .exp, .log, .log10, .sqrt, .sin, .cos, .tan], idxOf dflt f.name = f.idx := by
    simp only [idxOf, nameIdx_eq]
    decide +kernel
  exact h f (by cases f <;> decide)

theorem idxOf_F2 (g : F2) : idxOf dflt g.name = g.idx := by cases g <;> decide +kernel

theorem idxOf_not : idxOf dflt "not" = 17 := by decide +kernel

theorem idxOf_sign (s : Bool) : idxOf dflt (if s then "sub" else "add") = if s then 14 else 13 := by
  cases s <;> decide +kernel

theorem B2.level_range (o : B2) : 2 ≤ o.level ∧ o.level ≠ 6 ∧ o.level < passes.length := by
  cases o <;> decide

theorem flat_nine (alg : AtomAlg A) (lit : List Char → A) (e : E) :
    flat alg lit 9 e = [.atom (eval alg lit e)] := by
  refine flat_of_lt alg lit 9 e ?_
  cases e with
  | bin o l r => exact o.level_range.2.2
  | _ => simp [E.level]

/-- every binary operator of the language is in the table, and its `operate_binary` applies
    the atom method of the same name to (left, right) in this order -/
theorem binary_rows (o : B2) : ∃ row, dflt.rows[idxOf dflt o.name]? = some row ∧
    row.binary = some ⟨true, true, [(.left, .bin o.fn .L .R)]⟩ := by
  rw [idxOf_B2]
  cases o <;> exact ⟨_, rfl, rfl⟩

/-- pass `k` picks up the binary operators of level `k`; the sign pass also picks up `+` and `-` -/
theorem inst_binary (o : B2) (k : Nat) (hk : k < passes.length) :
    isInst dflt passes[k].1 (idxOf dflt o.name) = decide (o.level = k ∨ (k = 1 ∧ o.level = 4)) := by
  rw [idxOf_B2]
  have h : ∀ o ∈ B2.all, ∀ k, (hk : k < passes.length) →
      isInst dflt passes[k].1 o.idx = decide (o.level = k ∨ (k = 1 ∧ o.level = 4)) := by decide +kernel
  exact h o o.mem_all k hk

theorem inst_not (k : Nat) (hk : k < passes.length) :
    isInst dflt passes[k].1 (idxOf dflt "not") = decide (k = 6) := by
  rw [idxOf_not]
  revert k
  decide +kernel

theorem inst_sign (s : Bool) (k : Nat) (hk : k < passes.length) :
    isInst dflt passes[k].1 (idxOf dflt (if s then "sub" else "add")) = decide (k = 1 ∨ k = 4) := by
  rw [idxOf_sign]
  revert k
  cases s <;> decide +kernel

theorem pass_binary (k : Nat) (hk : k < passes.length) (h2 : 2 ≤ k) (h6 : k ≠ 6) :
    passes[k].2 = .binary := by
  revert k
  decide

end SciVerif.C01
