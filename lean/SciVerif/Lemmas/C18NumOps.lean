import SciVerif.Model.C18Num
import Mathlib.Algebra.Field.Basic

/-!
Numerical operators of the DIP solver (C18): their equations by key, and the "unit-carrying = SI"
agreement of each arithmetic operator over a field.
-/
namespace SciVerif.C18

variable {F A : Type}

theorem numBinSem_none (N : NumOps F) (o : String) (x : QV F) :
    numBinSem N o none x = none ∧ numBinSem N o x none = none := by
  unfold numBinSem numBin
  split <;> (cases x <;> exact ⟨rfl, rfl⟩)

theorem numFn_par (N : NumOps F) (q : QV F) : numFn N "par" [q] = q := by cases q <;> rfl

theorem numFn_sin (N : NumOps F) (a : Quant F) :
    numFn N "sin" [some a] = (toRad N a).map fun x => ⟨N.sin x, N.one, Dims.zero⟩ := rfl
theorem numFn_cos (N : NumOps F) (a : Quant F) :
    numFn N "cos" [some a] = (toRad N a).map fun x => ⟨N.cos x, N.one, Dims.zero⟩ := rfl
theorem numFn_tan (N : NumOps F) (a : Quant F) :
    numFn N "tan" [some a] = (toRad N a).map fun x => ⟨N.tan x, N.one, Dims.zero⟩ := rfl

theorem toRad_angle (N : NumOps F) (a : Quant F) (h : a.dims = Dims.angle) :
    toRad N a = some (N.mul a.val a.k) := by
  rw [toRad, h, if_neg (by decide), if_pos rfl]

theorem toRad_nodim (N : NumOps F) (a : Quant F) (h : a.dims.nodim = true) :
    toRad N a = some a.val := by
  rw [toRad, if_pos h]

theorem toRad_other (N : NumOps F) (a : Quant F) (h1 : a.dims.nodim = false)
    (h2 : a.dims ≠ Dims.angle) : toRad N a = none := by
  rw [toRad, h1, if_neg (by decide), if_neg h2]

theorem siFn_par (N : NumOps F) (q : Option (SQ F)) : siFn N "par" [q] = q := by cases q <;> rfl

/-- number algebra of a field (the functions are irrelevant for the arithmetic fragment) -/
def fieldOps (K : Type) [Field K] : NumOps K where
  add := (· + ·)
  sub := (· - ·)
  mul := (· * ·)
  div := (· / ·)
  neg := fun x => -x
  one := 1
  exp := id
  log := id
  log10 := id
  sqrt := id
  sin := id
  cos := id
  tan := id
  pow := fun x _ => x
  toInt := fun _ => none

/-- atoms, parentheses and `+ − × ÷` only -/
def E.Arith : E A → Prop
  | .lit _ => True
  | .par e => e.Arith
  | .bin o l r => (o = "add" ∨ o = "sub" ∨ o = "mul" ∨ o = "truediv") ∧ l.Arith ∧ r.Arith
  | _ => False

/-- as `E.Arith`, with the prefix signs -/
def E.ArithS : E A → Prop
  | .lit _ => True
  | .par e => e.ArithS
  | .bin o l r => (o = "add" ∨ o = "sub" ∨ o = "mul" ∨ o = "truediv") ∧ l.ArithS ∧ r.ArithS
  | .pre u e => (u = "sub" ∨ u = "add") ∧ e.ArithS
  | _ => False

theorem E.arithS_of_arith : ∀ (e : E A), e.Arith → e.ArithS
  | .lit _, _ => trivial
  | .par e, h => E.arithS_of_arith e h
  | .bin _ l r, ⟨ho, hl, hr⟩ => ⟨ho, E.arithS_of_arith l hl, E.arithS_of_arith r hr⟩
  | .pre _ _, h => h.elim
  | .fn1 _ _, h => h.elim
  | .fn2 _ _ _, h => h.elim

/-- The unit-carrying value `q` and the SI value `s` are the same result: both refused, or `s` is `q`
    in SI units and the unit factor of `q` is not zero.  (`Agrees q (q.map toSI)` therefore says just
    that the factor is not zero.) -/
def Agrees {K : Type} [Field K] (q : QV K) (s : Option (SQ K)) : Prop :=
  match q with
  | some q => q.k ≠ 0 ∧ s = some (q.toSI (fieldOps K))
  | none => s = none

variable {K : Type} [Field K]

/-- Either branch of `Quant.mk'` (factor folded into the magnitude when dimensionless, kept otherwise)
    has the SI value `v * k`; it is taken as `s` with an equation so that a caller can give the
    field identity that brings its own value into that form. -/
theorem agrees_mk (v k : K) (d : Dims) (hk : k ≠ 0) {s : K} (hs : v * k = s) :
    Agrees (some (Quant.mk' (fieldOps K) v k d)) (some ⟨s, d⟩) := by
  subst hs
  unfold Quant.mk'
  split
  · exact ⟨one_ne_zero, congrArg some (congrArg (SQ.mk · d) (mul_one (v * k)).symm)⟩
  · exact ⟨hk, rfl⟩

/-- `a ± b` in the unit of `a`: `(a.val ± b.val·b.k / a.k) · a.k = a.val·a.k ± b.val·b.k` -/
theorem agrees_addsub (isSub : Bool) (a b : Quant K) (hk : a.k ≠ 0) :
    Agrees (qaddsub (fieldOps K) isSub a b)
      (if a.dims = b.dims then
        some ⟨if isSub then a.val * a.k - b.val * b.k else a.val * a.k + b.val * b.k, a.dims⟩
       else none) := by
  have hq : qaddsub (fieldOps K) isSub a b = (convTo (fieldOps K) b a.k a.dims).map fun rv =>
      ⟨if isSub then a.val - rv else a.val + rv, a.k, a.dims⟩ := by
    unfold qaddsub; split <;> rfl
  rw [hq, convTo]
  by_cases hd : b.dims = a.dims
  · rw [if_pos hd, if_pos hd.symm]
    refine ⟨hk, congrArg some (congrArg (SQ.mk · a.dims) ?_)⟩
    show (if isSub then _ else _) = (if isSub then a.val - b.val * b.k / a.k
      else a.val + b.val * b.k / a.k) * a.k
    cases isSub
    · exact (by rw [add_mul, div_mul_cancel₀ _ hk] : _ = (a.val + b.val * b.k / a.k) * a.k)
    · exact (by rw [sub_mul, div_mul_cancel₀ _ hk] : _ = (a.val - b.val * b.k / a.k) * a.k)
  · rw [if_neg hd, if_neg (fun h => hd h.symm)]
    rfl

theorem agrees_bin (o : String) (ho : o = "add" ∨ o = "sub" ∨ o = "mul" ∨ o = "truediv")
    (ql qr : QV K) (sl sr : Option (SQ K)) (hL : Agrees ql sl) (hR : Agrees qr sr) :
    Agrees (numBinSem (fieldOps K) o ql qr) (siBin (fieldOps K) o sl sr) := by
  cases ql with
  | none => cases hL; rw [(numBinSem_none _ o qr).1]; rfl
  | some a =>
    obtain ⟨hka, rfl⟩ := hL
    cases qr with
    | none => cases hR; rw [(numBinSem_none _ o (some a)).2]; rfl
    | some b =>
      obtain ⟨hkb, rfl⟩ := hR
      -- at each literal key `numBinSem` and `siBin` unfold to the operator behind it
      rcases ho with rfl | rfl | rfl | rfl
      · exact agrees_addsub false a b hka
      · exact agrees_addsub true a b hka
      · exact agrees_mk (a.val * b.val) (a.k * b.k) (a.dims.add b.dims) (mul_ne_zero hka hkb)
          (mul_mul_mul_comm ..)
      · exact agrees_mk (a.val / b.val) (a.k / b.k) (a.dims.sub b.dims) (div_ne_zero hka hkb)
          (div_mul_div_comm ..)

theorem agrees_pre (u : String) (hu : u = "sub" ∨ u = "add")
    (q : QV K) (s : Option (SQ K)) (h : Agrees q s) :
    Agrees (numPreSem (fieldOps K) u q)
      (if u = "sub" then s.map fun a => ⟨(fieldOps K).neg a.si, a.dims⟩
       else if u = "add" then s else none) := by
  rcases hu with rfl | rfl
  · rw [numPreSem, if_pos rfl, if_pos rfl]
    cases q with
    | none => cases h; rfl
    | some a =>
      obtain ⟨hk, rfl⟩ := h
      exact ⟨hk, congrArg some (congrArg (SQ.mk · a.dims) (neg_mul a.val a.k).symm)⟩
  · rw [numPreSem, if_neg (by decide), if_neg (by decide), if_pos rfl]
    exact h

theorem agrees_eval (av : A → QV K) (sv : A → Option (SQ K)) (hav : ∀ a, Agrees (av a) (sv a))
    (e : E A) (he : e.ArithS) :
    Agrees (e.eval (numSem (fieldOps K)) (numBinSem (fieldOps K)) (numPreSem (fieldOps K)) av)
      (evalSI (fieldOps K) sv e) := by
  induction e with
  | lit a => exact hav a
  | par e ih =>
    have h := ih he
    simp only [E.eval, evalSI]
    rw [show (numSem (fieldOps K)).fn = numFn (fieldOps K) from rfl, numFn_par, siFn_par]
    exact h
  | fn1 f a _ => exact he.elim
  | fn2 f a b _ _ => exact he.elim
  | pre u e ih =>
    obtain ⟨hu, h⟩ := he
    simp only [E.eval, evalSI]
    exact agrees_pre u hu _ _ (ih h)
  | bin o l r ihl ihr =>
    obtain ⟨ho, hl, hr⟩ := he
    simp only [E.eval, evalSI]
    exact agrees_bin o ho _ _ _ _ (ihl hl) (ihr hr)

end SciVerif.C18
