import SciVerif.Model.C12
import SciVerif.Lemmas.C11

/-! C12: `Matter._norm` as a state transformer, closed form of a history. -/
-- the `variable` line gives every statement the ordered field; those that need only the field would be flagged
set_option linter.unusedSectionVars false
namespace SciVerif.C12
open SciVerif.C11
variable {α : Type} [Field α] [LinearOrder α] [IsStrictOrderedRing α]

/-- Closed form of the state after `_norm` saw the composite mass `M`: `d` is the attached
    density in its standard unit, the number density if `g` (only that one was attached), the mass
    density otherwise. -/
def closed (da M : α) (g : Bool) (d : α) (vol : Option α) : MState α :=
  if g then ⟨some (d * M * da), some d, vol, vol.map (fun V => d * M * da * V), true⟩
  else ⟨some d, some (d / M / da), vol, vol.map (fun V => d * V), false⟩

/-- the states a construction passes through: the attached density and the volume stay, and
    there is no mass without a volume -/
def Reach (g : Bool) (d : α) (vol : Option α) (s : MState α) : Prop :=
  (if g then s.n else s.rho) = some d ∧ s.vol = vol ∧ s.numberGiven = g ∧ (vol = none → s.mass = none)

theorem normStep_reach (da M : α) (g : Bool) (d : α) (vol : Option α) (s : MState α)
    (h : Reach g d vol s) : normStep da (some M) s = some (closed da M g d vol) := by
  obtain ⟨rho, n, vol', mass, g'⟩ := s
  obtain ⟨h1, h2, h3, h4⟩ := h
  simp only at h1 h2 h3 h4
  subst h2 h3
  cases g' <;> simp only [Bool.false_eq_true, if_false, if_true] at h1 <;> subst h1 <;>
    cases vol' <;> simp [normStep, closed, h4]

theorem reach_closed (da M : α) (g : Bool) (d : α) (vol : Option α) :
    Reach g d vol (closed da M g d vol) := by
  cases g <;> exact ⟨rfl, rfl, rfl, fun h => by simp [closed, h]⟩

theorem runHistory_reach (da : α) (g : Bool) (d : α) (vol : Option α) (Ms : List α) (M : α)
    (s : MState α) (h : Reach g d vol s) :
    runHistory da (Ms.map some ++ [some M]) s = some (closed da M g d vol) := by
  induction Ms generalizing s with
  | nil => simp [runHistory, normStep_reach da M g d vol s h]
  | cons a t ih =>
    simp only [List.map_cons, List.cons_append, runHistory, normStep_reach da a g d vol s h]
    exact ih _ (reach_closed da a g d vol)

/-- the initial state satisfies `Reach` for the density `_norm` will use: the mass density if one is given,
    else the number density -/
theorem reach_init (rho n vol : Option (Q α)) (hg : rho.isSome ∨ n.isSome) :
    ∃ g d, Reach g d (vol.map Q.std) (MState.init rho n vol) ∧
      (∀ q, rho = some q → g = false ∧ d = q.std) ∧
      (∀ q, rho = none → n = some q → g = true ∧ d = q.std) := by
  cases rho with
  | some qr =>
    refine ⟨false, qr.std, ⟨rfl, rfl, by simp [MState.init], fun _ => rfl⟩, ?_, nofun⟩
    intro q hq
    cases hq
    exact ⟨rfl, rfl⟩
  | none =>
    cases n with
    | none => simp at hg
    | some qn =>
      refine ⟨true, qn.std, ⟨rfl, rfl, by simp [MState.init], fun _ => rfl⟩, nofun, ?_⟩
      intro q _ hq
      cases hq
      exact ⟨rfl, rfl⟩

/-- the closed form has a mass density `r` and a number density `v` with `r = v · M · da`; the attached one is `d`; the mass
    is `r · V`; the volume stays -/
theorem closed_consistent (da M : α) (hM : M ≠ 0) (hda : da ≠ 0) (g : Bool) (d : α) (vol : Option α) :
    ∃ r v, (closed da M g d vol).rho = some r ∧ (closed da M g d vol).n = some v ∧
      r = v * (M * da) ∧ (g = false → r = d) ∧ (g = true → v = d) ∧
      (closed da M g d vol).mass = vol.map (fun V => r * V) ∧ (closed da M g d vol).vol = vol := by
  cases g
  · exact ⟨d, d / M / da, rfl, rfl, by field_simp, (fun _ => rfl), nofun, rfl, rfl⟩
  · exact ⟨d * M * da, d, rfl, rfl, by ring, nofun, (fun _ => rfl), rfl, rfl⟩

theorem compositeMassQ_number (mode : Mode) (hm : mode ≠ .massFraction) (cs : List (Comp α)) :
    compositeMassQ mode cs = some (compositeMass mode cs) := by
  cases mode <;> first | rfl | exact absurd rfl hm

/-- both constructors' histories (built from a dict, component by component; parsed from a string, at once) end
    with the mass of the whole composite -/
theorem history_form (mode : Mode) (hm : mode ≠ .massFraction) (cs : List (Comp α)) (h : List (Option α))
    (hh : h = dictHistory mode cs ∨ h = stringHistory mode cs) :
    ∃ Ms : List α, h = Ms.map some ++ [compositeMassQ mode cs] := by
  rcases hh with rfl | rfl
  · refine ⟨(List.range cs.length).map fun i => compositeMass mode (cs.take (i + 1)), ?_⟩
    rw [dictHistory, List.map_map]
    congr 1
    exact List.map_congr_left fun i _ => compositeMassQ_number mode hm _
  · exact ⟨[], rfl⟩

theorem sum_nCol (cs : List (Comp α)) (n : α) : (nCol cs n).sum = (cs.map (·.p)).sum * n := by
  simp only [nCol]; rw [sum_map_mul_right]

theorem sum_rhoCol (da : α) (cs : List (Comp α)) (n : α) :
    (rhoCol da cs n).sum = (cs.map fun c => c.p * c.m).sum * n * da := by
  simp only [rhoCol]
  rw [sum_map_mul_right, sum_map_mul_right]

theorem compositeMass_number (mode : Mode) (hm : mode ≠ .massFraction) (cs : List (Comp α)) :
    compositeMass mode cs = (cs.map fun c => c.p * c.m).sum := by
  cases mode <;> first | rfl | exact absurd rfl hm

theorem propNorm_number (mode : Mode) (hm : mode ≠ .massFraction) (cs : List (Comp α)) :
    propNorm mode cs = (cs.map (·.p)).sum := by
  cases mode <;> first | rfl | exact absurd rfl hm

end SciVerif.C12
