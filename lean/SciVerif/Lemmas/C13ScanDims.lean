import SciVerif.Lemmas.C13Hierarchy
import SciVerif.Lemmas.Util.Scan
/-!
Scanner lemmas: `splitOn` / `joinWith`, and dimensions as written (`DimD`) under `parseDim` and
`part_dimension`.
-/
namespace SciVerif.C13
open SciVerif.Util

theorem splitOn_noSep (sep : Char) (s : Str) (h : ∀ c ∈ s, c ≠ sep) : splitOn sep s = [s] := by
  rw [splitOn_eq]
  exact split_of_not_mem (fun hc => h _ hc rfl)

theorem splitOn_append_sep (sep : Char) (t a : Str) (h : ∀ c ∈ a, c ≠ sep) :
    splitOn sep (a ++ sep :: t) = a :: splitOn sep t := by
  rw [splitOn_eq, splitOn_eq]
  exact split_append (fun hc => h _ hc rfl) t

theorem splitOn_join (sep : Char) (ps : List Str) (hne : ps ≠ []) (h : ∀ p ∈ ps, ∀ c ∈ p, c ≠ sep) :
    splitOn sep (joinWith [sep] ps) = ps := by
  rw [splitOn_eq, joinWith_eq]
  exact split_join hne (fun p hp hc => h p hp _ hc rfl)

/-- one entry of `[…]` as written: `n`, or `lo:hi` with either side possibly empty -/
inductive DimD where
  | exact (a : Str)
  | range (a b : Str)
deriving Repr, DecidableEq

def DimD.render : DimD → Str
  | .exact a => a
  | .range a b => a ++ ':' :: b

def DimD.value : DimD → Dim
  | .exact a => (some (digitsToNat a), some (digitsToNat a))
  | .range a b => (if a.isEmpty then none else some (digitsToNat a),
                   if b.isEmpty then none else some (digitsToNat b))

/-- every bound written is a non-empty digit string -/
def DimD.Ok : DimD → Prop
  | .exact a => allDigits a = true
  | .range a b => (a = [] ∨ allDigits a = true) ∧ (b = [] ∨ allDigits b = true)

def isDimCh (c : Char) : Bool := c.isDigit || c == ':' || c == ','

theorem allDigits_chars {a : Str} (h : a = [] ∨ allDigits a = true) : ∀ c ∈ a, c.isDigit = true := by
  rcases h with rfl | h
  · intro c hc; cases hc
  · simp only [allDigits, Bool.and_eq_true, List.all_eq_true] at h
    exact h.2

theorem digit_ne {c : Char} (h : c.isDigit = true) : c ≠ ':' ∧ c ≠ ',' ∧ c ≠ ']' :=
  ⟨ne_of_class h (by decide), ne_of_class h (by decide), ne_of_class h (by decide)⟩

theorem allDigits_nonempty {a : Str} (h : allDigits a = true) : a ≠ [] := by
  intro e; rw [e] at h; exact absurd h (by decide)

theorem parseDim_render (d : DimD) (hd : d.Ok) : parseDim d.render = .ok d.value := by
  cases d with
  | exact a =>
    have hch := allDigits_chars (.inr hd)
    simp only [DimD.render, parseDim]
    rw [splitOn_noSep ':' a (fun c hc => (digit_ne (hch c hc)).1)]
    have hd' : allDigits a = true := hd
    simp [hd', DimD.value]
  | range a b =>
    obtain ⟨ha, hb⟩ := hd
    have hca := allDigits_chars ha
    have hcb := allDigits_chars hb
    simp only [DimD.render, parseDim]
    rw [splitOn_append_sep ':' b a (fun c hc => (digit_ne (hca c hc)).1),
      splitOn_noSep ':' b (fun c hc => (digit_ne (hcb c hc)).1)]
    have key : ∀ x : Str, x = [] ∨ allDigits x = true → (x.isEmpty || allDigits x) = true := by
      rintro x (rfl | h)
      · rfl
      · simp [h]
    simp [key a ha, key b hb, DimD.value]

theorem dimD_chars (d : DimD) (hd : d.Ok) : (∀ c ∈ d.render, isDimCh c = true ∧ c ≠ ',') ∧ d.render ≠ [] := by
  cases d with
  | exact a =>
    have hch := allDigits_chars (.inr hd)
    exact ⟨fun c hc => ⟨by simp [isDimCh, hch c hc], (digit_ne (hch c hc)).2.1⟩, allDigits_nonempty hd⟩
  | range a b =>
    obtain ⟨ha, hb⟩ := hd
    have hca := allDigits_chars ha
    have hcb := allDigits_chars hb
    refine ⟨?_, by simp [DimD.render]⟩
    intro c hc
    simp only [DimD.render, List.mem_append, List.mem_cons] at hc
    rcases hc with h | rfl | h
    · exact ⟨by simp [isDimCh, hca c h], (digit_ne (hca c h)).2.1⟩
    · exact ⟨by decide, by decide⟩
    · exact ⟨by simp [isDimCh, hcb c h], (digit_ne (hcb c h)).2.1⟩

def renderDimBody (ds : List DimD) : Str := joinWith [','] (ds.map DimD.render)

theorem joinWith_chars (p : Char → Prop) (sep : Char) (hs : p sep) (ps : List Str) (h : ∀ x ∈ ps, ∀ c ∈ x, p c) :
    ∀ c ∈ joinWith [sep] ps, p c := by
  rw [joinWith_eq]
  exact forall_mem_join (fun c hc => List.mem_singleton.mp hc ▸ hs) h

theorem mapM_parseDim (ds : List DimD) (h : ∀ d ∈ ds, d.Ok) :
    (ds.map DimD.render).mapM parseDim = .ok (ds.map DimD.value) := by
  induction ds with
  | nil => rfl
  | cons d t ih =>
    simp only [List.map_cons, List.mapM_cons, parseDim_render d (h d (by simp)),
      ih (fun x hx => h x (List.mem_cons_of_mem _ hx))]
    rfl

theorem partDimension_dims (ds : List DimD) (hne : ds ≠ []) (h : ∀ d ∈ ds, d.Ok) (after : Str) :
    partDimension ('[' :: (renderDimBody ds ++ ']' :: after)) = .ok (some (ds.map DimD.value), after) := by
  have hall : ∀ c ∈ renderDimBody ds, isDimCh c = true := by
    apply joinWith_chars (fun c => isDimCh c = true) ',' (by decide)
    intro x hx c hc
    obtain ⟨d, hd, rfl⟩ := List.mem_map.mp hx
    exact ((dimD_chars d (h d hd)).1 c hc).1
  have hbody : renderDimBody ds ≠ [] := by
    cases ds with
    | nil => exact absurd rfl hne
    | cons d t =>
      rw [renderDimBody, joinWith_eq]
      exact join_ne_nil ⟨d.render, by simp, (dimD_chars d (h d (by simp))).2⟩
  have htw := takeWhile_append_headNot (b := ']' :: after) hall (.cons (by decide) _)
  have hdw := dropWhile_append_headNot (b := ']' :: after) hall (.cons (by decide) _)
  have hsplit : splitOn ',' (renderDimBody ds) = ds.map DimD.render := by
    apply splitOn_join ',' _ (by simpa using hne)
    intro p hp c hc
    obtain ⟨d, hd, rfl⟩ := List.mem_map.mp hp
    exact ((dimD_chars d (h d hd)).1 c hc).2
  have he : (renderDimBody ds).isEmpty = false := List.isEmpty_eq_false_iff.mpr hbody
  unfold partDimension
  have hfun : (fun c : Char => c.isDigit || c == ':' || c == ',') = isDimCh := rfl
  simp only [hfun, htw, hdw, he, Bool.false_eq_true, if_false, hsplit, mapM_parseDim ds h, bind, Except.bind]

theorem partDimension_none (after : Str) (h : HeadNot (· == '[') after) : partDimension after = .ok (none, after) := by
  unfold partDimension
  split
  · exact absurd (h _ _ rfl) (by decide)
  · rfl

end SciVerif.C13
