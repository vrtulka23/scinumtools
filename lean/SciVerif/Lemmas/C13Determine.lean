import SciVerif.Lemmas.C13ScanValue
import SciVerif.Lemmas.C13ScanDims
import SciVerif.Lemmas.C13ScanType
/-!
Literal round trip, assembly: a line as written (`LineD`: group, modification, definition, declaration, with
`ValD` for the value part) and `determine (render d) = node d`.
-/
namespace SciVerif.C13
open SciVerif.Util

/-- a node name as written: non-empty, characters `[a-zA-Z0-9_.-]` only (dots make it a path) -/
def NameOk (nm : Str) : Prop := (∃ c r, nm = c :: r) ∧ ∀ c ∈ nm, isNameCh c = true

/-- the value part of a line as written: literal, optional unit, optional comment (each with its blanks) -/
structure ValD where
  lit : Lit
  unit : Option (Nat × Str) := none
  cm : Option (Nat × Str) := none

def ValD.render (v : ValD) : Str := v.lit.render ++ renderTail v.unit v.cm

def ValD.Ok (v : ValD) : Prop :=
  v.lit.Ok ∧ (∀ n x, v.unit = some (n, x) → UnitOk x)

theorem valueUnitsTail_render (nm : Str) (kind : Kind) (info : TyInfo) (dims : Option (List Dim)) (v : ValD)
    (hv : v.Ok) :
    valueUnitsTail nm kind info dims v.render =
      .ok { kind, name := some nm, info, dims, raw := some (.text (decode v.lit.text)), units := v.unit.map Prod.snd } := by
  obtain ⟨hl, hu⟩ := hv
  have hpv := partValue_lit v.lit hl (renderTail v.unit v.cm) (tailOk_tail v.unit v.cm hu) (tail_head v.unit v.cm)
  unfold valueUnitsTail
  simp only [ValD.render, hpv, bind, Except.bind, partUnits_tail v.unit v.cm hu, endOrComment_comment, if_true]

theorem modTail_of_valueUnitsTail (nm v : Str) (nd : Node)
    (h : valueUnitsTail nm .mod {} none v = .ok nd) : modTail nm v = .ok nd := by
  obtain ⟨r, hp, h⟩ := bind_eq_ok h
  unfold modTail
  simp only [bind, Except.bind, hp]
  by_cases he : endOrComment (partUnits r.2).2 = true
  · simp only [he, if_true] at h ⊢
    exact h
  · simp only [he, Bool.false_eq_true, if_false] at h
    cases h

theorem valD_head (v : ValD) (hv : v.Ok) : ∃ c r, v.render = c :: r ∧ isWs c = false := by
  obtain ⟨c, r, h, hc⟩ := lit_head v.lit hv.1
  exact ⟨c, r ++ renderTail v.unit v.cm, by simp [ValD.render, h], hc⟩

theorem isNameCh_notWs {c : Char} (h : isNameCh c = true) : isWs c = false := not_isWs_of_class h (by decide)

theorem determineBody_name (nm rest : Str) (hn : NameOk nm) (hr : HeadIn [' '] rest) :
    determineBody (nm ++ rest) = afterName nm rest := by
  obtain ⟨⟨c, t, rfl⟩, hall⟩ := hn
  have hc : isNameCh c = true := hall c (by simp)
  have htw := takeWhile_append_headNot hall (hr.headNot (by decide))
  have hdw := dropWhile_append_headNot hall (hr.headNot (by decide))
  unfold determineBody
  simp only [List.cons_append] at htw hdw ⊢
  split
  · rename_i heq; exact absurd (List.cons.inj heq).1 (ne_of_class hc (by decide))
  · rename_i heq; exact absurd (List.cons.inj heq).1 (ne_of_class hc (by decide))
  · rename_i heq; exact absurd (List.cons.inj heq).1 (ne_of_class hc (by decide))
  · simp only [htw, hdw]
    cases rest with
    | nil => simp
    | cons x r =>
      obtain rfl : x = ' ' := List.mem_singleton.mp (hr x r rfl)
      simp [isBlank]

def renderDims : Option (List DimD) → Str
  | some ds => '[' :: (renderDimBody ds ++ [']'])
  | none => []

def dimsValue : Option (List DimD) → Option (List Dim)
  | some ds => some (ds.map DimD.value)
  | none => none

def DimsOk : Option (List DimD) → Prop
  | some ds => ds ≠ [] ∧ ∀ d ∈ ds, d.Ok
  | none => True

/-- the comment behind a group name needs at least one blank in front of `#` -/
def renderGroupTail : Option (Nat × Str) → Str
  | some (n, c) => List.replicate (n + 1) ' ' ++ '#' :: c
  | none => []

theorem spaces_succ (a : Nat) (x : Str) : List.replicate (a + 1) ' ' ++ x = ' ' :: (List.replicate a ' ' ++ x) := by
  simp [List.replicate_succ]

/-- a line after its indentation -/
inductive LineD where
  /-- `name` and an optional comment (separated by at least one blank) -/
  | group (nm : Str) (cm : Option (Nat × Str))
  /-- `name = value [unit] [# comment]` -/
  | modify (nm : Str) (a b : Nat) (v : ValD)
  /-- `name type[dims] = value [unit] [# comment]` -/
  | define (nm : Str) (a : Nat) (ty : TyD) (dims : Option (List DimD)) (b c : Nat) (v : ValD)
  /-- `name type[dims] [unit] [# comment]` -/
  | declare (nm : Str) (a : Nat) (ty : TyD) (dims : Option (List DimD)) (unit : Option (Nat × Str)) (cm : Option (Nat × Str))

def LineD.render : LineD → Str
  | .group nm cm => nm ++ renderGroupTail cm
  | .modify nm a b v => nm ++ (List.replicate (a + 1) ' ' ++ '=' :: (List.replicate b ' ' ++ v.render))
  | .define nm a ty dims b c v =>
      nm ++ (List.replicate (a + 1) ' ' ++ (ty.render ++ (renderDims dims ++
        (List.replicate b ' ' ++ '=' :: (List.replicate c ' ' ++ v.render)))))
  | .declare nm a ty dims unit cm =>
      nm ++ (List.replicate (a + 1) ' ' ++ (ty.render ++ (renderDims dims ++ renderTail unit cm)))

def LineD.node : LineD → Node
  | .group nm _ => { kind := .group, name := some nm }
  | .modify nm _ _ v => { kind := .mod, name := some nm, raw := some (.text (decode v.lit.text)), units := v.unit.map Prod.snd }
  | .define nm _ ty dims _ _ v =>
      { kind := .typed ty.ty, name := some nm, info := ty.info, dims := dimsValue dims,
        raw := some (.text (decode v.lit.text)), units := v.unit.map Prod.snd }
  | .declare nm _ ty dims unit _ =>
      { kind := .typed ty.ty, name := some nm, info := ty.info, dims := dimsValue dims,
        units := unit.map Prod.snd, declared := true }

def LineD.Ok : LineD → Prop
  | .group nm _ => NameOk nm
  | .modify nm _ _ v => NameOk nm ∧ v.Ok
  | .define nm _ _ dims _ _ v => NameOk nm ∧ DimsOk dims ∧ v.Ok
  | .declare nm _ _ dims unit _ => NameOk nm ∧ DimsOk dims ∧ ∀ n x, unit = some (n, x) → UnitOk x

theorem afterName_group (nm : Str) (cm : Option (Nat × Str)) :
    afterName nm (renderGroupTail cm) =
      .ok { kind := .group, name := some nm } := by
  have : endOrComment (renderGroupTail cm) = true := by
    cases cm with
    | none => rfl
    | some p => exact endOrComment_spaces_cons (p.1 + 1) '#' p.2 (by decide)
  simp [afterName, this]

theorem afterName_modify (nm : Str) (a b : Nat) (v : ValD) (hv : v.Ok) :
    afterName nm (List.replicate (a + 1) ' ' ++ '=' :: (List.replicate b ' ' ++ v.render)) =
      .ok { kind := .mod, name := some nm, raw := some (.text (decode v.lit.text)), units := v.unit.map Prod.snd } := by
  have h1 : endOrComment (List.replicate (a + 1) ' ' ++ '=' :: (List.replicate b ' ' ++ v.render)) = false :=
    endOrComment_spaces_cons (a + 1) '=' _ (by decide)
  have h2 : dropWs (List.replicate (a + 1) ' ' ++ '=' :: (List.replicate b ' ' ++ v.render)) =
      '=' :: (List.replicate b ' ' ++ v.render) := dropWs_spaces_cons (a + 1) '=' _ (by decide)
  have h3 := partEqual_eq (a + 1) b v.render (valD_head v hv)
  unfold afterName
  simp only [h1, Bool.false_eq_true, if_false, h2, h3]
  exact modTail_of_valueUnitsTail nm v.render _ (valueUnitsTail_render nm .mod {} none v hv)

theorem renderDims_after (dims : Option (List DimD)) (hd : DimsOk dims) (after : Str)
    (ha : HeadIn [' ', '=', '#'] after) :
    AfterKw (renderDims dims ++ after) ∧
    partDimension (renderDims dims ++ after) = .ok (dimsValue dims, after) := by
  cases dims with
  | none => exact ⟨ha.mono (by decide), partDimension_none after (ha.headNot (by decide))⟩
  | some ds =>
    simp only [renderDims, dimsValue, List.cons_append, List.append_assoc]
    exact ⟨.cons (List.mem_cons_self ..) _, partDimension_dims ds hd.1 hd.2 after⟩

/-- the four tests `afterName` makes behind the name of a typed line, in its order: not the end of the line, no `{`
    (an expression), no `=` (a modification), then the type keyword -/
theorem afterName_typed_common (a : Nat) (ty : TyD) (after : Str) (h : AfterKw after) :
    endOrComment (List.replicate (a + 1) ' ' ++ (ty.render ++ after)) = false ∧
    (∀ c r, dropWs (List.replicate (a + 1) ' ' ++ (ty.render ++ after)) = c :: r → c ≠ '{') ∧
    partEqual (List.replicate (a + 1) ' ' ++ (ty.render ++ after)) = none ∧
    partType (List.replicate (a + 1) ' ' ++ (ty.render ++ after)) = .ok (.typed ty.ty, ty.info, after) := by
  obtain ⟨c, r, hr, hc, h1, h2, h3⟩ := tyD_head ty
  have hd : dropWs (List.replicate (a + 1) ' ' ++ (ty.render ++ after)) = c :: (r ++ after) := by
    rw [hr]; exact dropWs_spaces_cons (a + 1) c (r ++ after) hc
  refine ⟨?_, ?_, ?_, partType_kw a ty after h⟩
  · simp only [endOrComment, hd]
    simpa using h1
  · intro c' r' e
    rw [hd] at e
    rw [← (List.cons.inj e).1]; exact h3
  · rw [hr]
    exact partEqual_none (a + 1) c (r ++ after) hc h2

theorem afterName_define (nm : Str) (a : Nat) (ty : TyD) (dims : Option (List DimD)) (b c : Nat) (v : ValD)
    (hd : DimsOk dims) (hv : v.Ok) :
    afterName nm (List.replicate (a + 1) ' ' ++ (ty.render ++ (renderDims dims ++
        (List.replicate b ' ' ++ '=' :: (List.replicate c ' ' ++ v.render))))) =
      .ok { kind := .typed ty.ty, name := some nm, info := ty.info, dims := dimsValue dims,
            raw := some (.text (decode v.lit.text)), units := v.unit.map Prod.snd } := by
  obtain ⟨hk, hpd⟩ := renderDims_after dims hd _
    ((HeadIn.cons (cs := ['=', '#']) (List.mem_cons_self ..) (List.replicate c ' ' ++ v.render)).replicate_append ' ' b)
  obtain ⟨e1, e2, e3, e4⟩ := afterName_typed_common a ty _ hk
  have e5 := partEqual_eq b c v.render (valD_head v hv)
  unfold afterName
  simp only [e1, Bool.false_eq_true, if_false, e3, e4, hpd, e5, bind, Except.bind]
  split
  · rename_i heq
    exact absurd rfl (e2 _ _ heq)
  · exact valueUnitsTail_render nm (.typed ty.ty) ty.info (dimsValue dims) v hv

theorem partEqual_tail (unit : Option (Nat × Str)) (cm : Option (Nat × Str))
    (hu : ∀ n x, unit = some (n, x) → UnitOk x) : partEqual (renderTail unit cm) = none := by
  cases unit with
  | none =>
    cases cm with
    | none => rfl
    | some p =>
      obtain ⟨n, c⟩ := p
      simpa [renderTail, renderComment] using partEqual_none n '#' c (by decide) (by decide)
  | some p =>
    obtain ⟨n, x⟩ := p
    obtain ⟨⟨c, r, rfl, _⟩, hall⟩ := hu n x rfl
    have hcu : isUnitCh c = true := hall c (by simp)
    simp only [isUnitCh, Bool.and_eq_true, Bool.not_eq_eq_eq_not, Bool.not_true, bne_iff_ne] at hcu
    have := partEqual_none (n + 1) c (r ++ renderComment cm) hcu.1.1 hcu.2
    simpa [renderTail] using this

theorem afterName_declare (nm : Str) (a : Nat) (ty : TyD) (dims : Option (List DimD))
    (unit : Option (Nat × Str)) (cm : Option (Nat × Str))
    (hd : DimsOk dims) (hu : ∀ n x, unit = some (n, x) → UnitOk x) :
    afterName nm (List.replicate (a + 1) ' ' ++ (ty.render ++ (renderDims dims ++ renderTail unit cm))) =
      .ok { kind := .typed ty.ty, name := some nm, info := ty.info, dims := dimsValue dims,
            units := unit.map Prod.snd, declared := true } := by
  obtain ⟨hk, hpd⟩ := renderDims_after dims hd _ ((tail_head unit cm).mono (by decide))
  obtain ⟨e1, e2, e3, e4⟩ := afterName_typed_common a ty _ hk
  have e5 := partEqual_tail unit cm hu
  unfold afterName
  simp only [e1, Bool.false_eq_true, if_false, e3, e4, hpd, e5, bind, Except.bind]
  split
  · rename_i heq
    exact absurd rfl (e2 _ _ heq)
  · simp only [partUnits_tail unit cm hu, endOrComment_comment, if_true]

theorem determineBody_render (d : LineD) (hd : d.Ok) : determineBody d.render = .ok d.node := by
  cases d with
  | group nm cm =>
    have hr : HeadIn [' '] (renderGroupTail cm) := by
      cases cm with
      | none => exact .nil
      | some p => rw [renderGroupTail, spaces_succ]; exact .cons (List.mem_cons_self ..) _
    simp only [LineD.render, LineD.node]
    rw [determineBody_name nm _ hd hr]
    exact afterName_group nm cm
  | modify nm a b v =>
    simp only [LineD.render, LineD.node]
    rw [spaces_succ, determineBody_name nm _ hd.1 (.cons (List.mem_cons_self ..) _), ← spaces_succ]
    exact afterName_modify nm a b v hd.2
  | define nm a ty dims b c v =>
    simp only [LineD.render, LineD.node]
    rw [spaces_succ, determineBody_name nm _ hd.1 (.cons (List.mem_cons_self ..) _), ← spaces_succ]
    exact afterName_define nm a ty dims b c v hd.2.1 hd.2.2
  | declare nm a ty dims unit cm =>
    simp only [LineD.render, LineD.node]
    rw [spaces_succ, determineBody_name nm _ hd.1 (.cons (List.mem_cons_self ..) _), ← spaces_succ]
    exact afterName_declare nm a ty dims unit cm hd.2.1 hd.2.2

theorem lineD_head (d : LineD) (hd : d.Ok) : ∃ c r, d.render = c :: r ∧ isWs c = false ∧ c ≠ '#' := by
  have key : ∀ nm rest, NameOk nm → ∃ c r, nm ++ rest = c :: r ∧ isWs c = false ∧ c ≠ '#' := by
    rintro _ rest ⟨⟨c, t, rfl⟩, hall⟩
    have hc : isNameCh c = true := hall c (by simp)
    exact ⟨c, t ++ rest, rfl, isNameCh_notWs hc, ne_of_class hc (by decide)⟩
  cases d with
  | group nm cm => exact key nm _ hd
  | modify nm a b v => exact key nm _ hd.1
  | define nm a ty dims b c v => exact key nm _ hd.1
  | declare nm a ty dims unit cm => exact key nm _ hd.1

/-- The general round trip: a line whose text AFTER the escape marks went in is the rendering of a well-formed
    description is lexed to the described node; `determine_render` is the case without anything to mark. -/
theorem determine_render_enc (k : Nat) (line : Str) (d : LineD) (hd : d.Ok) (henc : encode line = d.render) :
    determine (List.replicate k ' ' ++ line) = .ok { d.node with indent := k } := by
  obtain ⟨c, r, hr, hc, hh⟩ := lineD_head d hd
  rw [determine_indent k line c r (by rw [henc, hr]) hc hh, ← hr, determineBody_render d hd]
  rfl

theorem determine_render (k : Nat) (d : LineD) (hd : d.Ok) (hesc : NoEsc d.render) :
    determine (List.replicate k ' ' ++ d.render) = .ok { d.node with indent := k } :=
  determine_render_enc k d.render d hd (encode_noEsc _ hesc)

end SciVerif.C13
