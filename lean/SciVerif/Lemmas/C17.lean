import SciVerif.Model.C17
import SciVerif.Lemmas.Util.MapM

/-! Property C17, what the single functions of the model do: query and request, the name surgery of import
    lines, slices (`noText`: where the code and Python slicing agree), the heap view of copies (`deepCopy_frame`),
    what a parse step keeps (`Frame`), the loop without
    `@case` lines; and what the specification accepts as a definition. -/
namespace SciVerif.C17

theorem exists_ok_of_isSome {ε α : Type} {x : Except ε α} (h : x.toOption.isSome = true) : ∃ a, x = .ok a := by
  cases x with
  | error e => cases h
  | ok a => exact ⟨a, rfl⟩

theorem mem_query (ns : List Node) (q : Query) (n' : Node) :
    n' ∈ query ns q ↔ ∃ n ∈ ns, qMatches q n = true ∧ n' = qRename q n := by
  unfold query
  simp only [List.mem_map, List.mem_filter]
  constructor
  · rintro ⟨n, ⟨hn, hm⟩, rfl⟩
    exact ⟨n, hn, hm, rfl⟩
  · rintro ⟨n, hn, hm, rfl⟩
    exact ⟨n, ⟨hn, hm⟩, rfl⟩

theorem query_cons (n : Node) (ns : List Node) (q : Query) :
    query (n :: ns) q = (if qMatches q n then [qRename q n] else []) ++ query ns q := by
  by_cases h : qMatches q n = true <;> simp [query, h]

theorem qRename_eq (q : Query) (n : Node) : ∃ nm, qRename q n = { n with name := nm } := by
  cases q <;> exact ⟨_, rfl⟩

theorem query_all (ns : List Node) : query ns .all = ns := by
  simp [query, show qMatches .all = fun _ => true from rfl, show qRename .all = id from rfl]

theorem countCheck_one {ns ns' : List Node} (h : countCheck .one ns = .ok ns') :
    ns' = ns ∧ ns.length = 1 := by
  unfold countCheck at h
  by_cases hl : ns.length = 1
  · simp [hl] at h; exact ⟨h.symm, hl⟩
  · simp [hl] at h

theorem request_inv {env : Env} {path : Str} {cnt : Count} {ns : List Node}
    (h : request env path cnt = .ok ns) :
    ∃ source q ns0, splitQ path = some (source, q) ∧ requestNodes env source q = .ok ns0 ∧
      countCheck cnt ns0 = .ok ns := by
  revert h
  fun_cases request env path cnt <;> intro h
  · cases h
  · cases h
  · rename_i source q hs ns0 hr
    exact ⟨source, q, ns0, hs, hr, h⟩

theorem request_one_length {env : Env} {path : Str} {ns : List Node}
    (h : request env path .one = .ok ns) : ns.length = 1 := by
  obtain ⟨_, _, ns0, _, _, hc⟩ := request_inv h
  obtain ⟨e, hl⟩ := countCheck_one hc
  rw [e]; exact hl

theorem request_count {env : Env} {r : Str} {ns : List Node} (hsel : request env r .any = .ok ns)
    (hc : ns.length ≠ 1) : ∃ e, request env r .one = .error e := by
  obtain ⟨source, q, ns0, hs, hn, hcc⟩ := request_inv hsel
  simp only [countCheck, Except.ok.injEq] at hcc
  subst hcc
  exact ⟨"request: count", by simp [request, hs, hn, countCheck, hc]⟩

theorem rawValue_some {n : Node} {v : Val} (h : n.value = some v) : rawValue n = some v := by
  rw [rawValue, h]

theorem injectValue_single {env : Env} {n src : Node} {r : Str} (hr : n.ref = some r)
    (hreq : request env r .one = .ok [src]) :
    injectValue env n = .ok { n with raw := rawValue src, unitsRaw := pickUnit n.unitsRaw src.unitsRaw } := by
  simp only [injectValue, hr, hreq]

theorem requestNodes_ok {env : Env} {source q : Str} {ns : List Node}
    (h : requestNodes env source q = .ok ns) :
    (source = [] ∧ env.nodes ≠ [] ∧ ns = query env.nodes (parseQuery q)) ∨
    (source ≠ [] ∧ ∃ s, env.sources.find? (fun s => s.1 = source) = some s ∧
        ns = query s.2 (parseQuery q)) := by
  revert h
  fun_cases requestNodes env source q <;> intro h
  · cases h
  · rename_i hs hn
    cases h
    exact Or.inl ⟨List.isEmpty_iff.mp hs, fun e => hn (by simp [e]), rfl⟩
  · cases h
  · rename_i hs s hf
    cases h
    exact Or.inr ⟨fun e => hs (by simp [e]), s, hf, rfl⟩

theorem parseQuery_children (p : Str) : parseQuery (p ++ ['.', '*']) = .children (p ++ ['.']) := by
  have h1 : p ++ ['.', '*'] ≠ ['*'] := fun h => by simpa using congrArg List.length h
  have h2 : (p ++ ['.', '*']).drop ((p ++ ['.', '*']).length - 2) = dotStar := by simp [dotStar]
  have h3 : (p ++ ['.', '*']).take ((p ++ ['.', '*']).length - 1) = p ++ ['.'] := by
    rw [show p ++ ['.', '*'] = (p ++ ['.']) ++ ['*'] by simp, List.take_left' (by simp)]
  simp only [parseQuery, if_neg h1, if_pos h2, h3]

theorem lastComp_nodot (c : Str) (hc : '.' ∉ c) : lastComp c = c := by
  induction c with
  | nil => rfl
  | cons x t ih =>
    have hx : x ≠ '.' := fun e => hc (by simp [e])
    have ht : '.' ∉ t := fun e => hc (by simp [e])
    simp [lastComp, ht, hx]

theorem lastComp_append (p c : Str) (hc : '.' ∉ c) : lastComp (p ++ '.' :: c) = c := by
  induction p with
  | nil =>
    simp [lastComp, hc]
  | cons x t ih =>
    have : (t ++ '.' :: c).contains '.' = true := by simp
    simp only [List.cons_append, lastComp, this, if_true]
    exact ih

theorem splitDotBrace_cons_nobrace (c : Char) (t : Str) (ht : '{' ∉ t) :
    splitDotBrace (c :: t) = [c :: t] := by
  induction t generalizing c with
  | nil => simp [splitDotBrace]
  | cons a r ih =>
    have hcond : ¬ (c = '.' ∧ (a :: r).head? = some '{') :=
      fun h => ht (List.mem_cons.mpr (.inl (Option.some.inj h.2).symm))
    rw [splitDotBrace, if_neg hcond, ih a (fun e => ht (by simp [e]))]

theorem splitDotBrace_nobrace (s : Str) (hs : '{' ∉ s) : splitDotBrace s = [s] := by
  cases s with
  | nil => simp [splitDotBrace]
  | cons c t => exact splitDotBrace_cons_nobrace c t (fun e => hs (by simp [e]))

theorem splitDotBrace_prefix (p rest : Str) (hp : '{' ∉ p) :
    splitDotBrace (p ++ '.' :: '{' :: rest) = p :: splitDotBrace rest := by
  induction p with
  | nil =>
    rw [List.nil_append, splitDotBrace]
    simp
  | cons c t ih =>
    have ht : '{' ∉ t := fun e => hp (by simp [e])
    have hh : (t ++ '.' :: '{' :: rest).head? ≠ some '{' := by
      cases t with
      | nil => simp
      | cons a r =>
        simp only [List.cons_append, List.head?_cons, ne_eq, Option.some.injEq]
        intro e; exact ht (by simp [e])
    have hcond : ¬ (c = '.' ∧ (t ++ '.' :: '{' :: rest).head? = some '{') := fun h => hh h.2
    rw [List.cons_append, splitDotBrace, if_neg hcond, ih ht]

theorem joinDot_singleton (a : Str) : joinDot [a] = a := rfl

theorem importName_prefixed (p r nodeName : Str) (hp : '{' ∉ p) (hr : '{' ∉ r) :
    importName (p ++ '.' :: '{' :: (r ++ ['}'])) nodeName = p ++ '.' :: nodeName := by
  have hr' : '{' ∉ r ++ ['}'] := by simp [hr]
  simp [importName, splitDotBrace_prefix p _ hp, splitDotBrace_nobrace _ hr', joinDot]

theorem importName_bare (r nodeName : Str) (hr : '{' ∉ r) :
    importName ('{' :: (r ++ ['}'])) nodeName = nodeName := by
  have hr' : '{' ∉ r ++ ['}'] := by simp [hr]
  simp [importName, splitDotBrace_cons_nobrace '{' _ hr', joinDot_singleton]

mutual
def noText : Val → Bool
  | .str _ => false
  | .arr l => noTextL l
  | _ => true
def noTextL : List Val → Bool
  | [] => true
  | x :: t => noText x && noTextL t
end

theorem noTextL_mem {l : List Val} (h : noTextL l = true) : ∀ x ∈ l, noText x = true := by
  induction l with
  | nil => intro x hx; cases hx
  | cons a t ih =>
    simp only [noTextL, Bool.and_eq_true] at h
    intro x hx
    cases hx with
    | head => exact h.1
    | tail _ hx => exact ih h.2 x hx

theorem mem_pySlice {α : Type} {l : List α} {a b : Option Nat} {x : α} (h : x ∈ pySlice l a b) : x ∈ l := by
  unfold pySlice at h
  exact List.mem_of_mem_take (List.mem_of_mem_drop h)

/-- `slice_value` and numpy/Python slicing differ only on text below a further slice entry: there
    the code goes on character by character and Python refuses. -/
theorem sliceValue_eq_spec (ss : List Sl) (v : Val)
    (h : noText v = true ∨ (specSlice ss v).isSome = true) : sliceValue ss v = specSlice ss v := by
  have hl : ∀ {l : List Val}, noText (.arr l) = true → ∀ x ∈ l, noText x = true :=
    fun ht => noTextL_mem (by simpa [noText] using ht)
  fun_induction sliceValue ss v with
  | case1 => simp [specSlice]
  | case2 n rest l hx => simp [specSlice, hx]
  | case3 n rest l x hx ih =>
    simp only [specSlice, hx] at h ⊢
    exact ih (h.imp_left fun ht => hl ht x (List.mem_of_getElem? hx))
  | case4 => simp [specSlice]
  | case5 a b l s2 rest2 ih =>
    simp only [specSlice] at h ⊢
    congr 1
    apply Util.mapM_congr
    intro x hx
    refine ih x (h.imp (fun ht => hl ht x (mem_pySlice hx)) fun hs => ?_)
    cases hm : (pySlice l a b).mapM (fun x => specSlice (s2 :: rest2) x) with
    | none => simp [hm] at hs
    | some rs => exact (Util.mapM_eq_some.1 hm).1 x hx
  | case6 n rest s hx => cases rest <;> simp [specSlice, hx]
  -- cases 7 and 9 are the text below a further slice entry
  | case7 n rest s c hx ih =>
    cases rest with
    | nil => simp [sliceValue, specSlice, hx]
    | cons s2 r2 => simp [noText, specSlice] at h
  | case8 => simp [specSlice]
  | case9 a b s s2 rest2 ih => simp [noText, specSlice] at h
  | case10 s rest v h1 h2 h3 h4 =>
    cases v with
    | num q => cases s <;> rfl
    | bool b => cases s <;> rfl
    | str t => cases s; exact (h3 _ _ rfl rfl).elim; exact (h4 _ _ _ rfl rfl).elim
    | arr l => cases s; exact (h1 _ _ rfl rfl).elim; exact (h2 _ _ _ rfl rfl).elim

theorem writeAt_eq_modify {α : Type} (h : Heap α) (a : Nat) (f : α → α) : writeAt h a f = h.modify a f := by
  induction h generalizing a with
  | nil => simp [writeAt]
  | cons x t ih => cases a <;> simp [writeAt, ih]

/-- the invariant of a copy under its operations: its addresses lie at or above `n0`, inside the heap -/
theorem hStep_frame {α : Type} (s : Heap α × List Nat) (op : HOp α) (n0 : Nat)
    (hinv : n0 ≤ s.1.length ∧ ∀ a ∈ s.2, n0 ≤ a) :
    (n0 ≤ (hStep s op).1.length ∧ ∀ a ∈ (hStep s op).2, n0 ≤ a) ∧
    ∀ a, a < n0 → (hStep s op).1[a]? = s.1[a]? := by
  fun_cases hStep s op
  · rename_i i f addr hi
    -- the address written to is one of the copy's own: not below `n0`
    have haddr : n0 ≤ addr := hinv.2 addr (List.mem_of_getElem? hi)
    have hne : ∀ a, a < n0 → addr ≠ a := fun a ha => by omega
    exact ⟨⟨by simp [writeAt_eq_modify]; exact hinv.1, hinv.2⟩, fun a ha => by simp [writeAt_eq_modify, hne a ha]⟩
  · exact ⟨hinv, fun a _ => rfl⟩
  · refine ⟨⟨by simp; omega, fun a ha => ?_⟩, fun a ha => List.getElem?_append_left (by omega)⟩
    rcases List.mem_append.mp ha with h | h
    · exact hinv.2 a h
    · rw [List.mem_singleton.mp h]; exact hinv.1

theorem deepCopy_frame {α : Type} (h : Heap α) (base : List Nat) (ops : List (HOp α)) :
    ∀ a, a < h.length → (ops.foldl hStep (deepCopy h base)).1[a]? = h[a]? := by
  -- kept by every operation: the copy's addresses lie above `h`, and what lies below is not touched
  have key := Util.foldl_invariant (step := hStep (α := α))
    (fun s s' => (h.length ≤ s.1.length ∧ ∀ a ∈ s.2, h.length ≤ a) →
      (h.length ≤ s'.1.length ∧ ∀ a ∈ s'.2, h.length ≤ a) ∧ ∀ a, a < h.length → s'.1[a]? = s.1[a]?)
    (fun _ hi => ⟨hi, fun _ _ => rfl⟩)
    (fun h1 h2 hi => ⟨(h2 (h1 hi).1).1, fun a ha => ((h2 (h1 hi).1).2 a ha).trans ((h1 hi).2 a ha)⟩)
    (fun s op hi => hStep_frame s op h.length hi) ops (deepCopy h base)
    ⟨by simp [deepCopy], fun a ha => (List.mem_range'_1.mp ha).1⟩
  intro a ha
  rw [key.2 a ha]
  exact List.getElem?_append_left ha

theorem filterMap_all_some {α β : Type} (f : α → Option β) (l : List α)
    (h : ∀ a ∈ l, (f a).isSome = true) :
    (l.filterMap f).length = l.length ∧ ∀ i : Nat, (l.filterMap f)[i]? = (l[i]?).bind f := by
  induction l with
  | nil => simp
  | cons a t ih =>
    obtain ⟨b, hb⟩ := Option.isSome_iff_exists.mp (h a (by simp))
    obtain ⟨hl, hg⟩ := ih (fun x hx => h x (by simp [hx]))
    simp only [List.filterMap_cons, hb]
    refine ⟨by simp [hl], fun i => ?_⟩
    cases i with
    | zero => simp [hb]
    | succ i => simpa using hg i

theorem deepCopy_get {α : Type} (h : Heap α) (addrs : List Nat) (hv : ∀ a ∈ addrs, a < h.length)
    (i : Nat) (hi : i < addrs.length) :
    (deepCopy h addrs).2[i]? = some (h.length + i) ∧
    (deepCopy h addrs).1[h.length + i]? = h[addrs[i]]? := by
  have hs : ∀ a ∈ addrs, (h[a]?).isSome = true := fun a ha => by
    simp [List.getElem?_eq_getElem (hv a ha)]
  obtain ⟨hl, hg⟩ := filterMap_all_some (fun a => h[a]?) addrs hs
  simp only [deepCopy]
  refine ⟨?_, ?_⟩
  · rw [List.getElem?_range' ] <;> simp [hl, hi]
  · rw [List.getElem?_append_right (by omega)]
    simp only [Nat.add_sub_cancel_left]
    rw [hg i, List.getElem?_eq_getElem hi]
    simp [List.getElem?_eq_getElem (hv addrs[i] (List.getElem_mem hi))]

/-- what `step` keeps of an environment: sources, and custom units up to appending -/
def Frame (env env' : Env) : Prop := env'.sources = env.sources ∧ ∃ us, env'.units = env.units ++ us

theorem Frame.same {env env' : Env} (h1 : env'.sources = env.sources) (h2 : env'.units = env.units) :
    Frame env env' := ⟨h1, [], by simp [h2]⟩

theorem Frame.trans {a b c : Env} (h1 : Frame a b) (h2 : Frame b c) : Frame a c := by
  obtain ⟨s1, u1, e1⟩ := h1
  obtain ⟨s2, u2, e2⟩ := h2
  exact ⟨s2.trans s1, u1 ++ u2, by rw [e2, e1, List.append_assoc]⟩

theorem processNode_frame (tbl : UnitTable) (env env' : Env) (n : Node)
    (h : processNode tbl env n = .ok env') : Frame env env' := by
  -- every branch is an error or returns `env` with new `parents` and, at most, new `nodes`
  revert h
  fun_cases processNode tbl env n <;> intro h
  · cases h
  · exact Except.ok.inj h ▸ Frame.same rfl rfl
  · cases h
  · cases h
  · exact Except.ok.inj h ▸ Frame.same rfl rfl
  · cases h
  · exact Except.ok.inj h ▸ Frame.same rfl rfl

theorem addUnit_ok {tbl : UnitTable} {env env' : Env} {name : Str} {v : Val} {unit : Option Str}
    (h : addUnit tbl env name v unit = .ok env') :
    (∃ q, v = .num q) ∧ unitKnown tbl unit = true ∧
      env' = { env with units := env.units ++ [(name, v, unit)] } := by
  revert h
  fun_cases addUnit tbl env name v unit <;> intro h
  · cases h
  · cases h
  · rename_i hk _
    cases h
    exact ⟨⟨_, rfl⟩, by simpa using hk, rfl⟩
  · cases h

theorem injectHost_ok {env : Env} {ref : Str} {unit u : Option Str} {v : Val}
    (h : injectHost env ref unit = .ok (v, u)) :
    ∃ src, request env ref .one = .ok [src] ∧ rawValue src = some v ∧ u = pickUnit unit src.unitsRaw := by
  revert h
  fun_cases injectHost env ref unit <;> intro h
  · cases h
  · cases h
  · cases h
  · rename_i src rest hr w hv
    cases h
    obtain rfl : rest = [] := by simpa using request_one_length hr
    exact ⟨src, hr, hv, rfl⟩

theorem extendUnits_append (units us units' : List (Str × Val × Option Str))
    (h : extendUnits units us = .ok units') : ∃ us', units' = units ++ us' := by
  revert h
  fun_induction extendUnits units us <;> intro h
  · cases h; exact ⟨[], by simp⟩
  · cases h
  · rename_i u rest _ ih
    obtain ⟨us', e⟩ := ih h
    exact ⟨u :: us', by simp [e]⟩

theorem extendUnits_clash (units us : List (Str × Val × Option Str)) (u : Str × Val × Option Str)
    (hu : u ∈ us) (hc : units.any (fun x => decide (x.1 = u.1)) = true) :
    ∃ e, extendUnits units us = .error e := by
  fun_induction extendUnits units us
  · cases hu
  · exact ⟨_, rfl⟩
  · rename_i units x rest hx ih
    rcases List.mem_cons.mp hu with rfl | hu
    · exact absurd hc hx
    · exact ih hu (by simp [List.any_append, hc])

theorem importUnits_frame (env env' : Env) (source : Str) (name : Option Str)
    (h : importUnits env source name = .ok env') : Frame env env' := by
  revert h
  fun_cases importUnits env source name <;> intro h
  · cases h
  · cases h
  · cases h
  · rename_i units' he
    cases h
    exact ⟨rfl, extendUnits_append _ _ units' he⟩

theorem step_frame (tbl : UnitTable) (env env' : Env) (it : Item)
    (h : step tbl env it = .ok env') : Frame env env' := by
  -- the branches of `step` in its order: unit import; property line; `$unit` literal; `$unit` by reference;
  -- option by reference; case line; import line; any other node line
  revert h
  fun_cases step tbl env it <;> intro h
  · exact importUnits_frame env env' _ _ h
  · cases h; exact Frame.same rfl rfl
  · cases h
  · obtain ⟨_, _, rfl⟩ := addUnit_ok h
    exact ⟨rfl, _, rfl⟩
  · cases h
  · obtain ⟨_, _, rfl⟩ := addUnit_ok h
    exact ⟨rfl, _, rfl⟩
  · cases h
  · cases h; exact Frame.same rfl rfl
  · cases h
  · cases h
  · cases h
  · exact Util.foldlM_invariant Frame (fun _ => Frame.same rfl rfl) Frame.trans
      (fun a n b => processNode_frame tbl a b n) _ env env' h
  · cases h
  · exact processNode_frame tbl env env' _ h

/-- the four tests of `sStep` on a definition, and the node it appends -/
theorem sStep_defn_ok {tbl : UnitTable} {senv s' : SEnv} {path : List Str} {kw : Kw} {dims : List Dim} {sv : SVal}
    {unit : Option Str} (h : sStep tbl senv (.defn path kw dims sv unit) = .ok s') :
    senv.nodes.any (fun n => decide (n.path = path)) = false ∧ ∃ v u v', sEval senv sv = .ok (v, u) ∧
      unitOk tbl kw (pickUnit unit u) = true ∧ conforms kw dims v = some v' ∧
      s' = { senv with nodes := senv.nodes ++
        [⟨path, kw, dims, pickUnit unit u, some v', false, none, none, [], [], none⟩] } := by
  simp only [sStep] at h
  cases hno : senv.nodes.any fun n => decide (n.path = path)
  · cases hev : sEval senv sv with
    | error e => simp [hno, hev] at h
    | ok vu =>
      cases hu : unitOk tbl kw (pickUnit unit vu.2)
      · simp [hno, hev, hu] at h
      · cases hcf : conforms kw dims vu.1 <;> simp [hno, hev, hu, hcf] at h
        exact ⟨rfl, _, _, _, rfl, hu, hcf, h.symm⟩
  · simp [hno] at h

def isCase : Item → Bool
  | .case _ _ => true
  | _ => false

theorem stepC_none (tbl : UnitTable) (env : Env) (it : Item) (h : isCase it = false) :
    stepC tbl ⟨env, none⟩ it = (match step tbl env it with
      | .ok e => .ok ⟨e, none⟩
      | .error e => .error e) := by
  cases it with
  | case i k => simp [isCase] at h
  | _ =>
    simp only [stepC]
    split <;> rename_i he <;> rw [he]

theorem foldlM_stepC_none (tbl : UnitTable) (items : List Item) (env : Env)
    (h : ∀ it ∈ items, isCase it = false) :
    items.foldlM (stepC tbl) ⟨env, none⟩ = (match items.foldlM (step tbl) env with
      | .ok e => .ok ⟨e, none⟩
      | .error e => .error e) := by
  induction items generalizing env with
  | nil => rfl
  | cons it rest ih =>
    simp only [List.foldlM_cons]
    rw [stepC_none tbl env it (h it (by simp))]
    cases hs : step tbl env it with
    | error e => simp [bind, Except.bind]
    | ok e =>
      simp only [bind, Except.bind]
      exact ih e (fun x hx => h x (by simp [hx]))

end SciVerif.C17
