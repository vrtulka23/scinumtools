import SciVerif.Lemmas.C01Tokens

/-!
# C01 helper lemmas (token level): every pass of the step table maps the token list of level `k` to the
  token list of level `k + 1`.  The sign pass (step 2 of the table, level 1) is proved over the
  regenerated 2x25 behaviour table of `OperatorAdd/OperatorSub.operate_unary`.
-/
namespace SciVerif.C01
open SciVerif.C01.Gen

variable {A : Type} (alg : AtomAlg A) (lit : List Char → A)

/-- `neg (neg a) = a`: the only law of the atom algebra the theorems assume (the solver folds two
    prefix signs into one instead of negating twice) -/
def NegNeg (alg : AtomAlg A) : Prop := ∀ a, alg.un .neg (alg.un .neg a) = a

/-- The operator lists of the passes that have lemmas of their own: `passes[1].1` and `passes[4].1` (`+`, `-`),
    `passes[6].1` (`!`), `passes[0].1` (the call forms).  The lemmas are stated for these names and meet
    `passes[k]` in `pass_step` by reduction (`signOps` with a `show`): stated for `passes[k]` their `rfl` proofs
    unfold the table and the files take twice as long to check. -/
def signOps : List Nat := [13, 14]
def notOps : List Nat := [17]
def callOps : List Nat := [0, 1, 2, 3, 4, 5, 6, 7, 8, 9]
def sk (neg : Bool) : SignK := if neg then .sub else .add

def signNew : SignK → Item
  | .add => .newAdd
  | .sub => .newSub

def signVal : SignK → Item
  | .add => .R
  | .sub => .negR

/-- what `OperatorAdd/OperatorSub.operate_unary` does, by the kinds of the tokens on its left and right -/
def signActs (k : SignK) (kl kr : Kind) : List (Side × Item) :=
  if kl = .atom then [(.left, .L), (.left, signNew k), (.right, .R)]
  else match kr with
    | .atom => if kl = .none then [(.left, signVal k)] else [(.left, .L), (.right, signVal k)]
    | .add => [(.left, .L), (.right, match k with | .add => .R | .sub => .newSub)]
    | .sub => [(.left, .L), (.right, match k with | .add => .R | .sub => .newAdd)]
    | _ => [(.left, .L), (.left, signNew k), (.right, .R)]

def kinds : List Kind := [.none, .atom, .add, .sub, .other]

theorem fact_sign_table (k : SignK) (kl kr : Kind) :
    signLookup dflt k kl kr = some (signActs k kl kr) := by
  have h : ([SignK.add, .sub].all fun k => kinds.all fun kl => kinds.all fun kr =>
      signLookup dflt k kl kr == some (signActs k kl kr)) = true := by decide +kernel
  simp only [List.all_eq_true, beq_iff_eq] at h
  exact h k (by cases k <;> simp) kl (by cases kl <;> simp [kinds]) kr (by cases kr <;> simp [kinds])

theorem tokS_idx (s : Bool) : (tokS s : Tok A) = .op (if s then 14 else 13) [] := by
  rw [tokS, idxOf_sign]

theorem step_sign (s : Bool) (l r : List (Tok A)) :
    step dflt alg signOps .unary ⟨l, tokS s :: r⟩ = signStep dflt alg (sk s) ⟨l, r⟩ := by
  rw [tokS_idx]
  cases s <;> rfl

theorem kind_tokS (s : Bool) : kindOf dflt (tokS s : Tok A) = (if s then .sub else .add) := by
  rw [tokS_idx]
  cases s <;> rfl

/-- the operator looks at the token on its left and the token on its right (`None` where there is
    none) -/
theorem signStep_eq (k : SignK) (l r : List (Tok A)) :
    signStep dflt alg k ⟨l, r⟩
      = runItems dflt alg (l.headD .none) (r.headD .none)
          (signActs k (kindOf dflt (l.headD .none)) (kindOf dflt (r.headD .none))) ⟨l.tail, r.tail⟩ := by
  cases l <;> cases r <;> simp only [signStep, getLeft, getRight, fact_sign_table, List.headD, List.tail]

/-- top of the left stack is not an atom (so a `+`/`-` met here is a prefix sign) -/
def NonAtomTop : List (Tok A) → Prop
  | .atom _ :: _ => False
  | _ => True

/-- the stack is empty or has an operator on top: a sign met here is a prefix sign and no `None` was stored -/
def OpTop : List (Tok A) → Prop
  | [] => True
  | .op _ _ :: _ => True
  | _ => False

/-- `put_left(left)` with `left = None` on an empty stack stores a `None` -/
def keepTop : List (Tok A) → List (Tok A)
  | [] => [.none]
  | l => l

/-- the stored `None` is dropped again when the sign finally meets its atom -/
def dropNone : List (Tok A) → List (Tok A)
  | .none :: l => l
  | l => l

theorem kindOf_op_ne (tbl : Table) (j : Nat) (a : List (Option A)) :
    kindOf tbl (Tok.op j a : Tok A) ≠ .atom ∧ kindOf tbl (Tok.op j a : Tok A) ≠ .none := by
  simp only [kindOf]
  generalize tbl.rows[j]? = q
  cases q with
  | none => simp
  | some r => by_cases h1 : r.isAdd = true <;> by_cases h2 : r.isSub = true <;> simp [h1, h2]

/-- what a sign pushes back to the right when the token after it is a sign too: the one sign the two fold into -/
def foldItem : SignK → Bool → Item
  | .add, _ => .R
  | .sub, false => .newSub
  | .sub, true => .newAdd

theorem signActs_fold (k : SignK) (kl : Kind) (hk : kl ≠ .atom) (s' : Bool) :
    signActs k kl (if s' then .sub else .add) = [(.left, .L), (.right, foldItem k s')] := by
  cases kl <;> cases s' <;> cases k <;> first | exact absurd rfl hk | rfl

theorem itemTok_fold (tl : Tok A) (s s' : Bool) :
    itemTok dflt alg tl (tokS s') (foldItem (sk s) s') = some (tokS (xor s s')) := by
  simp only [tokS_idx]
  cases s <;> cases s' <;> rfl

theorem runItems_cons {tbl : Table} {L R t : Tok A} {it : Item} (h : itemTok tbl alg L R it = some t)
    (s : Side) (ps : List (Side × Item)) (b : Bufs A) :
    runItems tbl alg L R ((s, it) :: ps) b = runItems tbl alg L R ps (put b s t) := by
  rw [runItems, h]

theorem runItems_keep (tl tr x : Tok A) (it : Item) (hx : itemTok dflt alg tl tr it = some x)
    (l r : List (Tok A)) :
    runItems dflt alg tl tr [(.left, .L), (.right, it)] ⟨l, r⟩ = .ok ⟨tl :: l, x :: r⟩ := by
  rw [runItems_cons alg (t := tl) rfl, runItems_cons alg hx]
  rfl

theorem runItems_stay (tl tr x : Tok A) (it : Item) (hx : itemTok dflt alg tl tr it = some x)
    (l r : List (Tok A)) :
    runItems dflt alg tl tr [(.left, .L), (.left, it), (.right, .R)] ⟨l, r⟩
      = .ok ⟨x :: tl :: l, tr :: r⟩ := by
  rw [runItems_cons alg (t := tl) rfl, runItems_cons alg hx, runItems_cons alg (t := tr) rfl]
  rfl

theorem step_fold (s s' : Bool) (L r : List (Tok A)) (hL : NonAtomTop L) :
    step dflt alg signOps .unary ⟨L, tokS s :: tokS s' :: r⟩ = .ok ⟨keepTop L, tokS (xor s s') :: r⟩ := by
  have hk : kindOf dflt (L.headD .none) ≠ .atom ∧ L.headD .none :: L.tail = keepTop L := by
    match L, hL with
    | [], _ => exact ⟨by simp [kindOf], rfl⟩
    | .none :: L0, _ => exact ⟨by simp [kindOf], rfl⟩
    | .op j a :: L0, _ => exact ⟨(kindOf_op_ne dflt j a).1, rfl⟩
  rw [step_sign, signStep_eq, List.headD_cons, kind_tokS, signActs_fold _ _ hk.1, ← hk.2]
  exact runItems_keep alg _ _ _ _ (itemTok_fold alg _ s s') _ _

/-- a prefix sign meets its atom: the value replaces a `None` stored on the stack, or goes back to
    the right of an operator and is shifted in the next iteration -/
theorem sign_apply (s : Bool) (L : List (Tok A)) (x : A) (hL : NonAtomTop L) :
    Moves (step dflt alg signOps .unary) L [tokS s, .atom x] (.atom (negIf alg s x) :: dropNone L) := by
  have hv : ∀ tl : Tok A, itemTok dflt alg tl (.atom x) (signVal (sk s)) = some (.atom (negIf alg s x)) :=
    fun tl => by cases s <;> rfl
  have h1 : ∀ (L rest : List (Tok A)), step dflt alg signOps .unary ⟨L, tokS s :: .atom x :: rest⟩
      = runItems dflt alg (L.headD .none) (.atom x) (signActs (sk s) (kindOf dflt (L.headD .none)) .atom)
          ⟨L.tail, rest⟩ := fun L rest => by rw [step_sign, signStep_eq]; rfl
  match L, hL with
  | [], _ | .none :: _, _ =>
    exact .one (fun rest => by rw [List.singleton_append, h1]; simp [kindOf, signActs, runItems, hv, put, putLeft, dropNone])
  | .op j a :: L0, _ =>
    refine .step (T1 := [.atom (negIf alg s x)]) (fun rest => ?_) (Nat.le_refl _)
      (.one (T := []) (fun rest => step_atom dflt alg signOps .unary _ rest _))
    rw [List.singleton_append, h1]
    simp only [List.headD_cons, signActs, (kindOf_op_ne dflt j a).1, (kindOf_op_ne dflt j a).2, if_false]
    exact runItems_keep alg _ _ _ _ (hv _) _ _

/-- a `+`/`-` after an atom is a binary operator: it stays and fetches what follows (`None` when
    nothing does) -/
theorem step_binary_sign (s : Bool) (L0 r : List (Tok A)) (x : A) :
    step dflt alg signOps .unary ⟨.atom x :: L0, tokS s :: r⟩
      = .ok ⟨tokS s :: .atom x :: L0, r.headD .none :: r.tail⟩ := by
  have hn : itemTok dflt alg (.atom x) (r.headD .none) (signNew (sk s)) = some (tokS s) := by
    rw [tokS_idx]; cases s <;> rfl
  rw [step_sign, signStep_eq]
  exact runItems_stay alg _ _ _ _ hn _ _

/-- the token list of the expression starts with a prefix sign -/
def leadSign : E → Bool
  | .sign _ _ => true
  | .bin _ l _ => leadSign l
  | _ => false

theorem negIf_xor (hn : NegNeg alg) (s s' : Bool) (v : A) :
    negIf alg (xor s s') v = negIf alg s (negIf alg s' v) := by
  cases s <;> cases s' <;> simp [negIf, hn v]

theorem nonAtomTop_keepTop (L : List (Tok A)) (h : NonAtomTop L) : NonAtomTop (keepTop L) := by
  match L, h with
  | [], _ => trivial
  | .none :: _, _ => trivial
  | .op _ _ :: _, _ => trivial

theorem dropNone_keepTop (L : List (Tok A)) : dropNone (keepTop L) = dropNone L := by
  match L with
  | [] => rfl
  | .none :: _ => rfl
  | .op _ _ :: _ => rfl
  | .atom _ :: _ => rfl

/-- A run of prefix signs in front of a primary is folded pairwise and applied once. -/
theorem sign_run (hn : NegNeg alg) (e : E) (hwf : e.WF) (hl : e.level ≤ 1) :
    ∀ (s : Bool) (L : List (Tok A)), NonAtomTop L →
      Moves (step dflt alg signOps .unary) L (tokS s :: flat alg lit 1 e)
        (.atom (negIf alg s (eval alg lit e)) :: dropNone L) := by
  by_cases h0 : e.level < 1
  · -- a primary: its value is already there
    intro s L hL
    rw [flat_of_lt alg lit 1 e h0]
    exact sign_apply alg s L (eval alg lit e) hL
  · cases e with
    | sign s' x =>
      intro s L hL
      have := sign_run hn x hwf.1 hwf.2 (xor s s') (keepTop L) (nonAtomTop_keepTop L hL)
      rw [negIf_xor alg hn, dropNone_keepTop] at this
      rw [flat_sign_ge alg lit 1 s' x (by decide)]
      exact .step (T := tokS s' :: flat alg lit 1 x) (T1 := tokS (xor s s') :: flat alg lit 1 x)
        (fun rest => step_fold alg s s' L (flat alg lit 1 x ++ rest) hL)
        (Nat.le_refl ((flat alg lit 1 x).length + 1)) this
    | bin o x y => exact absurd (Nat.le_trans o.level_range.1 hl) (by decide)
    | not x => simp [E.level] at hl
    | num t => simp [E.level] at h0
    | fn1 f x => simp [E.level] at h0
    | fn2 g x y => simp [E.level] at h0

theorem tokB_add : (tokB .add : Tok A) = tokS false := rfl
theorem tokB_sub : (tokB .sub : Tok A) = tokS true := rfl

theorem opTop_dropNone (L : List (Tok A)) (h : OpTop L) : dropNone L = L ∧ NonAtomTop L := by
  match L, h with
  | [], _ => exact ⟨rfl, trivial⟩
  | .op _ _ :: _, _ => exact ⟨rfl, trivial⟩

theorem step_not (l r : List (Tok A)) (v : A) :
    step dflt alg notOps .unary ⟨l, tokN :: .atom v :: r⟩ = .ok ⟨l, .atom (alg.un .lnot v) :: r⟩ := by
  rw [tokN, idxOf_not]
  rfl

theorem step_fn1 (f : F1) (l r : List (Tok A)) (v : A) :
    step dflt alg callOps .args ⟨l, .op (idxOf dflt f.name) [some v] :: r⟩
      = .ok ⟨.atom (evalF1 alg f v) :: l, r⟩ := by
  rw [idxOf_F1]
  cases f <;> rfl

theorem step_fn2 (g : F2) (l r : List (Tok A)) (v w : A) :
    step dflt alg callOps .args ⟨l, .op (idxOf dflt g.name) [some v, some w] :: r⟩
      = .ok ⟨.atom (evalF2 alg g v w) :: l, r⟩ := by
  rw [idxOf_F2]
  cases g <;> rfl

theorem pass_value (P : List Nat) (ot : Otype) (k : Nat) (e : E) (h : e.level < k) (l : List (Tok A)) :
    Moves (step dflt alg P ot) l (flat alg lit k e) ((flat alg lit (k + 1) e).reverse ++ l) := by
  rw [flat_of_lt alg lit k e h, flat_of_lt alg lit (k + 1) e (by omega)]
  exact .one (T := []) (fun rest => step_atom dflt alg P ot l rest _)

/-- Pass `k` of the live step table takes the token list of level `k` to that of level `k + 1`, above any
    stack `l`: lower levels are values already, operators of higher levels are shifted and their operands
    processed in turn, those of level `k` are applied.  (The sign pass must know that a sign at the very
    front is a prefix sign: then `l` is empty or has an operator on top.) -/
theorem pass_step (hn : NegNeg alg) (e : E) (hwf : e.WF) (k : Nat) (hk : k < passes.length) :
    ∀ (l : List (Tok A)), (k = 1 → leadSign e = true → OpTop l) →
      Moves (step dflt alg passes[k].1 passes[k].2) l (flat alg lit k e)
        ((flat alg lit (k + 1) e).reverse ++ l) := by
  induction e with
  | num t => exact fun l _ => .one (T := []) (fun rest => step_atom dflt alg _ _ l rest (lit t))
  | fn1 f x _ =>
    intro l _
    by_cases h0 : 0 < k
    · exact pass_value alg lit _ _ k (.fn1 f x) h0 l
    · obtain rfl : k = 0 := Nat.eq_zero_of_not_pos h0
      exact .one (T := []) (fun rest => step_fn1 alg f l rest (eval alg lit x))
  | fn2 g x y _ _ =>
    intro l _
    by_cases h0 : 0 < k
    · exact pass_value alg lit _ _ k (.fn2 g x y) h0 l
    · obtain rfl : k = 0 := Nat.eq_zero_of_not_pos h0
      exact .one (T := []) (fun rest => step_fn2 alg g l rest (eval alg lit x) (eval alg lit y))
  | sign s x ih =>
    intro l hl
    obtain ⟨wx, lx⟩ := hwf
    obtain rfl | rfl | h1 : k = 0 ∨ k = 1 ∨ 1 < k := by omega
    · rw [flat_sign_ge alg lit 0 s x (by decide), flat_sign_ge alg lit 1 s x (by decide)]
      exact .shift (fun rest => step_skip dflt alg _ _ l _ _ [] (by rw [inst_sign]; rfl))
        (ih wx (tokS s :: l) (fun h => absurd h (by decide)))
    · obtain ⟨hd, hna⟩ := opTop_dropNone l (hl rfl rfl)
      have := sign_run alg lit hn x wx lx s l hna
      rw [hd] at this
      rw [flat_sign_ge alg lit 1 s x (by decide), flat_of_lt alg lit 2 (.sign s x) (Nat.lt_succ_self 1)]
      exact this
    · exact pass_value alg lit _ _ k (.sign s x) h1 l
  | bin o x y ihx ihy =>
    intro l hl
    obtain ⟨wx, wy, lx, ly⟩ := hwf
    by_cases hlt : o.level < k
    · exact pass_value alg lit _ _ k (.bin o x y) hlt l
    · by_cases heq : o.level = k
      · -- the operator of this pass: its left operand is a finished chain, its right operand a value
        subst heq
        obtain ⟨h2, h6, _⟩ := o.level_range
        obtain ⟨row, hr, hb⟩ := binary_rows o
        have hx := ihx wx l (fun h => absurd (h ▸ h2) (by decide))
        rw [flat_of_lt alg lit _ x (Nat.lt_succ_of_le lx)] at hx
        rw [flat_bin_ge alg lit _ o x y hlt, flat_of_lt alg lit _ y ly,
          flat_of_lt alg lit _ (.bin o x y) (Nat.lt_succ_self o.level)]
        exact hx.append (.one (T := [.atom (eval alg lit y)]) (fun rest =>
          step_binary dflt alg passes[o.level].1 passes[o.level].2 l rest (idxOf dflt o.name) []
            (eval alg lit x) (eval alg lit y) o.fn row (pass_binary _ hk h2 h6)
            (by rw [inst_binary o _ hk]; simp) hr hb))
      · -- an operator of a later pass stays; in the sign pass a binary `+`/`-` has a value on its left
        have h1 : ¬ o.level < k + 1 := fun h => (Nat.lt_succ_iff_lt_or_eq.mp h).elim hlt heq
        have sm : ∀ rest, step dflt alg passes[k].1 passes[k].2
            ⟨(flat alg lit (k + 1) x).reverse ++ l, tokB o :: (flat alg lit k y ++ rest)⟩
            = .ok ⟨tokB o :: ((flat alg lit (k + 1) x).reverse ++ l), flat alg lit k y ++ rest⟩ := by
          intro rest
          by_cases hs : k = 1 ∧ o.level = 4
          · obtain ⟨rfl, h4⟩ := hs
            show step dflt alg signOps .unary _ = _
            obtain ⟨pre, v, hx⟩ := flat_last alg lit 2 (by decide) x
            obtain ⟨t, ts, hy⟩ := flat_eq_cons alg lit 1 y
            have ho : o = .add ∨ o = .sub := by cases o <;> simp [B2.level] at h4 ⊢
            rcases ho with rfl | rfl
            · rw [tokB_add, hx, hy]
              simpa using step_binary_sign alg false (pre.reverse ++ l) (t :: ts ++ rest) v
            · rw [tokB_sub, hx, hy]
              simpa using step_binary_sign alg true (pre.reverse ++ l) (t :: ts ++ rest) v
          · exact step_skip dflt alg passes[k].1 passes[k].2 _ _ (idxOf dflt o.name) []
              (by rw [inst_binary o k hk]; exact decide_eq_false (not_or.mpr ⟨heq, hs⟩))
        rw [flat_bin_ge alg lit k o x y hlt, flat_bin_ge alg lit (k + 1) o x y h1]
        exact .append_rev (ihx wx l (fun hk1 hs => hl hk1 (by simpa [leadSign] using hs)))
          (.shift sm (ihy wy _ (fun _ _ => trivial)))
  | not x ih =>
    intro l _
    obtain ⟨wx, lx⟩ := hwf
    by_cases hlt : 6 < k
    · exact pass_value alg lit _ _ k (.not x) hlt l
    · by_cases heq : k = 6
      · subst heq
        rw [flat_not_ge alg lit 6 x hlt, flat_of_lt alg lit 6 x (Nat.lt_succ_of_le lx),
          flat_of_lt alg lit 7 (.not x) (Nat.lt_succ_self 6)]
        exact .step (T1 := [.atom (alg.un .lnot (eval alg lit x))]) (fun rest => step_not alg l rest _)
          (Nat.le_refl _) (.one (T := []) (fun rest => step_atom dflt alg notOps .unary l rest _))
      · have h1 : ¬ 6 < k + 1 :=
          fun h => (Nat.lt_succ_iff_lt_or_eq.mp h).elim hlt (fun e => heq e.symm)
        rw [flat_not_ge alg lit k x hlt, flat_not_ge alg lit (k + 1) x h1]
        exact .shift (fun rest => step_skip dflt alg _ _ l _ _ [] (by rw [inst_not k hk]; simp [heq]))
          (ih wx (tokN :: l) (fun _ _ => trivial))

end SciVerif.C01
