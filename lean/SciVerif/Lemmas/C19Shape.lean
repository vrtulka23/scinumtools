import SciVerif.Model.C19Read
/-!
# C19 — rectangular nested values; Fortran `reshape` with `order=[k,…,1]` undoes the row-major element list

Index arithmetic by induction on the nesting: inside the element list `pre ++ flatten v ++ post`
the element of `v` with multi-index `idx` sits at `pre.length + rowPos dims idx`.
-/
namespace SciVerif.C19

theorem rectShapes_nil {α : Type} : rectShapes ([] : List (Tree α)) = some none := rfl

theorem rectShapes_cons {α : Type} (t : Tree α) (ts : List (Tree α)) :
    rectShapes (t :: ts) =
      match rectShape t, rectShapes ts with
      | some sh, some none => some (some sh)
      | some sh, some (some sh') => if sh = sh' then some (some sh) else none
      | _, _ => none := by
  rw [rectShapes]
  rfl

theorem rectShapes_none {α : Type} : ∀ (ts : List (Tree α)), rectShapes ts = some none → ts = []
  | [], _ => rfl
  | t :: ts, h => by
    rw [rectShapes_cons] at h
    split at h
    · cases h
    · split at h <;> cases h
    · cases h

theorem rectShapes_some {α : Type} : ∀ (ts : List (Tree α)) (sh : List Nat),
    rectShapes ts = some (some sh) → ts ≠ [] ∧ ∀ t ∈ ts, rectShape t = some sh
  | [], sh, h => nomatch h
  | t :: ts, sh, h => by
    rw [rectShapes_cons] at h
    refine ⟨List.cons_ne_nil _ _, ?_⟩
    split at h
    · rename_i s1 h1 h2
      cases h
      obtain rfl := rectShapes_none ts h2
      exact fun u hu => List.mem_singleton.mp hu ▸ h1
    · rename_i s1 s2 h1 h2
      split at h
      · rename_i he
        cases h
        subst he
        exact fun u hu => (List.mem_cons.mp hu).elim (· ▸ h1) ((rectShapes_some ts _ h2).2 u)
      · cases h
    · cases h

theorem rectShape_arr {α : Type} (ts : List (Tree α)) (dims : List Nat)
    (h : rectShape (.arr ts) = some dims) :
    (ts = [] ∧ dims = [0]) ∨
      (∃ sh, dims = ts.length :: sh ∧ ts ≠ [] ∧ ∀ t ∈ ts, rectShape t = some sh) := by
  rw [rectShape] at h
  split at h
  · cases h
  · rename_i h1
    cases h
    exact Or.inl ⟨rectShapes_none ts h1, rfl⟩
  · rename_i sh h1
    cases h
    exact Or.inr ⟨sh, rfl, rectShapes_some ts sh h1⟩

theorem leaf_of_shape_nil {α : Type} (t : Tree α) (h : rectShape t = some []) : ∃ a, t = .leaf a := by
  cases t with
  | leaf a => exact ⟨a, rfl⟩
  | arr ts =>
    rcases rectShape_arr ts [] h with ⟨_, h2⟩ | ⟨s, h2, _, _⟩ <;> simp at h2

theorem arr_of_shape_one {α : Type} (v : Tree α) (n : Nat) (hr : rectShape v = some [n]) (hn : 0 ∉ [n]) :
    ∃ ts, v = .arr ts ∧ ts ≠ [] ∧ ∀ t ∈ ts, rectShape t = some [] := by
  cases v with
  | leaf a => cases hr
  | arr ts =>
    rcases rectShape_arr ts [n] hr with ⟨_, h2⟩ | ⟨s, h2, hne, hall⟩
    · cases h2; exact absurd List.mem_cons_self hn
    · cases h2; exact ⟨ts, rfl, hne, hall⟩

theorem flatten_leaf {α : Type} (a : α) : flatten (.leaf a) = [a] := rfl

theorem flatten_arr {α : Type} (ts : List (Tree α)) : flatten (.arr ts) = flattenList ts := rfl

theorem flattenList_cons {α : Type} (t : Tree α) (ts : List (Tree α)) :
    flattenList (t :: ts) = flatten t ++ flattenList ts := rfl

mutual
theorem length_flatten {α : Type} : (v : Tree α) → ∀ dims, rectShape v = some dims →
    (flatten v).length = prod dims
  | .leaf a, dims, h => by cases h; rfl
  | .arr ts, dims, h => by
    rcases rectShape_arr ts dims h with ⟨rfl, rfl⟩ | ⟨sh, rfl, _, hall⟩
    · simp [flatten, flattenList, prod]
    · simp only [flatten, prod]
      exact length_flattenList ts sh hall
theorem length_flattenList {α : Type} : (ts : List (Tree α)) → ∀ sh,
    (∀ t ∈ ts, rectShape t = some sh) → (flattenList ts).length = ts.length * prod sh
  | [], sh, _ => by simp [flattenList]
  | t :: ts, sh, h => by
    have h1 := length_flatten t sh (h t (by simp))
    have h2 := length_flattenList ts sh (fun u hu => h u (by simp [hu]))
    simp only [flattenList_cons, List.length_append, List.length_cons, h1, h2]
    rw [Nat.add_mul, Nat.one_mul, Nat.add_comm]
end

theorem flatten_ne_nil {α : Type} (v : Tree α) (sh : List Nat) (h : rectShape v = some sh) (h0 : 0 ∉ sh) :
    flatten v ≠ [] := by
  have hl := length_flatten v sh h
  have hp : 0 < prod sh := by
    clear h hl
    induction sh with
    | nil => simp [prod]
    | cons d ds ih =>
      have hd : d ≠ 0 := fun e => h0 (by simp [e])
      have := ih (fun hm => h0 (by simp [hm]))
      simp only [prod]
      exact Nat.mul_pos (Nat.pos_of_ne_zero hd) this
  intro e
  rw [e] at hl
  simp at hl
  omega

theorem rowPos_cons (d : Nat) (ds : List Nat) (i : Nat) (is : List Nat) :
    rowPos (d :: ds) (i :: is) = i * prod ds + rowPos ds is := rfl

theorem build_nil {α : Type} (f : List Nat → Option α) : build [] f = (f []).map .leaf := rfl

theorem build_cons {α : Type} (d : Nat) (ds : List Nat) (f : List Nat → Option α) :
    build (d :: ds) f =
      ((List.range d).mapM (fun i => build ds (fun idx => f (i :: idx)))).map .arr := rfl

mutual
theorem build_flatten {α : Type} : (v : Tree α) → ∀ dims, rectShape v = some dims →
    ∀ (pre post : List α),
      build dims (fun idx => (pre ++ flatten v ++ post)[pre.length + rowPos dims idx]?) = some v
  | .leaf a, dims, h, pre, post => by
    obtain rfl : [] = dims := Option.some.inj h
    simp only [build_nil, flatten, rowPos, Nat.add_zero, List.append_assoc]
    rw [List.getElem?_append_right (Nat.le_refl _), Nat.sub_self]
    rfl
  | .arr ts, dims, h, pre, post => by
    rcases rectShape_arr ts dims h with ⟨rfl, rfl⟩ | ⟨sh, rfl, _, hall⟩
    · simp [build_cons]
    · rw [build_cons, List.range_eq_range']
      have key := build_flattenList ts sh hall pre post 0 pre.length (by simp)
      simp only [flatten, rowPos_cons, ← Nat.add_assoc]
      rw [key]
      rfl
/-- `s` children are done; `base` is where the array starts in the element list: `base + s * prod sh = pre.length` -/
theorem build_flattenList {α : Type} : (ts : List (Tree α)) → ∀ sh,
    (∀ t ∈ ts, rectShape t = some sh) →
    ∀ (pre post : List α) (s base : Nat), base + s * prod sh = pre.length →
      (List.range' s ts.length).mapM (fun i => build sh (fun idx =>
        (pre ++ flattenList ts ++ post)[base + i * prod sh + rowPos sh idx]?)) = some ts
  | [], sh, _, pre, post, s, base, _ => by simp
  | t :: ts, sh, h, pre, post, s, base, hb => by
    have ht := h t (by simp)
    have h1 := build_flatten t sh ht pre (flattenList ts ++ post)
    have hl := length_flatten t sh ht
    have h2 := build_flattenList ts sh (fun u hu => h u (by simp [hu])) (pre ++ flatten t) post (s + 1) base
      (by simp only [List.length_append, hl]; rw [Nat.add_mul, Nat.one_mul, ← Nat.add_assoc, hb])
    simp only [List.length_cons, List.range'_succ, List.mapM_cons, flattenList_cons]
    rw [List.append_assoc (pre ++ flatten t)] at h2
    rw [← List.append_assoc pre, List.append_assoc (pre ++ flatten t)]
    rw [hb, h1, h2]
    rfl
end

theorem reshapeF_flatten {α : Type} (v : Tree α) (dims : List Nat) (h : rectShape v = some dims) :
    reshapeF (flatten v) dims (some (orderList dims.length)) = some v := by
  have hl := length_flatten v dims h
  have hb := build_flatten v dims h [] []
  simp only [List.nil_append, List.append_nil, List.length_nil, Nat.zero_add] at hb
  simp [reshapeF, hl, hb]

end SciVerif.C19
