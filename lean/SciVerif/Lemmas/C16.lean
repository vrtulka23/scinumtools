import SciVerif.Model.C16
import SciVerif.Lemmas.Util.MapM

/-! The loop body `validateNode` read test by test for any node (`validateNode_iff`), with the options
    as registered tied back to the options as written (`validateOptions_register`); `Sane` enters only
    in Props/C16. -/
namespace SciVerif.C16

variable {F : Type}

theorem mapM_eq_some_nil {α β : Type} {f : α → Option β} {l : List α} {rs : List β}
    (h : l.mapM f = some rs) : rs = [] ↔ l = [] := by
  obtain ⟨hall, rfl⟩ := Util.mapM_eq_some.mp h
  cases l with
  | nil => exact iff_of_true rfl rfl
  | cons a l =>
    obtain ⟨r, hr⟩ := Option.isSome_iff_exists.mp (hall a (List.mem_cons_self ..))
    rw [List.filterMap_cons_some hr]
    exact iff_of_false (List.cons_ne_nil r _) (List.cons_ne_nil a l)

theorem register_num_none (P : Prim F) (n : Node F) {v : F} {u : Option String}
    (h : P.conv u n.unit v = none) : register P n (.num v u) = none :=
  congrArg (Option.map _) h

theorem register_num_some (P : Prim F) (n : Node F) {v w : F} {u : Option String}
    (h : P.conv u n.unit v = some w) :
    register P n (.num v u) = some (.num w (if u.isSome ∧ n.unit.isSome then n.unit else u)) :=
  congrArg (Option.map _) h

theorem optHolds_num (P : Prim F) (n : Node F) (o x : F) (u un : Option String) :
    optHolds P n (.num x un) (.num o u) ↔ ∃ w, P.conv u n.unit o = some w ∧ P.isclose w x = true := by
  constructor
  · rintro ⟨w, hw, _, _, hv, hc⟩
    cases hv
    exact ⟨w, hw, hc⟩
  · rintro ⟨w, hw, hc⟩
    exact ⟨w, hw, x, un, rfl, hc⟩

theorem optHolds_num_of_conv (P : Prim F) (n : Node F) {o w x : F} {u : Option String} (un : Option String)
    (hc : P.conv u n.unit o = some w) :
    optHolds P n (.num x un) (.num o u) ↔ P.isclose w x = true := by
  rw [optHolds_num, hc]
  constructor
  · rintro ⟨_, e, h⟩; cases e; exact h
  · intro h; exact ⟨w, rfl, h⟩

theorem optEq_register (P : Prim F) (n : Node F) (v : Val F) (o r : Opt F)
    (h : register P n o = some r) : optEq P r v = true ↔ optHolds P n v o := by
  have hne : ∀ {p : Prop}, (false = true ↔ p) ↔ ¬ p := by simp
  cases o with
  | num x u =>
    obtain ⟨w, hw, rfl⟩ := Option.map_eq_some_iff.mp h
    cases v with
    | num y uy =>
      exact (optHolds_num_of_conv P n uy hw).symm
    | str s => refine hne.mpr ?_; rintro ⟨_, _, _, _, hv, _⟩; cases hv
    | other => refine hne.mpr ?_; rintro ⟨_, _, _, _, hv, _⟩; cases hv
  | str s =>
    cases h
    cases v with
    | num y uy => refine hne.mpr ?_; intro hv; cases hv
    | str t =>
      refine beq_iff_eq.trans ?_
      constructor
      · intro e; rw [e]; rfl
      · intro e; cases e; rfl
    | other => refine hne.mpr ?_; intro hv; cases hv

theorem validateOptions_register (P : Prim F) (n : Node F) (v : Val F) {regs : List (Opt F)}
    (h : n.options.mapM (register P n) = some regs) :
    validateOptions P regs v = true ↔ n.options = [] ∨ ∃ o ∈ n.options, optHolds P n v o := by
  have hnil := mapM_eq_some_nil h
  obtain ⟨hall, rfl⟩ := Util.mapM_eq_some.mp h
  have hany : ((n.options.filterMap (register P n)).any fun r => optEq P r v) = true ↔
      ∃ o ∈ n.options, optHolds P n v o := by
    simp only [List.any_eq_true, List.mem_filterMap]
    constructor
    · rintro ⟨r, ⟨o, ho, hr⟩, hp⟩
      exact ⟨o, ho, (optEq_register P n v o r hr).mp hp⟩
    · rintro ⟨o, ho, hp⟩
      obtain ⟨r, hr⟩ := Option.isSome_iff_exists.mp (hall o ho)
      exact ⟨r, ⟨o, ho, hr⟩, (optEq_register P n v o r hr).mpr hp⟩
  cases hr : n.options.filterMap (register P n) with
  | nil => exact iff_of_true rfl (Or.inl (hnil.mp hr))
  | cons r rs =>
    rw [hr] at hany hnil
    exact hany.trans (or_iff_right (mt hnil.mpr (List.cons_ne_nil r rs))).symm

theorem convA_of_rows {D : Type} [DecidableEq D] (A : Arith F) (tbl : String → Option (LinUnit F D))
    {s d : String} {x y : LinUnit F D} (v : F) (h : s ≠ d) (hx : tbl s = some x) (hy : tbl d = some y) :
    convA A tbl (some s) (some d) v =
      if x.dims = y.dims then some (A.div (A.mul v x.k) y.k) else none := by
  unfold convA
  simp only []
  rw [if_neg h, hx, hy]

theorem dimsWithin_cons (lo hi : Option Nat) (ds : List (Option Nat × Option Nat)) (s : Nat) (ss : List Nat) :
    dimsWithin ((lo, hi) :: ds) (s :: ss) ↔
      ((∀ l, lo = some l → l ≤ s) ∧ (∀ u, hi = some u → s ≤ u)) ∧ dimsWithin ds ss := by
  constructor
  · rintro ⟨hlen, hall⟩
    exact ⟨hall 0 (Nat.zero_lt_succ _) (Nat.zero_lt_succ _), Nat.le_of_succ_le_succ hlen,
      fun d h h2 => hall (d + 1) (Nat.succ_lt_succ h) (Nat.succ_lt_succ h2)⟩
  · rintro ⟨h0, hlen, hall⟩
    refine ⟨Nat.succ_le_succ hlen, fun d h h2 => ?_⟩
    cases d with
    | zero => exact h0
    | succ d => exact hall d (Nat.lt_of_succ_lt_succ h) (Nat.lt_of_succ_lt_succ h2)

theorem castDims_iff (dims : List (Option Nat × Option Nat)) (shape : List Nat) :
    castDims dims shape = true ↔ dimsWithin dims shape := by
  have bound : ∀ (o : Option Nat) (p : Nat → Prop) [DecidablePred p],
      (match o with | some l => decide (p l) | none => true) = true ↔ ∀ l, o = some l → p l := by
    intro o p _
    cases o with
    | none => exact iff_of_true rfl fun l e => by cases e
    | some l =>
      refine decide_eq_true_iff.trans ⟨fun h _ e => ?_, fun h => h l rfl⟩
      cases e; exact h
  -- branches of `castDims`: no dimension left; a dimension but no axis; a dimension and an axis
  fun_induction castDims dims shape with
  | case1 => exact iff_of_true rfl ⟨Nat.zero_le _, fun d h => absurd h (Nat.not_lt_zero d)⟩
  | case2 => exact iff_of_false Bool.false_ne_true fun h => absurd h.1 (Nat.not_succ_le_zero _)
  | case3 lo hi ds s ss ih =>
    rw [dimsWithin_cons, Bool.and_eq_true, Bool.and_eq_true]
    exact and_congr (and_congr (bound lo (· ≤ s)) (bound hi (s ≤ ·))) ih

/-- an option that cannot be registered: `set_option` raised while parsing -/
theorem validateNode_of_mapM_none (P : Prim F) (n : Node F)
    (h : n.options.mapM (register P n) = none) : validateNode P n = false := by
  unfold validateNode
  rw [h]

theorem validateNode_of_register_none (P : Prim F) (n : Node F) {o : Opt F} (ho : o ∈ n.options)
    (h : register P n o = none) : validateNode P n = false :=
  validateNode_of_mapM_none P n (Util.mapM_eq_none ⟨o, ho, h⟩)

/-- the loop body test by test, in the order of the code -/
theorem validateNode_iff (P : Prim F) (n : Node F) {regs : List (Opt F)}
    (hr : n.options.mapM (register P n) = some regs) :
    validateNode P n = true ↔ dimsOK n.dims n.shape = true ∧
      match n.value with
      | none => n.declared = false ∧ regs = [] ∧ n.condition = none ∧ n.format = none
      | some v => (n.selectable = true → validateOptions P regs v = true) ∧
          (n.condition = none ∨ n.condition = some (some true)) ∧
          (n.isStr = true → n.format = none ∨ n.format = some true) := by
  unfold validateNode
  rw [hr]
  simp only []
  cases dimsOK n.dims n.shape
  · exact iff_of_false Bool.false_ne_true fun h => Bool.false_ne_true h.1
  rw [if_neg (show ¬ (!true) = true by decide)]
  cases n.value with
  | none =>
    simp only [Bool.and_eq_true, Bool.not_eq_true', List.isEmpty_iff, Option.isNone_iff_eq_none,
      true_and, and_assoc]
  | some v =>
    simp only []
    have hsel : (n.selectable = true → validateOptions P regs v = true) ↔
        ¬ (n.selectable && !validateOptions P regs v) = true := by
      cases n.selectable <;> cases validateOptions P regs v <;> decide
    by_cases hso : (n.selectable && !validateOptions P regs v) = true
    · rw [if_pos hso]
      exact iff_of_false Bool.false_ne_true fun h => hsel.mp h.2.1 hso
    · rw [if_neg hso, Bool.and_eq_true]
      refine (and_congr ?_ ?_).trans ⟨fun h => ⟨trivial, hsel.mpr hso, h⟩, fun h => h.2.2⟩
      · cases n.condition with
        | none => exact iff_of_true rfl (Or.inl rfl)
        | some c =>
          cases c with
          | none => decide
          | some b => cases b <;> decide
      · cases n.isStr
        · exact iff_of_true rfl fun h => absurd h Bool.false_ne_true
        · cases n.format with
          | none => exact iff_of_true rfl fun _ => Or.inl rfl
          | some m => cases m <;> decide

theorem validateNode_withNumCond_false (P : Prim F) (lt : F → F → Bool) (n : Node F) (c : SimpleCond F)
    (x : F) (ux : Option String) (hc : condNum P lt c x ux ≠ some true) :
    validateNode P (withNumCond P lt n c x ux) = false := by
  refine Bool.eq_false_iff.mpr fun h => ?_
  cases hm : (withNumCond P lt n c x ux).options.mapM (register P (withNumCond P lt n c x ux)) with
  | none => rw [validateNode_of_mapM_none P _ hm] at h; cases h
  | some regs =>
    rcases ((validateNode_iff P _ hm).mp h).2.2.1 with e | e
    · cases e
    · exact hc (Option.some.inj e)

theorem validate_iff (P : Prim F) (env : List (Node F)) :
    validate P env = true ↔ ∀ n ∈ env, validateNode P n = true := by
  induction env with
  | nil => exact iff_of_true rfl fun _ h => by cases h
  | cons a l ih => rw [validate, Bool.and_eq_true, List.forall_mem_cons, ih]

end SciVerif.C16
