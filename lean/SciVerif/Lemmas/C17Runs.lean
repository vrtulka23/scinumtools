import SciVerif.Lemmas.C17Imports

/-! Refinement (C17): property lines, and whole programs.  The code attaches a property line to
    the LAST node of the environment, the specification to the node at a PATH; they coincide when
    the line follows its node (the documented placement).  Programs are lists of lines; one
    induction (`sim_run`) carries a one-line simulation along a run, for flat programs, programs
    nested by indentation and programs with import lines at any indentation. -/
namespace SciVerif.C17

theorem updateLast_append (f : Node → Except String Node) (init : List Node) (t t' : Node)
    (h : f t = .ok t') : updateLast f (init ++ [t]) = .ok (init ++ [t']) := by
  induction init with
  | nil => simp [updateLast, h]
  | cons a r ih =>
    cases hr : r ++ [t] with
    | nil => simp at hr
    | cons b c =>
      simp only [List.cons_append, hr, updateLast]
      rw [hr] at ih
      simp [ih]

theorem sUpdate_last (p : List Str) (f : SNode → Option SNode) (init : List SNode) (t t' : SNode)
    (hp : t.path = p) (hno : ∀ x ∈ init, x.path ≠ p) (h : f t = some t') :
    sUpdate p f (init ++ [t]) = some (init ++ [t']) := by
  induction init with
  | nil => simp [sUpdate, hp, h]
  | cons a r ih =>
    have ha : a.path ≠ p := hno a (by simp)
    simp only [List.cons_append, sUpdate, ha, if_false]
    rw [ih (fun x hx => hno x (by simp [hx]))]
    rfl

/-- the statement of a property line whose value is literal -/
def propStmt (path : List Str) : PropLine → SStmt
  | .constant => .constant path
  | .condition e => .condition path e
  | .format f => .format path f
  | .tags l => .tags path l
  | .option v u => .option path (.lit v) u
  | .description d => .description path d

/-- the documented placement of a property line: the last node is the node at `path`, no earlier node has its
    name, and its type admits the property -/
def PropOK (env : Env) (path : List Str) (p : PropLine) : Prop :=
  ∃ init t, env.nodes = init ++ [t] ∧ splitDot t.name = path ∧ (∀ x ∈ init, x.name ≠ t.name) ∧
    (match p with
     | .format _ => t.kw = .str
     | .option _ _ => t.kw = .int ∨ t.kw = .float ∨ t.kw = .str
     | _ => True)

theorem good_applyProp {tbl : UnitTable} {t t' : Node} {p : PropLine} (hg : Good tbl t)
    (h : applyProp p t = .ok t') : Good tbl t' := by
  -- whatever the property, `t'` is `t` with a field changed that `Good` does not read
  cases p <;> simp only [applyProp] at h <;> (try split at h) <;> cases h <;> exact hg

theorem refine_prop (tbl : UnitTable) (env : Env) (hinv : Inv tbl env) (path : List Str) (p : PropLine)
    (s' : SEnv) (hok : PropOK env path p) (h : sStep tbl (absEnv env) (propStmt path p) = .ok s') :
    ∃ env', step tbl env (.prop p) = .ok env' ∧ absEnv env' = s' ∧ Inv tbl env' := by
  obtain ⟨init, t, hnodes, hpath, huniq, hkw⟩ := hok
  have hgt : Good tbl t := hinv.1 t (by rw [hnodes]; simp)
  have hty : isTyped t.kw = true := hgt.1
  have hno : ∀ x ∈ init.map absN, x.path ≠ path := by
    intro x hx
    obtain ⟨y, hy, rfl⟩ := List.mem_map.mp hx
    intro e
    apply huniq y hy
    apply splitDot_inj
    rw [hpath]; exact e
  have habsnodes : (absEnv env).nodes = init.map absN ++ [absN t] := by simp [absEnv, hnodes]
  -- whatever the property: the code's `t'` abstracts to the specification's update `g` of `t`
  have key : ∀ (g : SNode → SNode) (t' : Node), applyProp p t = .ok t' → absN t' = g (absN t) →
      sAttr (absEnv env) path g = .ok s' →
      ∃ env', step tbl env (.prop p) = .ok env' ∧ absEnv env' = s' ∧ Inv tbl env' := by
    intro g t' happ hg hs
    have hup := updateLast_append (applyProp p) init t t' happ
    refine ⟨{ env with nodes := init ++ [t'] }, by simp [step, hnodes, hup], ?_, ?_, hinv.2⟩
    · unfold sAttr at hs
      rw [habsnodes, sUpdate_last path (fun n => some (g n)) (init.map absN) (absN t) (g (absN t))
        (by rw [absN_path, hpath]) hno rfl] at hs
      simp only [Except.ok.injEq] at hs
      rw [← hs]
      simp [absEnv, hg]
    · intro n hn
      simp only [List.mem_append, List.mem_singleton] at hn
      rcases hn with hn | rfl
      · exact hinv.1 n (by rw [hnodes]; simp [hn])
      · exact good_applyProp hgt happ
  cases p with
  | constant => exact key _ { t with constant := true } rfl rfl h
  | condition e => exact key _ { t with condition := some e } rfl rfl h
  | format f =>
    have hk : t.kw = .str := hkw
    exact key _ { t with format := some f } (by simp [applyProp, hk]) rfl h
  | tags l => exact key _ { t with tags := t.tags ++ l } (by simp [applyProp, hty]) rfl h
  | option v u =>
    have hk : t.kw = .int ∨ t.kw = .float ∨ t.kw = .str := hkw
    exact key _ { t with options := t.options ++ [(v, u)] } (by simp [applyProp, hk])
      (by simp [absN, pickUnit_none]) h
  | description d =>
    exact key _ { t with description := addDescr t.description d } (by simp [applyProp, hty]) rfl h

def groupNode (i : Nat) (nm : Str) : Node := { blank nm .group with indent := i }

theorem step_group (tbl : UnitTable) (env : Env) (i : Nat) (nm : Str) :
    step tbl env (.node (groupNode i nm)) = .ok { env with parents := regStackOf env.parents i nm } := by
  have hk : (groupNode i nm).kw ≠ .imp := by
    show Kw.group ≠ Kw.imp
    decide
  simp only [step, hk, if_false]
  rw [injectValue_none env (groupNode i nm) rfl]
  simp only
  unfold processNode
  have hu : unitCheck tbl (groupNode i nm) = .ok () := rfl
  simp only [hu, register_at]
  rfl

/-- the line record `it` written at indent `i` under the name `nm`; an import line is left as it is (at the
    root: its destination is part of the line), so `i`, `nm` mean nothing for it -/
def itemAt (i : Nat) (nm : Str) : Item → Item
  | .node n => if n.kw = .imp then .node n else .node { n with name := nm, indent := i }
  | it => it

/-- the hierarchy registers a line `(i, nm)` under the path its statement addresses (nothing to ask of an import) -/
def PathOK (ps : List (Nat × Str)) (i : Nat) (nm : Str) : SStmt → Prop
  | .defn path _ _ _ _ => regNameOf ps i nm = joinDot path
  | .modl path _ _ => regNameOf ps i nm = joinDot path
  | _ => True

theorem itemAt_node (i : Nat) (nm : Str) (n : Node) (hk : n.kw ≠ .imp) :
    itemAt i nm (.node n) = .node { n with name := nm, indent := i } := by
  simp [itemAt, hk]

theorem itemAt_self (n : Node) : itemAt n.indent n.name (.node n) = .node n := by
  simp only [itemAt]
  split <;> rfl

/-- The statement `stmt`, written as the line `conc` gives (`it0`) but at indent `i` under the name `nm`
    (`itemAt`), with `PathOK` tying `(i, nm)` to the statement's path: one step of the simulation. -/
theorem refine_step_at (tbl : UnitTable) (env : Env) (hinv : Inv tbl env) (i : Nat) (nm : Str)
    (stmt : SStmt) (it0 : Item) (s' : SEnv) (hfrag : InFrag (absEnv env) stmt)
    (hpath : PathOK env.parents i nm stmt) (hc : conc stmt = some it0)
    (h : sStep tbl (absEnv env) stmt = .ok s') :
    ∃ env', step tbl env (itemAt i nm it0) = .ok env' ∧ absEnv env' = s' ∧ Inv tbl env' := by
  have hG := nodeInv_good tbl
  unfold conc at hc
  split at hc <;> cases hc
  · rw [itemAt_node i nm _ (typed_ne hfrag.2.1).2.2]
    exact refine_defn tbl hG env hinv _ _ _ _ _ _ s' hfrag rfl ⟨rfl, rfl, rfl⟩ hpath h
  · rw [itemAt_node i nm _ (typed_ne hfrag.2.1).2.2]
    obtain ⟨hws, hpp, hq, _⟩ := hfrag.2.2.2
    exact refine_defn tbl hG env hinv _ _ _ _ _ _ s' hfrag rfl ⟨⟨hws, hpp, hq⟩, rfl, rfl⟩ hpath h
  · rw [itemAt_node i nm _ (show Kw.mod ≠ .imp by decide)]
    exact refine_modl tbl hG env hinv _ _ (.lit _) s' hfrag.1 rfl ⟨rfl, rfl, rfl⟩ rfl hpath h
  · rw [itemAt_node i nm _ (show Kw.mod ≠ .imp by decide)]
    exact refine_modl tbl hG env hinv _ _ (.inj _ (.exact _) []) s' hfrag.1 rfl ⟨hfrag.2, rfl, rfl⟩ rfl hpath h
  · exact refine_imp_at tbl env hinv 0 _ _ _ _ s' hfrag hfrag.2.2.1
      (fun nm => regNameOf_zero env.parents (impName _ nm)) h

theorem conc_flat (s : SStmt) (it0 : Item) (hc : conc s = some it0) (ps : List (Nat × Str)) :
    ∃ nm, itemAt 0 nm it0 = it0 ∧ PathOK ps 0 nm s := by
  unfold conc at hc
  split at hc <;> cases hc
  -- definition / modification lines: the name `conc` wrote (`joinDot path`) at indent 0 is the
  -- registered path; an import line is left alone by `itemAt`, so any name (`[]`) does
  iterate 4 exact ⟨_, itemAt_self _, regNameOf_zero ps _⟩
  exact ⟨[], rfl, trivial⟩

theorem refine_step (tbl : UnitTable) (env : Env) (hinv : Inv tbl env) (stmt : SStmt) (item : Item)
    (s' : SEnv) (hfrag : InFrag (absEnv env) stmt) (hc : conc stmt = some item)
    (h : sStep tbl (absEnv env) stmt = .ok s') :
    ∃ env', step tbl env item = .ok env' ∧ absEnv env' = s' ∧ Inv tbl env' := by
  obtain ⟨nm, e, hp⟩ := conc_flat stmt item hc env.parents
  have := refine_step_at tbl env hinv 0 nm stmt item s' hfrag hp hc h
  rwa [e] at this

theorem sRun_single (tbl : UnitTable) (e s1 : SEnv) (s : SStmt)
    (h : sRun tbl e (some s).toList = .ok s1) : sStep tbl e s = .ok s1 := by
  simp only [Option.toList, sRun] at h
  cases hs : sStep tbl e s with
  | error x => simp [hs] at h
  | ok e' => simpa [hs, sRun] using h

/-- Lock-step simulation over any type `L` of lines: `item` is a line's record, `stmt?` its statement if it is one
    (a group line has none: `(stmt? l).toList` runs none or one), `I` the invariant, `R` the side condition of the
    remaining program. -/
theorem sim_run {L : Type} (tbl : UnitTable) (item : L → Option Item) (stmt? : L → Option SStmt)
    (I : Env → Prop) (R : Env → List L → Prop)
    (hstep : ∀ env l rest it s1, I env → R env (l :: rest) → item l = some it →
      sRun tbl (absEnv env) (stmt? l).toList = .ok s1 →
      ∃ env1, step tbl env it = .ok env1 ∧ absEnv env1 = s1 ∧ I env1 ∧ R env1 rest)
    (lines : List L) (items : List Item) (env : Env) (s' : SEnv) (hinv : I env) (hrun : R env lines)
    (hc : lines.mapM item = some items) (h : sRun tbl (absEnv env) (lines.filterMap stmt?) = .ok s') :
    ∃ env', items.foldlM (step tbl) env = .ok env' ∧ absEnv env' = s' ∧ I env' := by
  induction lines generalizing items env with
  | nil =>
    simp at hc; subst hc
    simp only [List.filterMap_nil, sRun, Except.ok.injEq] at h
    exact ⟨env, rfl, h, hinv⟩
  | cons l rest ih =>
    obtain ⟨it, its, hli, hcr, rfl⟩ := Util.mapM_cons_eq_some hc
    have hsplit : ∃ s1, sRun tbl (absEnv env) (stmt? l).toList = .ok s1 ∧
        sRun tbl s1 (rest.filterMap stmt?) = .ok s' := by
      cases hst : stmt? l with
      | none => exact ⟨absEnv env, rfl, by simpa [List.filterMap_cons, hst] using h⟩
      | some s =>
        simp only [List.filterMap_cons, hst, sRun] at h
        cases hs : sStep tbl (absEnv env) s with
        | error e => simp [hs] at h
        | ok s1 => exact ⟨s1, by simp [Option.toList, sRun, hs], by simpa [hs] using h⟩
    obtain ⟨s1, h1, h2⟩ := hsplit
    obtain ⟨env1, hstep1, habs, hinv1, hrun1⟩ := hstep env l rest it s1 hinv hrun hli h1
    rw [← habs] at h2
    obtain ⟨env', hr, ha, hi'⟩ := ih its env1 hinv1 hrun1 hcr h2
    exact ⟨env', by rw [Util.foldlM_cons_ok hstep1]; exact hr, ha, hi'⟩

/-- the side conditions hold along the specification's run -/
def FragRun (tbl : UnitTable) : SEnv → List SStmt → Prop
  | _, [] => True
  | senv, s :: rest => InFrag senv s ∧ ∀ senv', sStep tbl senv s = .ok senv' → FragRun tbl senv' rest

theorem refine_run (tbl : UnitTable) (stmts : List SStmt) (items : List Item) (env : Env) (s' : SEnv)
    (hinv : Inv tbl env) (hfrag : FragRun tbl (absEnv env) stmts) (hc : stmts.mapM conc = some items)
    (h : sRun tbl (absEnv env) stmts = .ok s') :
    ∃ env', items.foldlM (step tbl) env = .ok env' ∧ absEnv env' = s' ∧ Inv tbl env' := by
  refine sim_run tbl conc some (Inv tbl) (fun env stmts => FragRun tbl (absEnv env) stmts) ?_
    stmts items env s' hinv hfrag hc (by rw [List.filterMap_some]; exact h)
  intro env st rest it s1 hinv hfr hit h1
  have hs := sRun_single tbl _ s1 st h1
  obtain ⟨env1, hstep, habs, hinv1⟩ := refine_step tbl env hinv st it s1 hfr.1 hit hs
  exact ⟨env1, hstep, habs, hinv1, by rw [habs]; exact hfr.2 s1 hs⟩

/-- a line of a nested program, placed by the hierarchy (H): a group line, a statement written at indent `i` with the
    (relative, possibly dotted) name `nm`, or a property line for the node at `path` -/
inductive HLine where
  | group (i : Nat) (nm : Str)
  | stmt (i : Nat) (nm : Str) (s : SStmt)
  | prop (path : List Str) (p : PropLine)

def HLine.item : HLine → Option Item
  | .group i nm => some (.node (groupNode i nm))
  | .stmt i nm s => (conc s).map (itemAt i nm)
  | .prop _ p => some (.prop p)

def HLine.stmt? : HLine → Option SStmt
  | .group _ _ => none
  | .stmt _ _ s => some s
  | .prop path p => some (propStmt path p)

/-- Side conditions of a nested program, checked along the joint run: `PathOK` and `PropOK` speak of the model's
    hierarchy stack and last node, so the next line is judged in the MODEL's next environment (`FragRun`, which
    needs neither, follows the specification's run). -/
def RunH (tbl : UnitTable) : Env → List HLine → Prop
  | _, [] => True
  | env, .group i nm :: rest => RunH tbl { env with parents := regStackOf env.parents i nm } rest
  | env, .stmt i nm s :: rest =>
    InFrag (absEnv env) s ∧ PathOK env.parents i nm s ∧
    ∀ it env', (conc s).map (itemAt i nm) = some it → step tbl env it = .ok env' → RunH tbl env' rest
  | env, .prop path p :: rest =>
    PropOK env path p ∧ ∀ env', step tbl env (.prop p) = .ok env' → RunH tbl env' rest

theorem runH_cons (tbl : UnitTable) (env : Env) (l : HLine) (rest : List HLine)
    (h : RunH tbl env (l :: rest)) :
    RunH tbl env [l] ∧ ∀ it env', l.item = some it → step tbl env it = .ok env' → RunH tbl env' rest := by
  cases l with
  | group i nm =>
    refine ⟨trivial, ?_⟩
    intro it env' hit hst
    cases hit
    rw [step_group] at hst
    cases hst
    exact h
  | stmt i nm s => exact ⟨⟨h.1, h.2.1, fun _ _ _ _ => trivial⟩, h.2.2⟩
  | prop path p =>
    refine ⟨⟨h.1, fun _ _ => trivial⟩, ?_⟩
    intro it env' hit hst
    cases hit
    exact h.2 env' hst

theorem refine_hline (tbl : UnitTable) (l : HLine) (it : Item) (env : Env) (s1 : SEnv)
    (hinv : Inv tbl env) (hrun : RunH tbl env [l]) (hc : l.item = some it)
    (h : sRun tbl (absEnv env) l.stmt?.toList = .ok s1) :
    ∃ env1, step tbl env it = .ok env1 ∧ absEnv env1 = s1 ∧ Inv tbl env1 := by
  cases l with
  | group i nm =>
    cases hc; cases h
    exact ⟨_, step_group tbl env i nm, rfl, hinv⟩
  | prop path p =>
    cases hc
    exact refine_prop tbl env hinv path p s1 hrun.1 (sRun_single tbl _ s1 _ h)
  | stmt i nm s =>
    obtain ⟨it0, hcs, rfl⟩ := Option.map_eq_some_iff.mp hc
    exact refine_step_at tbl env hinv i nm s it0 s1 hrun.1 hrun.2.1 hcs (sRun_single tbl _ s1 s h)

/-- `HLine` extended (N = H + indented import lines): `pre {source?q}` written at indent `i`, whose imported nodes
    the specification places below `dest` -/
inductive NLine where
  | base (l : HLine)
  | imp (i : Nat) (pre dest : List Str) (source : Option Str) (q : SQuery)

def NLine.item : NLine → Option Item
  | .base l => l.item
  | .imp i pre _ source q => some (.node (impAt i pre source q))

def NLine.stmt? : NLine → Option SStmt
  | .base l => l.stmt?
  | .imp _ _ dest source q => some (.imp dest source q)

/-- `RunH` for the lines of `HLine`; for an import line at indent `i` the side conditions of `refine_imp_at` -/
def RunN (tbl : UnitTable) : Env → List NLine → Prop
  | _, [] => True
  | env, .base l :: rest =>
    RunH tbl env [l] ∧ ∀ it env', l.item = some it → step tbl env it = .ok env' → RunN tbl env' rest
  | env, .imp i pre dest source q :: rest =>
    InFrag (absEnv env) (.imp dest source q) ∧ '{' ∉ joinDot pre ∧ ImpPathOK env.parents i pre dest ∧
    ∀ env', step tbl env (.node (impAt i pre source q)) = .ok env' → RunN tbl env' rest

theorem refine_runN (tbl : UnitTable) (lines : List NLine) (items : List Item) (env : Env) (s' : SEnv)
    (hinv : Inv tbl env) (hrun : RunN tbl env lines) (hc : lines.mapM NLine.item = some items)
    (h : sRun tbl (absEnv env) (lines.filterMap NLine.stmt?) = .ok s') :
    ∃ env', items.foldlM (step tbl) env = .ok env' ∧ absEnv env' = s' ∧ Inv tbl env' := by
  refine sim_run tbl NLine.item NLine.stmt? (Inv tbl) (RunN tbl) ?_ lines items env s' hinv hrun hc h
  intro env l rest it s1 hinv hr hit h1
  cases l with
  | base l0 =>
    obtain ⟨env1, hstep, habs, hinv1⟩ := refine_hline tbl l0 it env s1 hinv hr.1 hit h1
    exact ⟨env1, hstep, habs, hinv1, hr.2 it env1 hit hstep⟩
  | imp i pre dest source q =>
    cases hit
    obtain ⟨hf, hpre, hpath, hnext⟩ := hr
    obtain ⟨env1, hstep, habs, hinv1⟩ :=
      refine_imp_at tbl env hinv i pre dest source q s1 hf hpre hpath (sRun_single tbl _ s1 _ h1)
    exact ⟨env1, hstep, habs, hinv1, hnext env1 hstep⟩

theorem runN_of_runH (tbl : UnitTable) (lines : List HLine) (env : Env) (h : RunH tbl env lines) :
    RunN tbl env (lines.map NLine.base) := by
  induction lines generalizing env with
  | nil => trivial
  | cons l rest ih =>
    obtain ⟨h0, hnext⟩ := runH_cons tbl env l rest h
    exact ⟨h0, fun it env' hit hst => ih env' (hnext it env' hit hst)⟩

end SciVerif.C17
