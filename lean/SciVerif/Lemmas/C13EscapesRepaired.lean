import SciVerif.Lemmas.C13Lexer
/-!
C13 — the escape marks of `DIP._determine_node` as repaired by commit e0ecb06: the mark `$@` itself is
replaced first (`$@` → `$@03`) and restored last, so that a text which *contains* `$@00`, `$@01`,
`$@02` (or any `$@…`) literally comes back unchanged.  `encodeM` / `decodeM` model the repaired
functions: `encode` / `decode` of `Model/C13.lean` (three marks, the code before that commit) inside
the outer `$@` step; no Mathlib, so the driver can run them.
-/
namespace SciVerif.C13
open SciVerif.Util

/-- the start `$@` of every mark -/
def markAt : Str := ['$', '@']
/-- the mark `$@03` that stands for a literal `$@` -/
def enc3 : Str := ['$', '@', '0', '3']

/-- `line.replace("$@", "$@03")` — the first encoding step of the repaired code -/
def esc (s : Str) : Str := replaceAll markAt enc3 s

/-- the repaired encoding: the mark itself first, then the three marks of `encode` -/
def encodeM (s : Str) : Str := encode (esc s)
/-- the repaired decoding: the three marks of `decode`, the mark itself last -/
def decodeM (s : Str) : Str := replaceAll enc3 markAt (decode s)

theorem esc_nil : esc [] = [] := replaceAll_nil _ _

theorem esc_mark (t : Str) : esc ('$' :: '@' :: t) = '$' :: '@' :: '0' :: '3' :: esc t :=
  replaceAll_hit markAt enc3 t (by decide)

theorem esc_other (c : Char) (t : Str) (h : ¬ (c = '$' ∧ t.head? = some '@')) :
    esc (c :: t) = c :: esc t := by
  simp only [esc]
  by_cases hc : c = '$'
  · subst hc
    have ht : t.head? ≠ some '@' := fun e => h ⟨rfl, e⟩
    apply replaceAll_step
    cases t with
    | nil => rfl
    | cons x r =>
      have hx : x ≠ '@' := fun e => ht (by simp [e])
      simp [markAt, List.isPrefixOf, Ne.symm hx]
  · exact replaceAll_head _ _ c (by simp [markAt, Ne.symm hc]) t

theorem esc_head (s : Str) : (esc s).head? = s.head? := by
  cases s with
  | nil => rw [esc_nil]
  | cons c t =>
    by_cases h : c = '$' ∧ t.head? = some '@'
    · obtain ⟨rfl, ht⟩ := h
      cases t with
      | nil => simp at ht
      | cons x r =>
        have : x = '@' := by simpa using ht
        subst this
        rw [esc_mark]; rfl
    · rw [esc_other c t h]; rfl

/-- induction along the way `esc` reads its argument: nothing left, a mark `$@` and the rest, or one character
    that does not begin a mark -/
theorem esc_induction {motive : Str → Prop} (nil : motive [])
    (mark : ∀ t, motive t → motive ('$' :: '@' :: t))
    (other : ∀ c t, ¬ (c = '$' ∧ t.head? = some '@') → motive t → motive (c :: t)) : ∀ s, motive s := by
  have both : ∀ s, motive s ∧ motive s.tail := by
    intro s
    induction s with
    | nil => exact ⟨nil, nil⟩
    | cons c t ih =>
      refine ⟨?_, ih.1⟩
      by_cases h : c = '$' ∧ t.head? = some '@'
      · obtain ⟨rfl, ht⟩ := h
        cases t with
        | nil => simp at ht
        | cons x r =>
          obtain rfl : x = '@' := by simpa using ht
          exact mark r ih.2
      · exact other c t h ih.1
  exact fun s => (both s).1

theorem mark_not_prefix (d : Char) (c : Char) (t : Str) (h : ¬ (c = '$' ∧ t.head? = some '@')) :
    List.isPrefixOf ['$', '@', '0', d] (c :: esc t) = false := by
  by_cases hc : c = '$'
  · subst hc
    have ht : (esc t).head? ≠ some '@' := by rw [esc_head]; exact fun e => h ⟨rfl, e⟩
    cases he : esc t with
    | nil => simp [List.isPrefixOf]
    | cons x r =>
      have hx : x ≠ '@' := fun e => ht (by simp [he, e])
      simp [List.isPrefixOf, Ne.symm hx]
  · simp [List.isPrefixOf, Ne.symm hc]

/-- after the first step no mark `$@00`, `$@01`, `$@02` occurs: every `$@` is followed by `03` -/
theorem replaceAll_oldmark_esc (d : Char) (hd : d ≠ '3') (rep : Str) :
    ∀ s : Str, replaceAll ['$', '@', '0', d] rep (esc s) = esc s := by
  apply esc_induction
  · rw [esc_nil]; exact replaceAll_nil _ _
  · intro t ih
    rw [esc_mark, replaceAll_step _ _ '$' _ (by simp [List.isPrefixOf, hd]),
      replaceAll_head _ _ '@' (by simp), replaceAll_head _ _ '0' (by simp),
      replaceAll_head _ _ '3' (by simp), ih]
  · intro c t h ih
    rw [esc_other c t h, replaceAll_step _ _ c _ (mark_not_prefix d c t h), ih]

theorem replaceAll_enc3_esc : ∀ s : Str, replaceAll enc3 markAt (esc s) = s := by
  apply esc_induction
  · rw [esc_nil]; exact replaceAll_nil _ _
  · intro t ih
    rw [esc_mark, show '$' :: '@' :: '0' :: '3' :: esc t = enc3 ++ esc t from rfl, replaceAll_hit _ _ _ (by decide), ih]
    rfl
  · intro c t h ih
    rw [esc_other c t h, enc3, replaceAll_step _ _ c _ (mark_not_prefix '3' c t h), ← enc3, ih]

theorem NoEsc_esc : ∀ s : Str, NoEsc s → NoEsc (esc s) := by
  apply esc_induction
  · intro _; rw [esc_nil]; decide
  · intro t ih hne
    rw [esc_mark]
    have ht : NoEsc t := fun c hc => hne c (by simp [hc])
    exact NoEsc_append (a := ['$', '@', '0', '3']) (by decide) (ih ht)
  · intro c t h ih hne
    rw [esc_other c t h]
    exact NoEsc_append (a := [c]) (fun x hx => hne x (List.mem_cons.mpr (.inl (List.mem_singleton.mp hx)))) (ih (fun x hx => hne x (by simp [hx])))

theorem esc_noDollar (s : Str) (h : ∀ c ∈ s, c ≠ '$') : esc s = s :=
  replaceAll_id _ _ '$' rfl s h

theorem encodeM_noDollar (s : Str) (h : ∀ c ∈ s, c ≠ '$') : encodeM s = encode s := by
  simp only [encodeM, esc_noDollar s h]

theorem decodeM_noDollar (x : Str) (h : ∀ c ∈ decode x, c ≠ '$') : decodeM x = decode x :=
  replaceAll_id _ _ '$' rfl _ h

end SciVerif.C13
