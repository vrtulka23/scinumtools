import SciVerif.Lemmas.C17Abstraction

/-! Refinement (C17): requests and injection.  The model's string requests against the
    specification's path queries; statements written as line records (`conc`) with their side
    conditions (`InFrag`); definition and modification lines — with a literal or an injected value,
    at any indentation, under either invariant — simulated by the main loop. -/
namespace SciVerif.C17

/-- a query text that `NodeList.query` reads as an exact path, and without `?`, so that `splitQ` cuts the request before it -/
def ExactText (q : Str) : Prop := q ≠ ['*'] ∧ q.drop (q.length - 2) ≠ dotStar ∧ '?' ∉ q

/-- a source name usable in `{source?query}` -/
def WFSource (source : Option Str) : Prop := ∀ s, source = some s → s ≠ [] ∧ '?' ∉ s

/-- the request text `source?p` of an exact path (`source.getD [] ++ '?' :: renderQ (.exact p)`, by `rfl`) -/
def renderRef (source : Option Str) (p : List Str) : Str := source.getD [] ++ '?' :: joinDot p

/-- the query text of a path query; `toQuery` is the model's query that text is read as (`parse_render`, for `WFQ` queries) -/
def renderQ : SQuery → Str
  | .all => ['*']
  | .children p => joinDot p ++ ['.', '*']
  | .exact p => joinDot p

def toQuery : SQuery → Query
  | .all => .all
  | .children p => .children (joinDot p ++ ['.'])
  | .exact p => .exact (joinDot p)

/-- the paths of a query are paths (`WFPath`) and its text has no `?`, is not `*` and, for an exact path, does not end in `.*` -/
def WFQ : SQuery → Prop
  | .all => True
  | .children p => WFPath p ∧ '?' ∉ joinDot p
  | .exact p => WFPath p ∧ ExactText (joinDot p)

theorem parse_render (q : SQuery) (h : WFQ q) : parseQuery (renderQ q) = toQuery q ∧ '?' ∉ renderQ q := by
  cases q with
  | all => simp [renderQ, toQuery, parseQuery]
  | children p => exact ⟨parseQuery_children (joinDot p), by simp [renderQ, h.2]⟩
  | exact p =>
    obtain ⟨_, h1, h2, h3⟩ := h
    exact ⟨by simp [renderQ, toQuery, parseQuery, h1, h2], h3⟩

theorem matches_abs (q : SQuery) (hq : WFQ q) (n : Node) :
    sMatches q (absN n) = qMatches (toQuery q) n := by
  cases q with
  | all => rfl
  | children p =>
    simp only [sMatches, toQuery, qMatches, absN_path]
    rw [Bool.eq_iff_iff, (children_match p hq.1 n.name).1, Bool.and_eq_true]
    exact and_congr_right fun _ => decide_eq_true_iff
  | exact p =>
    simp only [sMatches, toQuery, qMatches, absN_path]
    rw [Bool.eq_iff_iff]
    refine decide_eq_true_iff.trans (Iff.trans ?_ decide_eq_true_iff.symm)
    exact ⟨fun e => by rw [← e, joinDot_splitDot], fun e => by rw [e, splitDot_joinDot p hq.1]⟩

theorem select_abs (q : SQuery) (hq : WFQ q) (ns : List Node) :
    select q (ns.map absN) = (ns.filter (qMatches (toQuery q))).map absN := by
  unfold select
  rw [List.filter_map]
  congr 1
  apply List.filter_congr
  intro n _
  simp [Function.comp, matches_abs q hq n]

theorem request_render {env : Env} {src qt : Str} {ns : List Node} (cnt : Count) (hs : '?' ∉ src) (hq : '?' ∉ qt)
    (hreq : requestNodes env src qt = .ok ns) : request env (src ++ '?' :: qt) cnt = countCheck cnt ns := by
  unfold request
  rw [splitQ_render _ _ hs hq]
  simp only [hreq]

theorem query_length_abs (q : SQuery) (hq : WFQ q) (ns : List Node) :
    (query ns (toQuery q)).length = (select q (ns.map absN)).length := by
  rw [select_abs q hq ns]
  simp [query]

/-- The request `{source?q}` of the model, in full — errors included — as the count test on the query of the
    node list `ns` behind the specification's lookup `ss = ns.map absN`: every lemma about a request that
    succeeds, selects nothing or is rejected reads it off this one. -/
theorem request_abs (tbl : UnitTable) {G : Node → Prop} (hG : NodeInv tbl G) (env : Env)
    (hinv : InvG tbl G env) (source : Option Str) (hws : WFSource source) (q : SQuery) (hq : WFQ q)
    (ss : List SNode) (h : sLookup (absEnv env) source = some ss) (cnt : Count) :
    ∃ ns, request env (source.getD [] ++ '?' :: renderQ q) cnt = countCheck cnt (query ns (toQuery q)) ∧
      ss = ns.map absN ∧ ∀ n ∈ ns, G n := by
  obtain ⟨hpq, hqq⟩ := parse_render q hq
  revert h
  fun_cases sLookup (absEnv env) source <;> intro h
  · cases h
  · rename_i hne
    cases h
    have hne : env.nodes.isEmpty = false := by simpa [absEnv] using hne
    exact ⟨env.nodes, request_render cnt List.not_mem_nil hqq (by simp [requestNodes, hne, hpq]), rfl, hinv.1⟩
  · rename_i s
    have hcomp : ((fun x : Str × List SNode => decide (x.1 = s)) ∘
        fun s : Str × List Node => (s.1, List.map absN s.2)) = fun x => decide (x.1 = s) := by
      funext x; rfl
    simp only [absEnv, List.find?_map, hcomp] at h
    obtain ⟨_, hf', rfl⟩ := Option.map_eq_some_iff.mp h
    obtain ⟨src, hf, rfl⟩ := Option.map_eq_some_iff.mp hf'
    have hse : s.isEmpty = false := by have := (hws s rfl).1; cases s <;> simp_all
    exact ⟨src.2, request_render cnt (hws s rfl).2 hqq (by simp [requestNodes, hse, hf, hpq]), rfl,
      fun n hn => hG.ofGood (hinv.2 src (List.mem_of_find?_eq_some hf) n hn)⟩

theorem sEval_inj_ok {senv : SEnv} {source : Option Str} {q : SQuery} {sl : List Sl} {v : Val}
    {u : Option Str} (h : sEval senv (.inj source q sl) = .ok (v, u)) :
    ∃ ss n val, sLookup senv source = some ss ∧ select q ss = [n] ∧ n.value = some val ∧
      specSlice sl val = some v ∧ u = n.unit := by
  generalize hst : SVal.inj source q sl = sv at h
  revert h
  fun_cases sEval senv sv <;> cases hst <;> intro h
  · cases h
  · cases h
  · rename_i ss n val hval w hl hsel hsp
    cases h
    exact ⟨ss, n, val, hl, hsel, hval, hsp, rfl⟩
  · cases h
  · cases h

theorem sEval_inj_rejected {senv : SEnv} {source : Option Str} {q : SQuery} {sl : List Sl}
    (h : sEval senv (.inj source q sl) = .error .rejected) :
    ∃ ss, sLookup senv source = some ss ∧ ∀ n, select q ss ≠ [n] := by
  generalize hst : SVal.inj source q sl = sv at h
  revert h
  fun_cases sEval senv sv <;> cases hst <;> intro h
  · cases h
  · cases h
  · cases h
  · cases h
  · rename_i ss hl hne
    exact ⟨ss, hl, fun n hn => hne n hn⟩

theorem sEval_inj (tbl : UnitTable) {G : Node → Prop} (hG : NodeInv tbl G) (env : Env)
    (hinv : InvG tbl G env) (source : Option Str)
    (hws : WFSource source) (p : List Str) (hp : WFPath p) (hq : ExactText (joinDot p)) (sl : List Sl)
    (v : Val) (u : Option Str) (h : sEval (absEnv env) (.inj source (.exact p) sl) = .ok (v, u)) :
    ∃ src vs ss, request env (renderRef source p) .one = .ok [qRename (.exact (joinDot p)) src] ∧
      src.value = some vs ∧ Conf src.kw vs ∧ specSlice sl vs = some v ∧
      u = src.unitsRaw ∧ sLookup (absEnv env) source = some ss ∧ select (.exact p) ss = [absN src] := by
  obtain ⟨ss, s, vs, hl, hsel, hval, hsp, rfl⟩ := sEval_inj_ok h
  obtain ⟨ns, hreq, hss, hgood⟩ := request_abs tbl hG env hinv source hws (.exact p) ⟨hp, hq⟩ ss hl .one
  have hsel' := hsel
  rw [hss, select_abs (.exact p) ⟨hp, hq⟩ ns, List.map_eq_singleton_iff] at hsel'
  obtain ⟨src, hfl, rfl⟩ := hsel'
  have hmem : src ∈ ns := (List.mem_filter.mp (by rw [hfl]; simp)).1
  have hvs : src.value = some vs := hval
  obtain ⟨vs', hvs', hconf⟩ := good_conf (goodD_good (hG.weaken (hgood src hmem)) (by simp [hvs]))
  obtain rfl : vs' = vs := Option.some.inj (hvs'.symm.trans hvs)
  refine ⟨src, vs', ss, ?_, hvs, hconf, hsp, rfl, hl, hsel⟩
  show request env (source.getD [] ++ '?' :: renderQ (.exact p)) .one = _
  have hfl' : ns.filter (qMatches (.exact (joinDot p))) = [src] := hfl
  rw [hreq]
  simp [query, toQuery, hfl', countCheck]

def blank (name : Str) (kw : Kw) : Node :=
  { name := name
    indent := 0
    kw := kw
    dims := []
    raw := none
    ref := none
    slice := []
    unitsRaw := none
    value := none
    defined := false
    constant := false
    condition := none
    format := none
    tags := []
    options := []
    description := none
    imported := false }

/-- the name `nm` below the path `dest`: `joinDot (dest ++ [nm])` (`joinDot_snoc`), what the model's `importName`
    gives for the import line `dest {…}` (`importName_impLine`) -/
def impName (dest : List Str) (nm : Str) : Str :=
  match dest with
  | [] => nm
  | d :: ds => joinDot (d :: ds) ++ '.' :: nm

def WFDest (dest : List Str) : Prop := ∀ c ∈ dest, '.' ∉ c

/-- the name the lexer gives the import line `dest {ref}` (or `{ref}`) -/
def impLineName (dest : List Str) (ref : Str) : Str :=
  match dest with
  | [] => '{' :: (ref ++ ['}'])
  | d :: ds => joinDot (d :: ds) ++ '.' :: '{' :: (ref ++ ['}'])

def impLine (dest : List Str) (source : Option Str) (q : SQuery) : Node :=
  { blank (impLineName dest (source.getD [] ++ '?' :: renderQ q)) .imp with
    ref := some (source.getD [] ++ '?' :: renderQ q) }

/-- a definition / modification line with a literal value -/
def litNode (path : List Str) (kw : Kw) (dims : List Dim) (v : Val) (unit : Option Str) : Node :=
  { blank (joinDot path) kw with dims := dims, raw := some v, unitsRaw := unit }

/-- a definition / modification line with an injected value `{source?p}[sl]` -/
def refNode (path : List Str) (kw : Kw) (dims : List Dim) (ref : Str) (sl : List Sl)
    (unit : Option Str) : Node :=
  { blank (joinDot path) kw with dims := dims, ref := some ref, slice := sl, unitsRaw := unit }

/-- The line (at indent 0, full dotted name) that states a statement of the fragment.  A modification by
    reference has a line only without slice (`modify_value` casts by the TARGET's slice, not the line's): sliced
    ones are outside the fragment here, not in `InFrag`. -/
def conc : SStmt → Option Item
  | .defn path kw dims (.lit v) unit => some (.node (litNode path kw dims v unit))
  | .defn path kw dims (.inj source (.exact p) sl) unit =>
    some (.node (refNode path kw dims (renderRef source p) sl unit))
  | .modl path (.lit v) unit => some (.node (litNode path .mod [] v unit))
  | .modl path (.inj source (.exact p) []) unit =>
    some (.node (refNode path .mod [] (renderRef source p) [] unit))
  | .imp dest source q => some (.node (impLine dest source q))
  | _ => none

/-- side conditions of the proved fragment, evaluated in the current specification environment:
    well-formed paths and request texts; an injected definition takes a node of its own type;
    integer nodes stay dimensionless (unit conversion of integers is C14's business); an import
    selects at least one node -/
def InFrag (senv : SEnv) : SStmt → Prop
  | .defn path kw _ sv unit =>
    WFPath path ∧ isTyped kw = true ∧
    (∀ v u, sEval senv sv = .ok (v, u) → kw = .int → unit = none ∧ u = none) ∧
    (match sv with
     | .lit _ => True
     | .inj source (.exact p) _ => WFSource source ∧ WFPath p ∧ ExactText (joinDot p) ∧
         ∀ ss s, sLookup senv source = some ss → select (.exact p) ss = [s] → s.kw = kw
     | _ => False)
  | .modl path sv _ =>
    WFPath path ∧
    (match sv with
     | .lit _ => True
     | .inj source (.exact p) _ => WFSource source ∧ WFPath p ∧ ExactText (joinDot p)
     | _ => False)
  | .imp dest source q =>
    WFSource source ∧ WFDest dest ∧ '{' ∉ joinDot dest ∧ '{' ∉ source.getD [] ++ '?' :: renderQ q ∧ WFQ q ∧
    ∀ ss, sLookup senv source = some ss → select q ss ≠ []
  | _ => False

theorem injectValue_none (env : Env) (n : Node) (h : n.ref = none) : injectValue env n = .ok n := by
  simp [injectValue, h]

theorem pickUnit_none (u : Option Str) : pickUnit u none = u := by cases u <;> rfl

/-- the line record `n` carries the value `sv`: a literal as raw value, or a well-formed exact reference with its slice -/
def States (n : Node) : SVal → Prop
  | .lit v => n.ref = none ∧ n.raw = some v ∧ n.slice = []
  | .inj source (.exact p) sl =>
    (WFSource source ∧ WFPath p ∧ ExactText (joinDot p)) ∧ n.ref = some (renderRef source p) ∧ n.slice = sl
  | _ => False

/-- `inject_value` against `sEval`: the line receives the raw value `vs` that `v` is cut from and the own-or-adopted
    unit.  The last conjunct says where `vs` comes from — the literal, or a source node of the abstraction whose own
    type it conforms to; only `refine_defn` reads it. -/
theorem injectValue_sim (tbl : UnitTable) {G : Node → Prop} (hG : NodeInv tbl G) (env : Env)
    (hinv : InvG tbl G env) (n : Node) (sv : SVal) (v : Val) (u : Option Str) (hn : States n sv)
    (hev : sEval (absEnv env) sv = .ok (v, u)) :
    ∃ vs, injectValue env n = .ok { n with raw := some vs, unitsRaw := pickUnit n.unitsRaw u } ∧
      specSlice n.slice vs = some v ∧
      (sv = .lit vs ∨ ∃ source p sl src ss, sv = .inj source (.exact p) sl ∧ Conf src.kw vs ∧
        sLookup (absEnv env) source = some ss ∧ select (.exact p) ss = [absN src]) := by
  unfold States at hn
  split at hn
  · obtain ⟨href, hraw, hsl⟩ := hn
    cases hev
    refine ⟨v, ?_, by rw [hsl]; rfl, Or.inl rfl⟩
    rw [injectValue_none env n href, pickUnit_none]
    cases n
    simp_all
  · rename_i source p sl
    obtain ⟨⟨hws, hp, hq⟩, href, hsl⟩ := hn
    obtain ⟨src, vs, ss, hreq, hvs, hconf, hsp, hu, hl, hsel⟩ :=
      sEval_inj tbl hG env hinv source hws p hp hq sl v u hev
    refine ⟨vs, ?_, by rw [hsl]; exact hsp, Or.inr ⟨source, p, sl, src, ss, rfl, hconf, hl, hsel⟩⟩
    obtain ⟨nm, e⟩ := qRename_eq (.exact (joinDot p)) src
    rw [injectValue_single href hreq, e, hu]
    rw [rawValue_some (n := { src with name := nm }) hvs]
  · exact hn.elim

theorem step_node (tbl : UnitTable) (env : Env) (n n' : Node) (hk : n.kw ≠ .imp)
    (hi : injectValue env n = .ok n') : step tbl env (.node n) = processNode tbl env n' := by
  simp [step, hk, hi]

/-- A definition line (literal or injected value, any slice) at any indentation.  `habs` says that `n` is a bare
    line: its abstraction is the new node of `sStep` before a value is set. -/
theorem refine_defn (tbl : UnitTable) {G : Node → Prop} (hG : NodeInv tbl G) (env : Env)
    (hinv : InvG tbl G env) (n : Node) (path : List Str) (kw : Kw) (dims : List Dim) (sv : SVal)
    (unit : Option Str) (s' : SEnv) (hfrag : InFrag (absEnv env) (.defn path kw dims sv unit))
    (habs : absN n = ⟨splitDot n.name, kw, dims, unit, none, false, none, none, [], [], none⟩)
    (hn : States n sv) (hreg : regNameOf env.parents n.indent n.name = joinDot path)
    (h : sStep tbl (absEnv env) (.defn path kw dims sv unit) = .ok s') :
    ∃ env', step tbl env (.node n) = .ok env' ∧ absEnv env' = s' ∧ InvG tbl G env' := by
  obtain ⟨hp, hk, hintg, hsv⟩ := hfrag
  simp only [absN, SNode.mk.injEq, true_and] at habs
  obtain ⟨rfl, rfl, rfl, hnv, hattr⟩ := habs
  obtain ⟨hno, v, u, v', hev, hu, hcf, rfl⟩ := sStep_defn_ok h
  obtain ⟨rfl, hcv⟩ := conforms_self n.kw n.dims v v' hcf
  obtain ⟨vs, hinj, hsp, hsrc⟩ := injectValue_sim tbl hG env hinv n sv v' u hn hev
  -- the raw value conforms to the line's type: a literal because the specification accepted it, an injected
  -- one because it conforms to its source's type, which is the line's (`InFrag`)
  have hconf : Conf n.kw vs := by
    rcases hsrc with rfl | ⟨source, p, sl, src, ss, rfl, hc, hl, hsel⟩
    · obtain ⟨_, _, hsl⟩ := hn
      rw [hsl] at hsp
      cases hsp
      exact hcv
    · have hkw : (absN src).kw = n.kw := hsv.2.2.2 ss (absN src) hl hsel
      rw [← hkw]; exact hc
  have hcast := castValue_inject { n with raw := some vs, unitsRaw := pickUnit n.unitsRaw u }
    vs v' v' hk hconf hsp hcf
  have hint : n.kw = .int → pickUnit n.unitsRaw u = none := by
    intro hki
    obtain ⟨h1, h2⟩ := hintg v' u hev hki
    simp [h1, h2, pickUnit]
  obtain ⟨env', hpn, habs', hinv'⟩ := new_core tbl env hinv
    { n with raw := some vs, unitsRaw := pickUnit n.unitsRaw u }
    { n with name := joinDot path, raw := some vs, unitsRaw := pickUnit n.unitsRaw u,
             value := some v', slice := [] }
    path hp hreg hk hu hno (setValue_def _ vs v' (typed_ne hk).1 rfl hnv hcast) rfl rfl
    (hG.ofGood ⟨hk, ⟨v', rfl, hcf⟩, rfl, hu, hint⟩)
  refine ⟨env', by rw [step_node tbl env n _ (typed_ne hk).2.2 hinj]; exact hpn, ?_, hinv'⟩
  rw [habs']
  simp [absN, splitDot_joinDot path hp, hattr]

/-- A modification line at any indentation.  The statement's unit is the line's own (`m.unitsRaw`); `hsl`: the line
    carries no slice (with one, `modify_value` would cut by the TARGET's slice: outside the fragment, see `conc`). -/
theorem refine_modl (tbl : UnitTable) {G : Node → Prop} (hG : NodeInv tbl G) (env : Env)
    (hinv : InvG tbl G env) (m : Node) (path : List Str) (sv : SVal) (s' : SEnv) (hp : WFPath path)
    (hk : m.kw = .mod) (hm : States m sv) (hsl : m.slice = [])
    (hreg : regNameOf env.parents m.indent m.name = joinDot path)
    (h : sStep tbl (absEnv env) (.modl path sv m.unitsRaw) = .ok s') :
    ∃ env', step tbl env (.node m) = .ok env' ∧ absEnv env' = s' ∧ InvG tbl G env' := by
  simp only [sStep] at h
  cases hev : sEval (absEnv env) sv with
  | error e => simp [hev] at h
  | ok vu =>
    obtain ⟨v, u⟩ := vu
    simp only [hev] at h
    cases hup : sUpdate path (specModF tbl v (pickUnit m.unitsRaw u)) (absEnv env).nodes with
    | none => simp [hup] at h
    | some ss' =>
      simp only [hup, Except.ok.injEq] at h
      obtain ⟨vs, hinj, hsp, _⟩ := injectValue_sim tbl hG env hinv m sv v u hm hev
      rw [hsl] at hsp
      cases hsp
      obtain ⟨env', hpn, habs, hinv'⟩ := mod_core tbl hG env hinv
        { m with raw := some v, unitsRaw := pickUnit m.unitsRaw u } path v ss' hp hreg hk rfl hup
      exact ⟨env', by rw [step_node tbl env m _ (by rw [hk]; decide) hinj]; exact hpn,
        by rw [habs, ← h], hinv'⟩

theorem request_rejected (tbl : UnitTable) (env : Env) (hinv : Inv tbl env) (source : Option Str)
    (hws : WFSource source) (q : SQuery) (hq : WFQ q) (sl : List Sl)
    (h : sEval (absEnv env) (.inj source q sl) = .error .rejected) :
    ∃ e, request env (source.getD [] ++ '?' :: renderQ q) .one = .error e := by
  obtain ⟨ss, hl, hne⟩ := sEval_inj_rejected h
  obtain ⟨ns, hreq, hss, _⟩ := request_abs tbl (nodeInv_good tbl) env hinv source hws q hq ss hl .one
  refine ⟨"request: count", ?_⟩
  rw [hreq, countCheck, if_neg]
  intro hlen
  rw [query_length_abs q hq ns, ← hss] at hlen
  obtain ⟨n, hn⟩ := List.length_eq_one_iff.mp hlen
  exact hne n hn

end SciVerif.C17
