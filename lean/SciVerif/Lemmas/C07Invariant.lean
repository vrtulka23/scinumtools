import SciVerif.Model.C07

/-!
The heap invariant `WF` of C07 and its preservation by the primitive writes: taking fresh locations, and
overwriting one entry of one of the five stores.  Every heap action of the model is a composition of these.
-/
namespace SciVerif.C07

@[simp] theorem upd_same {α : Type} (f : Loc → Option α) (l : Loc) (c : α) : upd f l c l = some c :=
  if_pos rfl

theorem upd_ne {α : Type} (f : Loc → Option α) (l i : Loc) (c : α) (h : i ≠ l) : upd f l c i = f i :=
  if_neg h

theorem upd_cases {α : Type} {f : Loc → Option α} {l i : Loc} {c v : α} (e : upd f l c i = some v) :
    (i = l ∧ v = c) ∨ (i ≠ l ∧ f i = some v) := by
  unfold upd at e
  split at e
  · next hi => exact .inl ⟨hi, (Option.some.inj e).symm⟩
  · next hi => exact .inr ⟨hi, e⟩

theorem upd_forall {α : Type} {f : Loc → Option α} {l : Loc} {c : α} {P : Loc → α → Prop}
    (hold : ∀ i v, f i = some v → P i v) (hnew : P l c) : ∀ i v, upd f l c i = some v → P i v := by
  intro i v e
  rcases upd_cases e with ⟨rfl, rfl⟩ | ⟨_, e⟩
  · exact hnew
  · exact hold i v e

theorem upd_isSome {α : Type} {f : Loc → Option α} (l : Loc) (c : α) {i : Loc} (e : ∃ v, f i = some v) :
    ∃ v, upd f l c i = some v := by
  by_cases hi : i = l
  · exact ⟨c, hi ▸ upd_same f l c⟩
  · exact (upd_ne f l i c hi).symm ▸ e

/-- The invariant.  Bounds (`*_lt`), no dangling reference (`q_ok m_ok b_ok`), an error array only together
    with a value array (`shaped`), and OWNERSHIP: a Magnitude object belongs to at most one quantity
    (`own_mag`), an array object to at most one attribute of one Magnitude (`own_arr`). -/
structure WF (h : Heap) : Prop where
  q_lt : ∀ l c, h.q l = some c → l < h.n
  m_lt : ∀ l c, h.m l = some c → l < h.n
  a_lt : ∀ l c, h.a l = some c → l < h.n
  b_lt : ∀ l c, h.b l = some c → l < h.n
  d_lt : ∀ l c, h.d l = some c → l < h.n
  q_ok : ∀ l c, h.q l = some c → (∃ mc, h.m c.mag = some mc) ∧ (∃ bc, h.b c.bu = some bc)
  m_ok : ∀ l c f r, h.m l = some c → c.field f = .arr r → ∃ t, h.a r = some t
  b_ok : ∀ l c, h.b l = some c → ∃ dc, h.d c.dict = some dc ∧ dc.normalised = true
  shaped : ∀ l c r, h.m l = some c → c.error = .arr r → c.value.isArr = true
  own_mag : ∀ x y cx cy, h.q x = some cx → h.q y = some cy → cx.mag = cy.mag → x = y
  own_arr : ∀ l1 l2 c1 c2 f1 f2 r, h.m l1 = some c1 → h.m l2 = some c2 →
      c1.field f1 = .arr r → c2.field f2 = .arr r → l1 = l2 ∧ f1 = f2

theorem WF.empty : WF Heap.empty := by
  constructor <;> intros <;> simp_all [Heap.empty]

/-- no Magnitude holds the array `r`: it can become an attribute without being shared -/
def Unref (h : Heap) (r : Loc) : Prop := ∀ l c f, h.m l = some c → c.field f ≠ .arr r

/-- no quantity holds the Magnitude `ml`: it can become a quantity's Magnitude without being shared -/
def Unowned (h : Heap) (ml : Loc) : Prop := ∀ x c, h.q x = some c → c.mag ≠ ml

theorem WF.bump {h : Heap} (w : WF h) {n : Nat} (hn : h.n ≤ n) : WF { h with n := n } :=
  { w with
    q_lt := fun l c e => Nat.lt_of_lt_of_le (w.q_lt l c e) hn
    m_lt := fun l c e => Nat.lt_of_lt_of_le (w.m_lt l c e) hn
    a_lt := fun l c e => Nat.lt_of_lt_of_le (w.a_lt l c e) hn
    b_lt := fun l c e => Nat.lt_of_lt_of_le (w.b_lt l c e) hn
    d_lt := fun l c e => Nat.lt_of_lt_of_le (w.d_lt l c e) hn }

theorem WF.upd_a {h : Heap} (w : WF h) {l : Loc} (hl : l < h.n) (t : Tok) :
    WF { h with a := upd h.a l t } :=
  { w with
    a_lt := upd_forall w.a_lt hl
    m_ok := fun l' c f r hm hf => upd_isSome l t (w.m_ok l' c f r hm hf) }

theorem WF.upd_m {h : Heap} (w : WF h) {l : Loc} (hl : l < h.n) (c : Mag)
    (harr : ∀ f r, c.field f = .arr r → (∃ t, h.a r = some t) ∧
      ∀ l' c' f', h.m l' = some c' → c'.field f' = .arr r → l' = l)
    (hne : ∀ r, c.value = .arr r → c.error ≠ .arr r)
    (hsh : ∀ r, c.error = .arr r → c.value.isArr = true) :
    WF { h with m := upd h.m l c } :=
  { w with
    m_lt := upd_forall w.m_lt hl
    q_ok := fun x qc e => ⟨upd_isSome l c (w.q_ok x qc e).1, (w.q_ok x qc e).2⟩
    m_ok := fun l' c' f r e hf => by
      rcases upd_cases e with ⟨_, rfl⟩ | ⟨_, e⟩
      · exact (harr f r hf).1
      · exact w.m_ok l' c' f r e hf
    shaped := fun l' c' r e he => by
      rcases upd_cases e with ⟨_, rfl⟩ | ⟨_, e⟩
      · exact hsh r he
      · exact w.shaped l' c' r e he
    own_arr := fun l1 l2 c1 c2 f1 f2 r e1 e2 hf1 hf2 => by
      rcases upd_cases e1 with ⟨rfl, rfl⟩ | ⟨n1, o1⟩ <;> rcases upd_cases e2 with ⟨rfl, rfl⟩ | ⟨n2, o2⟩
      · refine ⟨rfl, ?_⟩
        cases f1 <;> cases f2
        · rfl
        · exact absurd hf1 (hne r hf2)
        · exact absurd hf2 (hne r hf1)
        · rfl
      · exact absurd ((harr f1 r hf1).2 l2 c2 f2 o2 hf2) n2
      · exact absurd ((harr f2 r hf2).2 l1 c1 f1 o1 hf1) n1
      · exact w.own_arr l1 l2 c1 c2 f1 f2 r o1 o2 hf1 hf2 }

/-- a new Quantity object, or `x.magnitude = …; x.baseunits = …` for the one at `x` -/
theorem WF.upd_q {h : Heap} (w : WF h) {x : Loc} (hx : x < h.n) (qc : Qty)
    (hm : ∃ c, h.m qc.mag = some c) (hb : ∃ c, h.b qc.bu = some c) (hu : Unowned h qc.mag) :
    WF { h with q := upd h.q x qc } :=
  { w with
    q_lt := upd_forall w.q_lt hx
    q_ok := upd_forall w.q_ok ⟨hm, hb⟩
    own_mag := fun y z cy cz ey ez he => by
      rcases upd_cases ey with ⟨rfl, rfl⟩ | ⟨_, oy⟩ <;> rcases upd_cases ez with ⟨rfl, rfl⟩ | ⟨_, oz⟩
      · rfl
      · exact absurd he.symm (hu z cz oz)
      · exact absurd he (hu y cy oy)
      · exact w.own_mag y z cy cz oy oz he }

theorem WF.upd_b {h : Heap} (w : WF h) {l : Loc} (hl : l < h.n) (bc : BU)
    (hd : ∃ dc, h.d bc.dict = some dc ∧ dc.normalised = true) :
    WF { h with b := upd h.b l bc } :=
  { w with
    b_lt := upd_forall w.b_lt hl
    q_ok := fun x qc e => ⟨(w.q_ok x qc e).1, upd_isSome l bc (w.q_ok x qc e).2⟩
    b_ok := upd_forall w.b_ok hd }

/-- A dict may be left un-normalised only while no BaseUnits object is over it (`b_ok` asks normalised dicts of
    every BaseUnits object): `BaseUnits.__init__` first builds the dict, then normalises it, then the object. -/
theorem WF.upd_d {h : Heap} (w : WF h) {l : Loc} (hl : l < h.n) (dc : DictC)
    (hn : dc.normalised = true ∨ ∀ bl bc, h.b bl = some bc → bc.dict ≠ l) :
    WF { h with d := upd h.d l dc } :=
  { w with
    d_lt := upd_forall w.d_lt hl
    b_ok := fun bl bc e => by
      obtain ⟨dc', e', hn'⟩ := w.b_ok bl bc e
      by_cases hl' : bc.dict = l
      · rcases hn with hn | hn
        · exact ⟨dc, hl' ▸ upd_same h.d l dc, hn⟩
        · exact absurd hl' (hn bl bc e)
      · exact ⟨dc', (upd_ne h.d l _ dc hl').trans e', hn'⟩ }

end SciVerif.C07
