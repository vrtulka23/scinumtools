import SciVerif.Lemmas.C13Blocks
/-!
`TableNode.parse` on a rendered table: header lines, an empty line, rows of simple cells.
-/
namespace SciVerif.C13
open SciVerif.Util

/-- a header line as written: column name, type keyword with suffix, optional dimension, optional unit -/
structure ColD where
  cname : Str
  a : Nat := 0
  ty : TyD
  dims : Option (List DimD) := none
  unit : Option (Nat × Str) := none

def ColD.render (c : ColD) : Str :=
  c.cname ++ (List.replicate (c.a + 1) ' ' ++ (c.ty.render ++ (renderDims c.dims ++ renderTail c.unit none)))

def ColD.Ok (c : ColD) : Prop :=
  NameOk c.cname ∧ DimsOk c.dims ∧ ∀ n x, c.unit = some (n, x) → UnitOk x

/-- the column node before the cells are attached -/
def ColD.node (tname : Str) (c : ColD) : Node × Bool :=
  ({ kind := .typed c.ty.ty, name := some (tname ++ ['.'] ++ c.cname), info := c.ty.info,
     units := c.unit.map Prod.snd }, c.dims.isSome)

theorem headerLine_render (tname : Str) (c : ColD) (hc : c.Ok) :
    headerLine tname c.render = .ok (c.node tname) := by
  obtain ⟨hn, hd, hu⟩ := hc
  obtain ⟨⟨c0, t0, hcn⟩, hall⟩ := hn
  have hb : HeadNot isNameCh
      (List.replicate (c.a + 1) ' ' ++ (c.ty.render ++ (renderDims c.dims ++ renderTail c.unit none))) := by
    rw [spaces_succ]; exact .cons (by decide) _
  have htw := takeWhile_append_headNot hall hb
  have hdw := dropWhile_append_headNot hall hb
  obtain ⟨hk, hpd⟩ := renderDims_after c.dims hd _ ((tail_head c.unit none).mono (by decide))
  have hpt := partType_kw c.a c.ty _ hk
  have hne : c.cname.isEmpty = false := by rw [hcn]; rfl
  have hhead : (List.replicate (c.a + 1) ' ' ++ (c.ty.render ++ (renderDims c.dims ++ renderTail c.unit none))).head? = some ' ' := by
    rw [spaces_succ]; rfl
  have hdv : (dimsValue c.dims).isSome = c.dims.isSome := by cases c.dims <;> rfl
  unfold headerLine
  simp only [ColD.render, htw, hdw, hne, Bool.false_eq_true, if_false, hhead, bne_self_eq_false, Bool.and_false,
    hpt, hpd, bind, Except.bind, partUnits_tail c.unit none hu]
  simp [renderComment, isBlank, ColD.node, hdv]

/-- a table cell the csv reader takes as it stands: non-empty, no blank, no double quote, no white space -/
def SimpleCell (c : Str) : Prop := (∃ x r, c = x :: r) ∧ ∀ ch ∈ c, ch ≠ ' ' ∧ ch ≠ '"' ∧ isWs ch = false

theorem csvGo_inField (flds : List Str) (rest : Str) : ∀ (r fld : Str), (∀ ch ∈ r, ch ≠ ' ') →
    csvGo .inField fld flds (r ++ rest) = csvGo .inField (r.reverse ++ fld) flds rest := by
  intro r
  induction r with
  | nil => intro fld _; rfl
  | cons x t ih =>
    intro fld h
    have hx : (x == ' ') = false := by simp [h x (by simp)]
    simp only [List.cons_append, csvGo, hx, Bool.false_eq_true, if_false]
    rw [ih (x :: fld) (fun ch hch => h ch (List.mem_cons_of_mem _ hch))]
    simp

/-- one simple cell: the last field at the end of the line, put away in front of a blank -/
theorem csvGo_cell (st : CsvSt) (hst : st = .startRec ∨ st = .startField) (c : Str) (hc : SimpleCell c)
    (flds : List Str) :
    csvGo st [] flds c = .ok (c :: flds).reverse ∧
    ∀ rest, csvGo st [] flds (c ++ ' ' :: rest) = csvGo .startField [] (c :: flds) rest := by
  obtain ⟨⟨x, r, rfl⟩, hc⟩ := hc
  have hx := hc x (by simp)
  have hstart : ∀ rest, csvGo st [] flds (x :: (r ++ rest)) = csvGo .inField (r.reverse ++ [x]) flds rest := by
    intro rest
    have hxq : (x == '"') = false := by simp [hx.2.1]
    have hxs : (x == ' ') = false := by simp [hx.1]
    rcases hst with rfl | rfl <;>
    · simp only [csvGo, hxq, hxs, Bool.false_eq_true, if_false]
      exact csvGo_inField flds rest r [x] (fun ch hch => (hc ch (List.mem_cons_of_mem _ hch)).1)
  refine ⟨?_, fun rest => ?_⟩
  · have h := hstart []
    rw [List.append_nil] at h
    rw [h, csvGo, ← List.reverse_cons, List.reverse_reverse]
  · rw [List.cons_append, hstart, csvGo, if_pos (by decide), ← List.reverse_cons, List.reverse_reverse]

theorem csvGo_cells : ∀ (cells : List Str) (flds : List Str) (st : CsvSt), cells ≠ [] →
    (st = .startRec ∨ st = .startField) → (∀ c ∈ cells, SimpleCell c) →
    csvGo st [] flds (joinWith [' '] cells) = .ok (flds.reverse ++ cells) := by
  intro cells
  induction cells with
  | nil => intro _ _ h; exact absurd rfl h
  | cons c t ih =>
    intro flds st _ hst hall
    obtain ⟨hend, hblank⟩ := csvGo_cell st hst c (hall c (by simp)) flds
    cases t with
    | nil => simpa [joinWith] using hend
    | cons c2 t2 =>
      simp only [joinWith, List.append_assoc, List.cons_append, List.nil_append]
      rw [hblank, ih (c :: flds) .startField (by simp) (.inr rfl) (fun y hy => hall y (List.mem_cons_of_mem _ hy))]
      simp

theorem csvRow_cells (cells : List Str) (hne : cells ≠ []) (h : ∀ c ∈ cells, SimpleCell c) :
    csvRow (joinWith [' '] cells) = .ok cells := by
  have := csvGo_cells cells [] .startRec hne (.inl rfl) h
  simpa [csvRow] using this

theorem head?_join {α : Type} (sep a : List α) (t : List (List α)) (ha : a ≠ []) :
    (join sep (a :: t)).head? = a.head? := by
  obtain ⟨x, r, rfl⟩ := List.exists_cons_of_ne_nil ha
  cases t <;> rfl

theorem getLast?_join {α : Type} (sep : List α) : ∀ (l : List (List α)) (a : List α), l.getLast? = some a → a ≠ [] →
    (join sep l).getLast? = a.getLast?
  | [], _, h, _ => nomatch h
  | [b], a, h, _ => by rw [List.getLast?_singleton] at h; rw [← Option.some.inj h]; rfl
  | b :: c :: t, a, h, ha => by
    rw [List.getLast?_cons_cons] at h
    rw [join, List.getLast?_append, getLast?_join sep (c :: t) a h ha, List.getLast?_eq_some_getLast ha]
    rfl

theorem strip_eq_trim : strip = trim isWs := rfl

/-- a row of simple cells starts and ends with a character of a cell, so `strip` leaves it as it is -/
theorem strip_row (cells : List Str) (hne : cells ≠ []) (h : ∀ c ∈ cells, SimpleCell c) :
    strip (joinWith [' '] cells) = joinWith [' '] cells := by
  have hcell : ∀ c ∈ cells, c ≠ [] ∧ ∀ x ∈ c, isWs x = false := fun c hc =>
    ⟨by obtain ⟨⟨x, r, rfl⟩, _⟩ := h c hc; simp, fun x hx => ((h c hc).2 x hx).2.2⟩
  obtain ⟨c0, t0, rfl⟩ := List.exists_cons_of_ne_nil hne
  obtain ⟨cl, hcl⟩ : ∃ cl, (c0 :: t0).getLast? = some cl := ⟨_, List.getLast?_eq_some_getLast (by simp)⟩
  rw [joinWith_eq, strip_eq_trim]
  refine trim_of_trimmed (trimmed_iff.mpr ⟨?_, ?_⟩)
  · rw [head?_join _ _ _ (hcell c0 (by simp)).1]
    exact fun x hx => (hcell c0 (by simp)).2 x (List.mem_of_head? hx)
  · rw [getLast?_join _ _ cl hcl (hcell cl (List.mem_of_getLast? hcl)).1]
    exact fun x hx => (hcell cl (List.mem_of_getLast? hcl)).2 x (List.mem_of_getLast? hx)

theorem row_noNewline (cells : List Str) (h : ∀ c ∈ cells, SimpleCell c) : ∀ ch ∈ joinWith [' '] cells, ch ≠ '\n' :=
  joinWith_chars (· ≠ '\n') ' ' (by decide) cells fun c hc ch hch e =>
    ne_of_class (p := isWs) (c := '\n') rfl ((h c hc).2 ch hch).2.2 e.symm

theorem row_notBlank (cells : List Str) (hne : cells ≠ []) (h : ∀ c ∈ cells, SimpleCell c) :
    isBlank (joinWith [' '] cells) = false := by
  obtain ⟨c0, t0, rfl⟩ := List.exists_cons_of_ne_nil hne
  obtain ⟨⟨x, r, rfl⟩, hc0⟩ := h c0 (by simp)
  have hx : isWs x = false := (hc0 x (by simp)).2.2
  cases t0 <;> simp [joinWith, isBlank, hx]

theorem row_read (cells : List Str) (hne : cells ≠ []) (h : ∀ c ∈ cells, SimpleCell c) :
    csvRow (strip (joinWith [' '] cells)) = .ok cells := by
  rw [strip_row cells hne h]; exact csvRow_cells cells hne h

/-- a table as written inside the triple quotes -/
def renderTable (cols : List ColD) (rows : List (List Str)) : Str :=
  joinWith ['\n'] (cols.map ColD.render ++ [[]] ++ rows.map (joinWith [' ']))

/-- the column nodes: header order, every column an array of length `rows.length` carrying the cells of
    that column in row order -/
def columnNodes (tname : Str) (cols : List ColD) (rows : List (List Str)) : List Node :=
  ((cols.map (ColD.node tname)).zip (transposeCols cols.length rows)).map
    (fun (p : (Node × Bool) × List Str) =>
      { p.1.1 with raw := some (.cells p.1.2 p.2), dims := some [(some rows.length, some rows.length)] })

theorem colD_render_line (c : ColD) (hc : c.Ok) : isBlank c.render = false ∧ ∀ ch ∈ c.render, ch ≠ '\n' := by
  obtain ⟨hn, hd, hu⟩ := hc
  refine ⟨?_, ?_⟩
  · obtain ⟨⟨c0, t0, hcn⟩, hall⟩ := hn
    simp [ColD.render, hcn, isBlank, isNameCh_notWs (hall c0 (by rw [hcn]; simp))]
  intro ch hch
  simp only [ColD.render, List.mem_append] at hch
  rcases hch with h1 | h1 | h1 | h1 | h1
  · exact (NoEsc_name _ hn ch h1).2
  · exact (NoEsc_spaces _ ch h1).2
  · exact (NoEsc_ty _ ch h1).2
  · exact (NoEsc_dims _ hd ch h1).2
  · cases hun : c.unit with
    | none => rw [hun] at h1; simp [renderTail, renderComment] at h1
    | some p =>
      obtain ⟨n, x⟩ := p
      rw [hun] at h1
      simp only [renderTail, renderComment, List.append_nil, List.mem_append] at h1
      rcases h1 with h2 | h2
      · exact (NoEsc_spaces _ ch h2).2
      · exact ne_of_class ((hu n x hun).2 ch h2) (by decide)

theorem renderTable_lines (cols : List ColD) (rows : List (List Str)) (hcok : ∀ c ∈ cols, c.Ok)
    (hr : ∀ r ∈ rows, ∀ c ∈ r, SimpleCell c) :
    splitOn '\n' (renderTable cols rows) = cols.map ColD.render ++ [] :: rows.map (joinWith [' ']) := by
  rw [renderTable, List.append_assoc]
  apply splitOn_join '\n' _ (by simp)
  intro p hp
  simp only [List.singleton_append, List.mem_append, List.mem_cons, List.mem_map] at hp
  rcases hp with ⟨c, hc, rfl⟩ | rfl | ⟨r, hrm, rfl⟩
  · exact (colD_render_line c (hcok c hc)).2
  · exact fun _ h => nomatch h
  · exact row_noNewline r (hr r hrm)

theorem expandTable0_render (tname : Str) (cols : List ColD) (rows : List (List Str))
    (hcols : cols ≠ []) (hcok : ∀ c ∈ cols, c.Ok) (hrows : rows ≠ [])
    (hr : ∀ r ∈ rows, r.length = cols.length ∧ ∀ c ∈ r, SimpleCell c) :
    expandTable0 (some (.text (renderTable cols rows))) (some tname) = .ok (columnNodes tname cols rows) := by
  have hrne : ∀ r ∈ rows, r ≠ [] := fun r hrm e =>
    hcols (List.length_eq_zero_iff.mp (by rw [← (hr r hrm).1, e]; rfl))
  -- the header lines are taken up to the empty line
  have hhdr_nb : ∀ l ∈ cols.map ColD.render, (fun l => !isBlank l) l = true := by
    intro l hl
    obtain ⟨c, hc, rfl⟩ := List.mem_map.mp hl
    simp [(colD_render_line c (hcok c hc)).1]
  have hstop : HeadNot (fun l : Str => !isBlank l) ([] :: rows.map (joinWith [' '])) := .cons rfl _
  have hhdr : (cols.map ColD.render).mapM (headerLine tname) = .ok (cols.map (ColD.node tname)) :=
    mapM_ok_map _ _ _ cols (fun c hc => headerLine_render tname c (hcok c hc))
  -- the body: at least one row, no blank line, every row read back, of the right length
  have hbody_ne : (rows.map (joinWith [' '])).isEmpty = false :=
    List.isEmpty_eq_false_iff.mpr (by simpa using hrows)
  have hbody_nb : (rows.map (joinWith [' '])).any isBlank = false := by
    simp only [List.any_eq_false, List.mem_map]
    rintro _ ⟨r, hrm, rfl⟩
    simp [row_notBlank r (hrne r hrm) (hr r hrm).2]
  have hrowsM : (rows.map (joinWith [' '])).mapM (fun l => csvRow (strip l)) = .ok rows := by
    simpa using mapM_ok_map (fun l => csvRow (strip l)) (joinWith [' ']) id rows
      (fun r hrm => row_read r (hrne r hrm) (hr r hrm).2)
  have hlen : rows.any (fun r => r.length != (cols.map (ColD.node tname)).length) = false := by
    simp only [List.any_eq_false, List.length_map]
    intro r hrm
    simp [(hr r hrm).1]
  unfold expandTable0
  simp only [renderTable_lines cols rows hcok (fun r hrm => (hr r hrm).2), takeWhile_append_headNot hhdr_nb hstop,
    dropWhile_append_headNot hhdr_nb hstop, List.drop_succ_cons, List.drop_zero, hhdr, bind, Except.bind,
    hbody_ne, hbody_nb, Bool.or_false, Bool.false_eq_true, if_false, hrowsM, hlen]
  simp [columnNodes]

end SciVerif.C13
