import SciVerif.Lemmas.C03Atom

/-! # C03: the tokenising loop and `solve` without fuel (`tok`, `sol`), the agreement with the fuel version for every
fuel (`tokenize_tok`); the equations of `tok` at the end of the text, at an operator sign and at a parenthesis -/
namespace SciVerif.C03

theorem scanPar_close_one (rest left : Str) (args : List Str) :
    scanPar (')' :: rest) 1 left args = .ok (args ++ [strip left.reverse], rest) := by
  simp [scanPar]

/-- the last argument a successful scan returns and the remaining text were both cut from the characters still to be read -/
theorem scanPar_shape (right : Str) (d : Nat) (left : Str) (args as : List Str) (r : Str)
    (h : scanPar right d left args = .ok (as, r)) :
    ∃ mid a, as = args ++ mid ++ [a] ∧ r.length < right.length ∧
      a.length + r.length < left.length + right.length := by
  fun_induction scanPar right d left args
  case case1 => cases h
  case case4 rest left args _ _ =>
    cases h
    have := strip_length_le left.reverse
    rw [List.length_reverse] at this
    exact ⟨[], strip left.reverse, (List.append_nil _).symm ▸ rfl, Nat.lt_succ_self _, by
      rw [List.length_cons]; omega⟩
  case case3 c rest d left args _ _ ih =>
    obtain ⟨mid, a, e, h1, h2⟩ := ih h
    exact ⟨strip left.reverse :: mid, a, by rw [e]; simp, Nat.lt_succ_of_lt h1, by
      rw [List.length_cons]; rw [List.length_nil] at h2; omega⟩
  all_goals
    rename_i ih
    obtain ⟨mid, a, e, h1, h2⟩ := ih h
    exact ⟨mid, a, e, Nat.lt_succ_of_lt h1, by
      rw [List.length_cons] at h2 ⊢; exact Nat.succ_add_eq_add_succ _ _ ▸ h2⟩

theorem scanPar_single_length (rest : Str) (arg rest' : Str)
    (h : scanPar rest 1 [] [] = .ok ([arg], rest')) : arg.length + rest'.length + 1 ≤ rest.length := by
  obtain ⟨mid, a, e, _, h2⟩ := scanPar_shape rest 1 [] [] _ _ h
  cases mid with
  | nil =>
    cases e
    rw [List.length_nil, Nat.zero_add] at h2
    exact h2
  | cons _ t => cases t <;> cases e

theorem unitParse_no_fuel (T : Tables) (s : Str) : unitParse T s ≠ .error .fuel := by
  fun_cases unitParse T s <;> (intro h; cases h)

theorem atomParse_no_fuel (T : Tables) (s : Str) : atomParse T s ≠ .error .fuel := by
  fun_cases atomParse T s <;> intro h <;> cases h
  exact unitParse_no_fuel T s ‹_›

theorem flushLeft_no_fuel (T : Tables) (left : Str) (toks : List Tok) :
    flushLeft T left toks ≠ .error .fuel := by
  fun_cases flushLeft T left toks <;> intro h <;> cases h
  exact atomParse_no_fuel T _ ‹_›

theorem scanPar_no_fuel (right : Str) (depth : Nat) (left : Str) (args : List Str) :
    scanPar right depth left args ≠ .error .fuel := by
  fun_induction scanPar right depth left args <;> first | assumption | (intro h; cases h)

theorem binPass_no_fuel (right left : List Tok) : binPass left right ≠ .error .fuel := by
  fun_induction binPass left right <;> first | assumption | (intro h; cases h)

theorem finish_no_fuel (l : List Tok) : finish l ≠ .error .fuel := by
  unfold finish
  split <;> simp

/-- the two passes and the end of `solve` on a finished token list -/
def evalToks (toks : List Tok) : Except Err (Option Atom) :=
  match binPass [] (argsPass toks) with
  | .error e => .error e
  | .ok out => finish out

/-- the tokenising loop by recursion on the text still to be read: the argument of a group and
    the text behind it are both shorter than the text (`scanPar_single_length`) -/
def tok (T : Tables) (right left : Str) (toks : List Tok) : Except Err (List Tok) :=
  match right with
  | [] => flushLeft T left toks
  | c :: rest =>
    if c = '(' then
      match flushLeft T left toks with
      | .error e => .error e
      | .ok toks1 =>
        match _hs : scanPar rest 1 [] [] with
        | .error e => .error e
        | .ok ([arg], rest') =>
          match tok T arg [] [] with
          | .error e => .error e
          | .ok atoks =>
            match evalToks atoks with
            | .error e => .error e
            | .ok v => tok T rest' [] (toks1 ++ [.par v])
        | .ok _ => .error .paren
    else if c = '*' then
      match flushLeft T left toks with
      | .error e => .error e
      | .ok toks1 => tok T rest [] (toks1 ++ [.mul])
    else if c = '/' then
      match flushLeft T left toks with
      | .error e => .error e
      | .ok toks1 => tok T rest [] (toks1 ++ [.div])
    else tok T rest (c :: left) toks
termination_by right.length
decreasing_by
  all_goals simp_wf
  · have := scanPar_single_length rest arg rest' _hs; omega
  · have := scanPar_single_length rest arg rest' _hs; omega

/-- `solve` without fuel: the tokens `tok` returns, through `evalToks`; `unitSolver` is this (`solve_unitSolver`) -/
def sol (T : Tables) (s : Str) : Except Err (Option Atom) :=
  match tok T s [] [] with
  | .error e => .error e
  | .ok toks => evalToks toks

theorem solve_sol (T : Tables) (s : Str)
    (h : ∀ f, tokenize T f s [] [] = tok T s [] [] ∨
      (tokenize T f s [] [] = .error .fuel ∧ f < 2 * s.length + 1)) (f : Nat) :
    solve T f s = sol T s ∨ (solve T f s = .error .fuel ∧ f < 2 * s.length + 2) := by
  cases f with
  | zero => exact Or.inr ⟨by rw [solve], by omega⟩
  | succ f =>
    rw [solve, sol]
    rcases h f with h | ⟨h, hf⟩
    · rw [h]; left; cases tok T s [] [] <;> rfl
    · rw [h]; exact Or.inr ⟨rfl, by omega⟩

/-- The fuel version agrees with `tok`, or it has run out of fuel, and then there was less than the text needs:
    so `2·length + 1` is enough, and the fuel error never comes out of `unitSolver`. -/
theorem tokenize_tok (T : Tables) (right left : Str) (toks : List Tok) (f : Nat) :
    tokenize T f right left toks = tok T right left toks ∨
      (tokenize T f right left toks = .error .fuel ∧ f < 2 * right.length + 1) := by
  fun_induction tok T right left toks generalizing f
  -- cases of `tok`: 1 end of the text; at `(`: 2 flush fails, 3 scan fails, 4 the argument fails, 5 its passes fail, 6 goes on, 7 not one argument; at `*`: 8 flush fails, 9 goes on; at `/`: 10, 11 likewise; 12 any other character is shifted
  all_goals
    cases f with
    | zero => exact Or.inr ⟨by rw [tokenize], Nat.succ_pos _⟩
    | succ f => ?_
  -- a group: the fuel handed to the argument and to the rest is enough, since both are shorter
  case case4 rest toks1 hfl arg rest' hs e harg ih =>
    have hlen := scanPar_single_length rest arg rest' hs
    rw [tokenize]; simp only [if_true, hfl, hs]
    rcases solve_sol T arg ih f with h | ⟨h, hf⟩
    · rw [h, sol, harg]; exact Or.inl rfl
    · rw [h]; exact Or.inr ⟨rfl, by rw [List.length_cons]; omega⟩
  case case5 rest toks1 hfl arg rest' hs atoks harg e hev ih =>
    have hlen := scanPar_single_length rest arg rest' hs
    rw [tokenize]; simp only [if_true, hfl, hs]
    rcases solve_sol T arg ih f with h | ⟨h, hf⟩
    · rw [h, sol, harg]; left; simp only [hev]
    · rw [h]; exact Or.inr ⟨rfl, by rw [List.length_cons]; omega⟩
  case case6 rest toks1 hfl arg rest' hs atoks harg v hev iharg ih =>
    have hlen := scanPar_single_length rest arg rest' hs
    rw [tokenize]; simp only [if_true, hfl, hs]
    rcases solve_sol T arg iharg f with h | ⟨h, hf⟩
    · rw [h, sol, harg]; simp only [hev]
      exact (ih f).imp_right fun ⟨h1, h2⟩ => ⟨h1, by rw [List.length_cons]; omega⟩
    · rw [h]; exact Or.inr ⟨rfl, by rw [List.length_cons]; omega⟩
  case case7 hfl a hne hs =>
    obtain ⟨args, rest'⟩ := a
    rw [tokenize]; simp only [if_true, hfl, hs]
    left; split
    · exact (hne _ _ rfl).elim
    · rfl
  case case9 hfl _ ih =>
    rw [tokenize]; simp only [if_true, hfl]
    exact (ih f).imp_right fun ⟨h1, h2⟩ => ⟨h1, by rw [List.length_cons]; omega⟩
  case case11 hfl _ _ ih =>
    rw [tokenize]; simp only [if_true, hfl]
    exact (ih f).imp_right fun ⟨h1, h2⟩ => ⟨h1, by rw [List.length_cons]; omega⟩
  case case12 h1 h2 h3 ih =>
    rw [tokenize]; simp only [h1, h2, h3, if_false]
    exact (ih f).imp_right fun ⟨h1, h2⟩ => ⟨h1, by rw [List.length_cons]; omega⟩
  case case1 => rw [tokenize]; exact Or.inl rfl
  all_goals
    left; rw [tokenize]; simp only [if_true, if_false, *]

theorem solve_unitSolver (T : Tables) (s : Str) : solve T (2 * s.length + 2) s = sol T s :=
  (solve_sol T s (tokenize_tok T s [] []) _).resolve_right fun h => Nat.lt_irrefl _ h.2

theorem evalToks_no_fuel (toks : List Tok) : evalToks toks ≠ .error .fuel := by
  unfold evalToks
  split
  · rename_i e he; intro h; cases h; exact binPass_no_fuel _ _ he
  · exact finish_no_fuel _

theorem tok_no_fuel (T : Tables) (right left : Str) (toks : List Tok) :
    tok T right left toks ≠ .error .fuel := by
  fun_induction tok T right left toks <;> try assumption
  case case1 => exact flushLeft_no_fuel _ _ _
  all_goals intro h; cases h
  case case2 | case8 | case10 => exact flushLeft_no_fuel _ _ _ ‹_›
  case case3 => exact scanPar_no_fuel _ _ _ _ ‹_›
  case case4 => contradiction
  case case5 => exact evalToks_no_fuel _ ‹_›

theorem unitSolver_no_fuel (T : Tables) (s : Str) : unitSolver T s ≠ .error .fuel := by
  rw [unitSolver, solve_unitSolver, sol]
  have := tok_no_fuel T s [] []
  split <;> rename_i h <;> split at h <;> intro h' <;> cases h'
  · cases h; contradiction
  · exact evalToks_no_fuel _ h

theorem flushLeft_prefix (T : Tables) (left : Str) (toks res : List Tok)
    (h : flushLeft T left toks = .ok res) : ∃ more, res = toks ++ more := by
  revert h; fun_cases flushLeft T left toks <;> intro h <;> cases h
  · exact ⟨[], (List.append_nil _).symm⟩
  · exact ⟨_, rfl⟩

theorem tok_prefix (T : Tables) (right left : Str) (toks res : List Tok)
    (h : tok T right left toks = .ok res) : ∃ more, res = toks ++ more := by
  fun_induction tok T right left toks
  case case1 => exact flushLeft_prefix T _ _ _ h
  case case6 hfl _ _ _ _ _ _ _ _ ih | case9 hfl _ ih | case11 hfl _ _ ih =>
    obtain ⟨m0, rfl⟩ := flushLeft_prefix T _ _ _ hfl
    obtain ⟨m1, rfl⟩ := ih h
    exact ⟨_, by rw [List.append_assoc, List.append_assoc]⟩
  case case12 ih => exact ih h
  all_goals cases h

theorem tokenize_prefix (T : Tables) : ∀ (f : Nat) (right left : Str) (toks res : List Tok),
    tokenize T f right left toks = .ok res → ∃ more, res = toks ++ more := by
  intro f right left toks res h
  rcases tokenize_tok T right left toks f with h1 | ⟨h1, _⟩
  · exact tok_prefix T right left toks res (h1 ▸ h)
  · rw [h1] at h; cases h

theorem tok_nil (T : Tables) (left : Str) (toks : List Tok) : tok T [] left toks = flushLeft T left toks := by
  rw [tok]

/-- the token of an operator sign (asked only of `*` and `/`, see `isOpChar`) -/
def opTok (c : Char) : Tok := if c = '*' then .mul else .div

def isOpChar (c : Char) : Prop := c = '*' ∨ c = '/'

/-- the steps of the loop are chained by `Except.bind`: whatever every continuation fails on fails -/
theorem bind_fails {α β : Type} {x : Except Err α} {g : α → Except Err β}
    (h : ∀ a, ∃ err, g a = .error err) : ∃ err, x.bind g = .error err := by
  cases x with
  | error e => exact ⟨e, rfl⟩
  | ok a => exact h a

theorem tok_op (T : Tables) (c : Char) (hc : isOpChar c) (rest left : Str) (toks : List Tok) :
    tok T (c :: rest) left toks =
      (flushLeft T left toks).bind fun toks1 => tok T rest [] (toks1 ++ [opTok c]) := by
  rcases hc with rfl | rfl <;> rw [tok] <;> cases flushLeft T left toks <;> rfl

theorem tok_open (T : Tables) (rest left : Str) (toks : List Tok) :
    tok T ('(' :: rest) left toks =
      (flushLeft T left toks).bind fun toks1 => (scanPar rest 1 [] []).bind fun
        | ([arg], rest') => (sol T arg).bind fun v => tok T rest' [] (toks1 ++ [.par v])
        | _ => .error .paren := by
  rw [tok]; simp only [if_true]
  cases flushLeft T left toks with
  | error e => rfl
  | ok toks1 =>
    simp only [Except.bind]
    split <;> rename_i h <;> simp only [h]
    rw [sol]
    cases tok T _ [] [] with
    | error e => rfl
    | ok a => show (match evalToks a with | .error e => .error e | .ok v => _) = (evalToks a).bind _; cases evalToks a <;> rfl
end SciVerif.C03
