import SciVerif.Lemmas.C19Values
/-!
# C19 — Rust: `pub const` lines and whole files

The condition on a parameter is `ParamOKRust`; the theorems are `readRustLine_lineRust` and `readRust_exportRust`.
-/
namespace SciVerif.C19

def rseg (d : Nat) : Str := ';' :: ' ' :: (showNat d ++ [']'])

theorem rustType_eq (base : Str) : ∀ sh : List Nat,
    rustType base sh = List.replicate sh.length '[' ++ (base ++ sh.reverse.flatMap rseg)
  | [] => by simp [rustType]
  | d :: sh => by
    simp only [rustType, rustType_eq base sh, List.length_cons, List.replicate_succ, List.reverse_cons,
      List.flatMap_append, List.flatMap_cons, List.flatMap_nil, rseg]
    simp

theorem countOpen_replicate : ∀ (n : Nat) (x : Str), Util.HeadNot (fun c => decide (c = '[')) x →
    countOpen (List.replicate n '[' ++ x) = (n, x)
  | 0, x, h => by
    cases x with
    | nil => simp [countOpen]
    | cons c r =>
      simp [countOpen, (of_decide_eq_false (h c r rfl) : c ≠ '[')]
  | n + 1, x, h => by
    simp [List.replicate_succ, countOpen, countOpen_replicate n x h]

theorem rustDims_segs : ∀ (l : List Nat) (rest : Str),
    rustDims l.length (l.flatMap rseg ++ rest) = some (l, rest)
  | [], rest => rfl
  | d :: l, rest => by
    have ih := rustDims_segs l rest
    simp only [List.flatMap_cons, rseg, List.cons_append, List.append_assoc, List.length_cons, rustDims,
      dropPrefix?, if_true, Option.bind_eq_bind, Option.bind_some, List.nil_append, showNat_span]
    simp [readNat_showNat, ih]

theorem clean_rsegs (l : List Nat) : clean (l.flatMap rseg) = true :=
  clean_flatMap _ (fun d => by rw [rseg, clean_cons, clean_cons, clean_append, clean_showNat]; rfl) l

theorem clean_replicate (n : Nat) : clean (List.replicate n '[') = true := by
  simp [clean]

/-- a `pub const` declaration as `lineRust` writes it, pieces associated to the right, the nested array type
    `[[T; m]; n]` as opening brackets, `T`, and the closing `; m]; n]` -/
def rustLine (name dtype : Str) (sh : List Nat) (value : Str) : Str :=
  cs!"pub const " ++ (name ++ (cs!": " ++ (List.replicate sh.length '[' ++ (dtype ++ (sh.reverse.flatMap rseg ++
    (cs!" = " ++ (value ++ [';'])))))))

theorem lineRust_eq (ren : Bool) (p : Param) (sh : List Nat) (hr : rectShape p.value = some sh) (h0 : 0 ∉ sh) :
    lineRust ren p = (lookupType bRust p.kind p.bits).map fun dtype =>
      rustLine (rename ren p.name) dtype sh (printVal styleRust p.value) := by
  simp only [lineRust, shapeOf_of_rect p.value sh hr h0, Option.bind_eq_bind, Option.bind_some, rustType_eq, rustLine,
    List.append_assoc]
  cases lookupType bRust p.kind p.bits <;> rfl

theorem readRustLine_rustLine (name dtype : Str) (sh : List Nat) (value : Str) (hn : ∀ ch ∈ name, ch ≠ ':')
    (hplain : ∀ ch ∈ dtype, ch ≠ ';' ∧ ch ≠ ' ' ∧ ch ≠ '[') :
    readRustLine (rustLine name dtype sh value) = readInit .backslash '[' ']' bRust dtype name sh value := by
  let tail : Str := cs!" = " ++ (value ++ [';'])
  have hspan1 := span_stop_lit (fun c => decide (c ≠ ':')) name ':' [' ']
    (List.replicate sh.length '[' ++ (dtype ++ (sh.reverse.flatMap rseg ++ tail))) (fun ch hch => decide_eq_true (hn ch hch)) rfl
  -- after the type name comes `;` (a dimension) or the blank of ` = `
  have hstart : Util.HeadIn [';', ' '] (sh.reverse.flatMap rseg ++ tail) := by
    cases sh.reverse <;> exact .cons (by simp) _
  have hcount := countOpen_replicate sh.length (dtype ++ (sh.reverse.flatMap rseg ++ tail))
    (.append_of_all (fun c hc => decide_eq_false (hplain c hc).2.2) (hstart.headNot (by decide)))
  have hspan2 : (dtype ++ (sh.reverse.flatMap rseg ++ tail)).span (fun c => decide (c ≠ ';' ∧ c ≠ ' ')) =
      (dtype, sh.reverse.flatMap rseg ++ tail) :=
    Util.span_append_headNot (fun ch hch => decide_eq_true ⟨(hplain ch hch).1, (hplain ch hch).2.1⟩)
      (hstart.headNot (by decide))
  have hdims : rustDims sh.length (sh.reverse.flatMap rseg ++ tail) = some (sh.reverse, tail) := by
    have := rustDims_segs sh.reverse tail
    rwa [List.length_reverse] at this
  simp only [rustLine, readRustLine, dropPrefix_append, Option.bind_eq_bind, Option.bind_some, hspan1, hcount, hspan2,
    hdims, List.reverse_reverse, tail, dropLastChar_snoc]

theorem readRustLine_lineRust (ren : Bool) (p : Param) (sh : List Nat)
    (hn : ∀ ch ∈ rename ren p.name, ch ≠ ':')
    (hv : ValOK p.kind p.value) (hr : rectShape p.value = some sh) (h0 : 0 ∉ sh) :
    (lineRust ren p).bind readRustLine = expectedSym bRust ren false p := by
  rw [lineRust_eq ren p sh hr h0]
  exact declLine_read bRust (by simp) styleRust '[' ']' styleRust_ok rfl rfl ren p sh hv hr h0 _ _ fun dtype ht => by
    obtain ⟨_, _, _, _, hplain⟩ := targetKind_of_lookup bRust (by simp) p.kind p.bits dtype ht
    exact readRustLine_rustLine _ dtype sh _ hn fun ch hch => of_decide_eq_true (List.all_eq_true.mp (hplain rfl) ch hch)

theorem lineRust_line (ren : Bool) (p : Param) (l : Str) (h : lineRust ren p = some l)
    (hn : clean (rename ren p.name) = true) (hv : ValOK p.kind p.value) (hnl : NoNL p.value) (sh : List Nat)
    (hr : rectShape p.value = some sh) (h0 : 0 ∉ sh) : Line l := by
  rw [lineRust_eq ren p sh hr h0] at h
  obtain ⟨dtype, ht, rfl⟩ := Option.map_eq_some_iff.mp h
  obtain ⟨n, _, _, hdt, _⟩ := targetKind_of_lookup bRust (by simp) p.kind p.bits dtype ht
  have hval := printVal_clean styleRust (by decide) (by decide) (by decide) (by decide) p.kind p.value hv hnl
  refine ⟨?_, nofun⟩
  simp only [rustLine, clean_append, hn, hdt, hval, clean_rsegs, clean_replicate]
  rfl

def ParamOKRust (ren : Bool) (p : Param) : Prop :=
  (∀ ch ∈ rename ren p.name, ch ≠ ':') ∧ clean (rename ren p.name) = true ∧ ValOK p.kind p.value ∧
  NoNL p.value ∧ ∃ sh, rectShape p.value = some sh ∧ 0 ∉ sh

theorem readRust_exportRust (ren : Bool) (data : List Param) (hok : ∀ p ∈ data, ParamOKRust ren p) :
    (exportRust ren data).bind readRust = expected bRust ren [] data :=
  readLines_joined (lineRust ren) readRustLine (fun p => expectedSym bRust ren false p) data
    (fun p hp => by
      obtain ⟨h1, _, h3, _, sh, h5, h6⟩ := hok p hp
      exact readRustLine_lineRust ren p sh h1 h3 h5 h6)
    (fun p hp l hl => by
      obtain ⟨_, h2, h3, h4, sh, h5, h6⟩ := hok p hp
      exact lineRust_line ren p l hl h2 h3 h4 sh h5 h6)

end SciVerif.C19
