import SciVerif.Model.C20

/-!
The Python `dict` as an association list (`dset`, `ddel`, `dget`), and the keyed `ParameterTable`
as a refinement of it: the concrete table is at all times the specification state with its key
list beside it.
-/
namespace SciVerif.C20
variable {K V : Type} [DecidableEq K]

theorem dget_cons_self (k : K) (v : V) (t : List (K × V)) : dget ((k, v) :: t) k = some v := if_pos rfl

theorem dget_cons_ne {k' k : K} (h : k' ≠ k) (v' : V) (t : List (K × V)) : dget ((k', v') :: t) k = dget t k :=
  if_neg h

theorem dget_append (m n : List (K × V)) (k : K) :
    dget (m ++ n) k = (dget m k).or (dget n k) := by
  fun_induction dget m k with
  | case1 => rfl
  | case2 v' t k => rw [List.cons_append, dget_cons_self, Option.some_or]
  | case3 k' v' t k h ih => rw [List.cons_append, dget_cons_ne h, ih]

theorem dget_isSome_iff (m : List (K × V)) (k : K) :
    (dget m k).isSome = true ↔ k ∈ m.map Prod.fst := by
  fun_induction dget m k with
  | case1 => simp
  | case2 v' t k => simp only [Option.isSome_some, List.map_cons, List.mem_cons, true_or]
  | case3 k' v' t k h ih => simp only [ih, List.map_cons, List.mem_cons, Ne.symm h, false_or]

theorem dget_eq_none {m : List (K × V)} {k : K} (h : k ∉ m.map Prod.fst) : dget m k = none := by
  rw [← Option.not_isSome_iff_eq_none, dget_isSome_iff]
  exact h

theorem dget_append_left {m : List (K × V)} {k : K} {v : V} (n : List (K × V))
    (h : dget m k = some v) : dget (m ++ n) k = some v := by
  rw [dget_append, h, Option.some_or]

theorem dget_append_right {m : List (K × V)} {k : K} (n : List (K × V))
    (h : k ∉ m.map Prod.fst) : dget (m ++ n) k = dget n k := by
  rw [dget_append, dget_eq_none h, Option.none_or]

theorem dget_of_mem {m : List (K × V)} (hn : (m.map Prod.fst).Nodup) {kv : K × V} (h : kv ∈ m) :
    dget m kv.1 = some kv.2 := by
  induction m with
  | nil => cases h
  | cons a t ih =>
    obtain ⟨k', v'⟩ := a
    rw [List.map_cons, List.nodup_cons] at hn
    rcases List.mem_cons.mp h with rfl | h
    · exact dget_cons_self ..
    · have hk : kv.1 ∈ t.map Prod.fst := List.mem_map_of_mem h
      have hne : ¬ k' = kv.1 := fun e => hn.1 (e ▸ hk)
      rw [dget_cons_ne hne, ih hn.2 h]

theorem dset_of_not_mem {m : List (K × V)} {k : K} (v : V) (h : k ∉ m.map Prod.fst) :
    dset m k v = m ++ [(k, v)] := by
  fun_induction dset m k v with
  | case1 => rfl
  | case2 v' t k v => exact absurd List.mem_cons_self h
  | case3 k' v' t k v hk ih => rw [ih fun hm => h (List.mem_cons_of_mem _ hm), List.cons_append]

theorem ddel_append_of_not_mem {m : List (K × V)} {k : K} (v : V) (rest : List (K × V))
    (h : k ∉ m.map Prod.fst) : ddel (m ++ (k, v) :: rest) k = m ++ rest := by
  induction m with
  | nil => simp only [List.nil_append, ddel, if_pos]
  | cons a t ih =>
    obtain ⟨k', v'⟩ := a
    rw [List.map_cons, List.mem_cons, not_or] at h
    simp only [List.cons_append, ddel, if_neg (Ne.symm h.1), ih h.2]

theorem map_fst_dset (m : List (K × V)) (k : K) (v : V) :
    (dset m k v).map Prod.fst =
      if k ∈ m.map Prod.fst then m.map Prod.fst else m.map Prod.fst ++ [k] := by
  fun_induction dset m k v with
  | case1 => rfl
  | case2 v' t k v => simp only [List.map_cons, List.mem_cons, true_or, if_true]
  | case3 k' v' t k v hk ih =>
    simp only [List.map_cons, ih, List.mem_cons, Ne.symm hk, false_or]
    split <;> rfl

theorem map_fst_ddel (m : List (K × V)) (k : K) :
    (ddel m k).map Prod.fst = (m.map Prod.fst).erase k := by
  fun_induction ddel m k with
  | case1 => rfl
  | case2 v' t k => simp only [List.map_cons, List.erase_cons_head]
  | case3 k' v' t k h ih => rw [List.map_cons, ih, List.map_cons, List.erase_cons_tail (by simpa using h)]

theorem pyIndex_map {α β : Type} (f : α → β) (l : List α) (i : Int) :
    pyIndex (l.map f) i = (pyIndex l i).map f := by
  fun_cases pyIndex l i with
  | case1 h => simp only [pyIndex, if_pos h, List.getElem?_map]
  | case2 h h2 => simp only [pyIndex, if_neg h, List.length_map, if_pos h2, List.getElem?_map]
  | case3 h h2 => simp only [pyIndex, if_neg h, List.length_map, if_neg h2, Option.map_none]

theorem pyIndex_mem {α : Type} {l : List α} {i : Int} {a : α} (h : pyIndex l i = some a) : a ∈ l := by
  revert h
  fun_cases pyIndex l i with
  | case1 => exact List.mem_of_getElem?
  | case2 => exact List.mem_of_getElem?
  | case3 => exact nofun

theorem step_refines (m : List (K × V)) (hn : (m.map Prod.fst).Nodup) (op : Op K V) :
    Tbl.step ⟨m.map Prod.fst, m⟩ op =
      (⟨(specStep m op).1.map Prod.fst, (specStep m op).1⟩, (specStep m op).2) ∧
    ((specStep m op).1.map Prod.fst).Nodup := by
  -- branches of `specStep`: append; del of a present / absent key; getKey found / not; getPos found / not; the four reads
  fun_cases specStep m op with
  | case1 k v =>
    refine ⟨by simp only [Tbl.step, map_fst_dset], ?_⟩
    rw [map_fst_dset]
    split
    · exact hn
    · next hk =>
      exact List.nodup_append.mpr ⟨hn, List.nodup_cons.mpr ⟨List.not_mem_nil, List.nodup_nil⟩,
        fun a ha b hb e => hk (List.mem_singleton.mp hb ▸ e ▸ ha)⟩
  | case2 k h => exact ⟨by simp only [Tbl.step, if_pos h, map_fst_ddel], by rw [map_fst_ddel]; exact hn.erase k⟩
  | case3 k h => exact ⟨by simp only [Tbl.step, if_neg h], hn⟩
  | case4 k v h => exact ⟨by simp only [Tbl.step, h], hn⟩
  | case5 k h => exact ⟨by simp only [Tbl.step, h], hn⟩
  | case6 i kv h =>
    -- the key found at position `i` reads the value stored at position `i`: keys are distinct
    exact ⟨by simp only [Tbl.step, pyIndex_map, h, Option.map_some, dget_of_mem hn (pyIndex_mem h)], hn⟩
  | case7 i h => exact ⟨by simp only [Tbl.step, pyIndex_map, h, Option.map_none], hn⟩
  | case8 => exact ⟨rfl, hn⟩
  | case9 => exact ⟨rfl, hn⟩
  | case10 => exact ⟨rfl, hn⟩
  | case11 => exact ⟨rfl, hn⟩

theorem run_refines (m : List (K × V)) (hn : (m.map Prod.fst).Nodup) (ops : List (Op K V)) :
    Tbl.run ⟨m.map Prod.fst, m⟩ ops =
      (⟨(specRun m ops).1.map Prod.fst, (specRun m ops).1⟩, (specRun m ops).2) ∧
    ((specRun m ops).1.map Prod.fst).Nodup := by
  induction ops generalizing m with
  | nil => exact ⟨rfl, hn⟩
  | cons op ops ih =>
    obtain ⟨e1, hn1⟩ := step_refines m hn op
    obtain ⟨e, hn'⟩ := ih _ hn1
    simp only [Tbl.run, specRun, e1, e]
    exact ⟨trivial, hn'⟩

end SciVerif.C20
