import SciVerif.Lemmas.C14Step
import SciVerif.Lemmas.C13Lexer
/-!
Run-level lemmas for C13: the main loop under re-indentation (`reindent`, `runNodes_reindent`), lines lexed to an
`EmptyNode`, the node-list invariant "one entry per path, in order of first appearance" (`names`, `Grows`), the main
loop on a list with table lines = the loop on the list with the tables expanded (`expandAll`, `runNodes_expandAll`).
-/
namespace SciVerif.C13
open SciVerif.Util

/-- `DIP.parse` on the queue of logical lines: lexing every queued line, then the main loop and
    the final validation -/
def parseLines (P : Params) (lines : List Str) : R (List ENode) := do
  let nds ← lines.mapM determine
  parseNodes P nds

/-- what the main loop and the refinement ask of a node: it is not a table line (those are expanded beforehand,
    `expandAll`), a modification has a name and a value, a typed line has a name -/
def NodeWF (nd : Node) : Prop :=
  nd.kind ≠ .table ∧ (nd.kind = .mod → nd.name.isSome = true ∧ nd.raw.isSome = true) ∧
  (∀ t, nd.kind = .typed t → nd.name.isSome = true)

theorem foldSteps_eq (P : Params) : ∀ (nds : List Node) (st : State), foldSteps P st nds = nds.foldlM (stepPlain P) st
  | [], _ => rfl
  | nd :: t, st => by
    simp only [foldSteps, List.foldlM_cons, bind, Except.bind]
    cases stepPlain P st nd with
    | error e => rfl
    | ok s => exact foldSteps_eq P t s

theorem runNodes_eq (P : Params) : ∀ (nds : List Node) (st : State), runNodes P st nds = nds.foldlM (step P) st
  | [], _ => rfl
  | nd :: t, st => by
    simp only [runNodes, List.foldlM_cons, bind, Except.bind]
    cases step P st nd with
    | error e => rfl
    | ok s => exact runNodes_eq P t s

theorem foldlM_map_comm {σ σ' α α' ε : Type} {step : σ → α → Except ε σ} {step' : σ' → α' → Except ε σ'}
    (g : σ → σ') (h : α → α') (hstep : ∀ a x, step' (g a) (h x) = (step a x).map g) :
    ∀ (xs : List α) (a : σ), (xs.map h).foldlM step' (g a) = (xs.foldlM step a).map g
  | [], _ => rfl
  | x :: xs, a => by
    rw [List.map_cons, List.foldlM_cons, List.foldlM_cons, hstep]
    cases step a x with
    | error e => rfl
    | ok b => exact foldlM_map_comm g h hstep xs b

/-- the node with its indentation replaced by `f` of it (a line written at another depth) -/
def reindent (f : Nat → Nat) (nd : Node) : Node := { nd with indent := f nd.indent }

def mapStack (f : Nat → Nat) (st : Stack) : Stack := st.map (fun p => (f p.1, p.2))

def mapState (f : Nat → Nat) (s : State) : State := { stack := mapStack f s.stack, nodes := s.nodes }

/-- order-preserving and order-reflecting: what "strictly monotone" gives on `Nat` -/
def OrderEmb (f : Nat → Nat) : Prop := ∀ a b, a ≤ b ↔ f a ≤ f b

theorem orderEmb_of_strictMono (f : Nat → Nat) (h : ∀ a b, a < b → f a < f b) : OrderEmb f := by
  intro a b
  constructor
  · intro hab
    rcases Nat.lt_or_eq_of_le hab with h1 | h1
    · exact Nat.le_of_lt (h a b h1)
    · subst h1; exact Nat.le_refl _
  · intro hab
    by_cases h1 : a ≤ b
    · exact h1
    · have := h b a (by omega)
      omega

theorem push_map (f : Nat → Nat) (hf : OrderEmb f) (st : Stack) (d : Nat) (nm : Str) :
    push (mapStack f st) (f d) nm = mapStack f (push st d nm) := by
  simp only [push, mapStack, List.map_cons, List.dropWhile_map]
  have hp : ((fun p : Nat × Str => decide (f d ≤ p.1)) ∘ fun p : Nat × Str => (f p.1, p.2)) =
      (fun p : Nat × Str => decide (d ≤ p.1)) := by
    funext p
    simp only [Function.comp]
    have := hf d p.1
    by_cases h : d ≤ p.1
    · simp [h, this.mp h]
    · have h2 : ¬ f d ≤ f p.1 := fun h3 => h (this.mpr h3)
      simp [h, h2]
  rw [hp]

theorem pathOf_map (f : Nat → Nat) (st : Stack) : pathOf (mapStack f st) = pathOf st := by
  simp [pathOf, mapStack, List.map_reverse, Function.comp_def]

@[simp] theorem reindent_kind (f : Nat → Nat) (nd : Node) : (reindent f nd).kind = nd.kind := rfl
@[simp] theorem reindent_name (f : Nat → Nat) (nd : Node) : (reindent f nd).name = nd.name := rfl
@[simp] theorem reindent_indent (f : Nat → Nat) (nd : Node) : (reindent f nd).indent = f nd.indent := rfl
@[simp] theorem reindent_dims (f : Nat → Nat) (nd : Node) : (reindent f nd).dims = nd.dims := rfl
@[simp] theorem reindent_raw (f : Nat → Nat) (nd : Node) : (reindent f nd).raw = nd.raw := rfl
@[simp] theorem reindent_units (f : Nat → Nat) (nd : Node) : (reindent f nd).units = nd.units := rfl
@[simp] theorem reindent_info (f : Nat → Nat) (nd : Node) : (reindent f nd).info = nd.info := rfl
@[simp] theorem reindent_declared (f : Nat → Nat) (nd : Node) : (reindent f nd).declared = nd.declared := rfl

theorem preCheck_reindent (P : Params) (f : Nat → Nat) (nd : Node) :
    preCheck P (reindent f nd) = preCheck P nd := rfl

theorem modify_reindent (P : Params) (f : Nat → Nat) (e : ENode) (nd : Node) :
    modify P e (reindent f nd) = modify P e nd := rfl

theorem updateFirst_reindent (P : Params) (f : Nat → Nat) (path : Str) (nd : Node) :
    ∀ ns, updateFirst P path (reindent f nd) ns = updateFirst P path nd ns := by
  intro ns
  induction ns with
  | nil => rfl
  | cons e t ih => simp only [updateFirst, ih, modify_reindent]

theorem stackStep_reindent (f : Nat → Nat) (hf : OrderEmb f) (stack : Stack) (nd : Node) :
    stackStep (mapStack f stack) (reindent f nd) = mapStack f (stackStep stack nd) := by
  unfold stackStep
  simp only [reindent_kind, reindent_name, reindent_indent]
  split <;> first | exact push_map f hf _ _ _ | rfl

theorem entriesStep_reindent (P : Params) (f : Nat → Nat) (path : Str) (ns : List ENode) (nd : Node) :
    entriesStep P path ns (reindent f nd) = entriesStep P path ns nd := by
  unfold entriesStep
  simp only [reindent_kind, reindent_name, reindent_dims, reindent_raw, preCheck_reindent, updateFirst_reindent]
  rfl

/-- the indentation only feeds the stack, the stack reaches the entries only as a path, and paths hold no
    indentation -/
theorem stepPlain_reindent (P : Params) (f : Nat → Nat) (hf : OrderEmb f) (s : State) (nd : Node) :
    stepPlain P (mapState f s) (reindent f nd) = (stepPlain P s nd).map (mapState f) := by
  rw [stepPlain_eq, stepPlain_eq]
  simp only [show (mapState f s).stack = mapStack f s.stack from rfl, show (mapState f s).nodes = s.nodes from rfl,
    stackStep_reindent f hf, pathOf_map, entriesStep_reindent]
  cases entriesStep P (pathOf (stackStep s.stack nd)) s.nodes nd <;> rfl

theorem foldSteps_reindent (P : Params) (f : Nat → Nat) (hf : OrderEmb f) (nds : List Node) (s : State) :
    foldSteps P (mapState f s) (nds.map (reindent f)) = (foldSteps P s nds).map (mapState f) := by
  rw [foldSteps_eq, foldSteps_eq]
  exact foldlM_map_comm (mapState f) (reindent f) (stepPlain_reindent P f hf) nds s

/-- `TableNode.parse` copies the table's indentation to the columns and reads nothing else of it -/
def TableIndentOnly (P : Params) (f : Nat → Nat) : Prop :=
  ∀ nd, P.expandTable (reindent f nd) = (P.expandTable nd).map (List.map (reindent f))

theorem step_reindent (P : Params) (f : Nat → Nat) (hf : OrderEmb f) (hT : TableIndentOnly P f)
    (s : State) (nd : Node) :
    step P (mapState f s) (reindent f nd) = (step P s nd).map (mapState f) := by
  by_cases hk : nd.kind = .table
  · have hk' : (reindent f nd).kind = .table := hk
    simp only [step, hk, hk', if_true, bind, Except.bind, hT nd]
    cases P.expandTable nd with
    | error x => rfl
    | ok cols =>
      simp only [Except.map, List.isEmpty_map]
      by_cases he : cols.isEmpty = true
      · simp [he]
      · simp only [he, Bool.false_eq_true, if_false]
        exact foldSteps_reindent P f hf cols s
  · have hk' : ¬ (reindent f nd).kind = .table := hk
    simp only [step, hk, hk', if_false]
    exact stepPlain_reindent P f hf s nd

theorem runNodes_reindent (P : Params) (f : Nat → Nat) (hf : OrderEmb f) (hT : TableIndentOnly P f) (nds : List Node)
    (s : State) : runNodes P (mapState f s) (nds.map (reindent f)) = (runNodes P s nds).map (mapState f) := by
  rw [runNodes_eq, runNodes_eq]
  exact foldlM_map_comm (mapState f) (reindent f) (step_reindent P f hf hT) nds s

theorem runNodes_append (P : Params) (a b : List Node) (s : State) :
    runNodes P s (a ++ b) = (runNodes P s a).bind (fun s' => runNodes P s' b) := by
  simp only [runNodes_eq, List.foldlM_append]
  rfl

theorem runNodes_empty (P : Params) (a b : List Node) (s : State) (nd : Node) (h : nd.kind = .empty) :
    runNodes P s (a ++ nd :: b) = runNodes P s (a ++ b) := by
  rw [runNodes_append, runNodes_append]
  cases runNodes P s a with
  | error x => rfl
  | ok s' =>
    simp only [Except.bind, runNodes, bind]
    have : step P s' nd = .ok s' := by
      simp [step, h, stepPlain]
    rw [this]

/-- the hypothesis says that no line is blank or a comment: those are lexed to indentation 0 whatever is written -/
theorem mapM_determine_reindent (f : Nat → Nat) :
    ∀ (lines : List (Nat × Str)),
      (∀ l ∈ lines, ∃ c r, encode l.2 = c :: r ∧ isWs c = false ∧ c ≠ '#') →
      (lines.map (fun l => List.replicate (f l.1) ' ' ++ l.2)).mapM determine =
        ((lines.map (fun l => List.replicate l.1 ' ' ++ l.2)).mapM determine).map (List.map (reindent f)) := by
  intro lines
  induction lines with
  | nil => intro _; rfl
  | cons l t ih =>
    intro h
    obtain ⟨c, r, hb, hc, hh⟩ := h l (by simp)
    have iht := ih (fun x hx => h x (List.mem_cons_of_mem _ hx))
    simp only [List.map_cons, List.mapM_cons, determine_indent _ _ c r hb hc hh, iht]
    cases determineBody (c :: r) with
    | error x => rfl
    | ok nd =>
      simp only [Except.map, bind, Except.bind]
      cases (t.map (fun l => List.replicate l.1 ' ' ++ l.2)).mapM determine with
      | error x => rfl
      | ok nds => rfl

theorem setLastConstant_names (ns ns' : List ENode) (h : setLastConstant ns = .ok ns') :
    ns'.map (·.name) = ns.map (·.name) := by
  fun_induction setLastConstant ns generalizing ns' with
  | case1 => cases h
  | case2 e => cases h; rfl
  | case3 e t hne ih => obtain ⟨t', hs, rfl⟩ := map_eq_ok h; simp [ih t' hs]

theorem entriesStep_names (P : Params) (path : Str) (ns ns' : List ENode) (nd : Node)
    (h : entriesStep P path ns nd = .ok ns') :
    ns'.map (·.name) = ns.map (·.name) ∨ ∃ p, p ∉ ns.map (·.name) ∧ ns'.map (·.name) = ns.map (·.name) ++ [p] := by
  have value : (nd.kind = .mod ∨ ∃ t, nd.kind = .typed t) → (ns'.map (·.name) = ns.map (·.name) ∨
      ∃ p, p ∉ ns.map (·.name) ∧ ns'.map (·.name) = ns.map (·.name) ++ [p]) := fun hk => by
    cases hn : nd.name with
    | none => rcases hk with hk | ⟨t, hk⟩ <;> simp [entriesStep, hk, hn] at h
    | some nm =>
      rcases entriesStep_value_ok P path ns ns' nd nm hk hn h with
        ⟨pre, e, e', post, h1, h2, _, _, _, hm⟩ | ⟨t, v, _, hno, _, h2⟩
      · left; rw [h1, h2]; simp [modify_name P e e' nd hm]
      · right
        refine ⟨path, fun hmem => ?_, by rw [h2]; simp [newEntry]⟩
        obtain ⟨e, he, hne⟩ := List.mem_map.mp hmem
        exact hno e he hne
  cases hk : nd.kind with
  | mod => exact value (.inl hk)
  | typed t => exact value (.inr ⟨t, hk⟩)
  | table => simp [entriesStep, hk] at h
  | constant => simp only [entriesStep, hk] at h; exact .inl (setLastConstant_names _ _ h)
  | group => simp only [entriesStep, hk, Except.ok.injEq] at h; subst h; exact .inl rfl
  | empty => simp only [entriesStep, hk, Except.ok.injEq] at h; subst h; exact .inl rfl
  | unit => simp only [entriesStep, hk, Except.ok.injEq] at h; subst h; exact .inl rfl

/-- the paths of the parameters created so far, in order of creation -/
def names (s : State) : List Str := s.nodes.map (·.name)

/-- from `s` to `s'` the list of paths only grew at its end, and stayed duplicate-free if it was -/
def Grows (s s' : State) : Prop :=
  ∃ ext, names s' = names s ++ ext ∧ ((names s).Nodup → (names s').Nodup)

theorem Grows.refl (s : State) : Grows s s := ⟨[], by simp, id⟩

theorem Grows.trans {a b c : State} (h1 : Grows a b) (h2 : Grows b c) : Grows a c := by
  obtain ⟨e1, p1, n1⟩ := h1
  obtain ⟨e2, p2, n2⟩ := h2
  exact ⟨e1 ++ e2, by rw [p2, p1, List.append_assoc], fun h => n2 (n1 h)⟩

theorem stepPlain_grows (P : Params) (s s' : State) (nd : Node) (h : stepPlain P s nd = .ok s') : Grows s s' := by
  rw [stepPlain_eq] at h
  obtain ⟨ns', he, rfl⟩ := map_eq_ok h
  rcases entriesStep_names P _ _ ns' nd he with h1 | ⟨p, hp, h1⟩
  · exact ⟨[], by simp [names, h1], fun hn => by simpa [names, h1] using hn⟩
  · refine ⟨[p], by simp [names, h1], fun hn => ?_⟩
    simp only [names] at hn ⊢
    rw [h1]
    exact List.nodup_append.mpr ⟨hn, by simp, by
      intro a ha b hb
      simp only [List.mem_singleton] at hb
      subst hb
      intro hab; subst hab; exact hp ha⟩

theorem foldSteps_grows (P : Params) (nds : List Node) (s s' : State) (h : foldSteps P s nds = .ok s') : Grows s s' :=
  foldlM_invariant Grows Grows.refl Grows.trans (fun a x b => stepPlain_grows P a b x) nds s s' (foldSteps_eq P nds s ▸ h)

theorem step_grows (P : Params) (s s' : State) (nd : Node) (h : step P s nd = .ok s') : Grows s s' := by
  unfold step at h
  split at h
  · obtain ⟨cols, _, h⟩ := bind_eq_ok h
    split at h
    · cases h
    · exact foldSteps_grows P cols s s' h
  · exact stepPlain_grows P s s' nd h

theorem runNodes_grows (P : Params) (nds : List Node) (s s' : State) (h : runNodes P s nds = .ok s') : Grows s s' :=
  foldlM_invariant Grows Grows.refl Grows.trans (fun a x b => step_grows P a b x) nds s s' (runNodes_eq P nds s ▸ h)

/-- every table line replaced by the column nodes `TableNode.parse` returns -/
def expandAll (P : Params) : List Node → R (List Node)
  | [] => .ok []
  | nd :: t =>
    if nd.kind = .table then do
      let cols ← P.expandTable nd
      if cols.isEmpty then .error .unsupported
      else do
        let rest ← expandAll P t
        .ok (cols ++ rest)
    else do
      let rest ← expandAll P t
      .ok (nd :: rest)

theorem foldSteps_append (P : Params) (a b : List Node) (st : State) :
    foldSteps P st (a ++ b) = (foldSteps P st a).bind (fun s => foldSteps P s b) := by
  simp only [foldSteps_eq, List.foldlM_append]
  rfl

/-- what one queue element stands for: a table line for its (non-empty list of) column nodes, any other node for
    itself -/
def expandOne (P : Params) (nd : Node) : R (List Node) :=
  if nd.kind = .table then
    (P.expandTable nd).bind (fun cols => if cols.isEmpty then .error .unsupported else .ok cols)
  else .ok [nd]

theorem expandAll_cons (P : Params) (nd : Node) (t : List Node) :
    expandAll P (nd :: t) = (expandOne P nd).bind (fun cols => (expandAll P t).map (fun rest => cols ++ rest)) := by
  simp only [expandAll, expandOne, bind, Except.bind]
  split
  · cases P.expandTable nd with
    | error e => rfl
    | ok cols =>
      simp only
      split
      · rfl
      · cases expandAll P t <;> rfl
  · cases expandAll P t <;> rfl

theorem step_eq_expandOne (P : Params) (st : State) (nd : Node) :
    step P st nd = (expandOne P nd).bind (foldSteps P st) := by
  simp only [step, expandOne, bind, Except.bind]
  split
  · cases P.expandTable nd with
    | error e => rfl
    | ok cols => simp only; split <;> rfl
  · simp only [foldSteps, bind, Except.bind]
    cases stepPlain P st nd <;> rfl

theorem expandAll_cons_ok {P : Params} {nd : Node} {t nds' : List Node} (h : expandAll P (nd :: t) = .ok nds') :
    ∃ cols rest, expandOne P nd = .ok cols ∧ expandAll P t = .ok rest ∧ nds' = cols ++ rest := by
  rw [expandAll_cons] at h
  obtain ⟨cols, he, h⟩ := bind_eq_ok h
  obtain ⟨rest, hr, rfl⟩ := map_eq_ok h
  exact ⟨cols, rest, he, hr, rfl⟩

theorem runNodes_expandAll (P : Params) : ∀ (nds nds' : List Node) (st : State),
    expandAll P nds = .ok nds' → runNodes P st nds = foldSteps P st nds'
  | [], nds', st, h => by simp only [expandAll, Except.ok.injEq] at h; subst h; rfl
  | nd :: t, nds', st, h => by
    obtain ⟨cols, rest, he, hr, rfl⟩ := expandAll_cons_ok h
    simp only [runNodes, step_eq_expandOne, he, foldSteps_append, bind, Except.bind]
    cases foldSteps P st cols with
    | error e => rfl
    | ok s => exact runNodes_expandAll P t rest s hr

theorem runNodes_expandAll_error (P : Params) : ∀ (nds : List Node) (st : State) (e : Err),
    expandAll P nds = .error e → ∃ e', runNodes P st nds = .error e'
  | [], _, _, h => by cases h
  | nd :: t, st, e, h => by
    rw [expandAll_cons] at h
    simp only [runNodes, step_eq_expandOne, bind, Except.bind]
    cases he : expandOne P nd with
    | error e' => exact ⟨e', rfl⟩
    | ok cols =>
      rw [he] at h
      simp only
      cases hs : foldSteps P st cols with
      | error e' => exact ⟨e', rfl⟩
      | ok s =>
        cases hr : expandAll P t with
        | error e3 => exact runNodes_expandAll_error P t s e3 hr
        | ok rest => rw [hr] at h; cases h

theorem expandAll_plain (P : Params) : ∀ nds : List Node, (∀ nd ∈ nds, nd.kind ≠ .table) → expandAll P nds = .ok nds
  | [], _ => rfl
  | nd :: t, h => by
    rw [expandAll, if_neg (h nd (by simp)), expandAll_plain P t (fun x hx => h x (List.mem_cons_of_mem _ hx))]
    rfl

theorem runNodes_plain (P : Params) (nds : List Node) (st : State) (h : ∀ nd ∈ nds, nd.kind ≠ .table) :
    runNodes P st nds = foldSteps P st nds :=
  runNodes_expandAll P nds nds st (expandAll_plain P nds h)

theorem validate_ok {ns ns' : List ENode} (h : validate ns = .ok ns') :
    ns' = ns ∧ ∀ e ∈ ns, e.value.isSome = true := by
  revert h
  fun_cases validate ns <;> intro h
  case case1 => cases h
  case case2 hany =>
    refine ⟨(Except.ok.inj h).symm, fun e he => ?_⟩
    cases hv : e.value with
    | some v => rfl
    | none => exact (hany (List.any_eq_true.mpr ⟨e, he, by simp [hv]⟩)).elim
end SciVerif.C13
