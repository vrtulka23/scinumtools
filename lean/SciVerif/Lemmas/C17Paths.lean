import SciVerif.Lemmas.C17
import SciVerif.Lemmas.Util.Join

/-! Names against paths: `splitDot` and `joinDot` are `Util.split '.'` and `Util.join ['.']`, what is generic about
    them comes from there.  The casts: in this model a cast never changes a value, it only accepts or refuses it
    (`castElem_self`); hence `cast_value` in normal form (`castValue_typed`) and conformance kept by slicing and by
    the affine unit conversion of floats. -/
namespace SciVerif.C17

/-- `name.split('.')` -/
def splitDot : Str → List Str
  | [] => [[]]
  | c :: t =>
    if c = '.' then [] :: splitDot t
    else match splitDot t with
      | [] => [[c]]
      | h :: r => (c :: h) :: r

theorem splitDot_eq (s : Str) : splitDot s = Util.split '.' s := by
  induction s with
  | nil => rfl
  | cons c t ih =>
    rw [splitDot, Util.split, ih]
    by_cases h : c = '.'
    · simp [h]
    · simp only [h, if_false]; cases Util.split '.' t <;> rfl

theorem joinDot_eq : ∀ l : List Str, joinDot l = Util.join ['.'] l
  | [] => rfl
  | [_] => rfl
  | a :: b :: t => by rw [joinDot, joinDot_eq (b :: t), Util.join]; simp

theorem splitDot_ne_nil (s : Str) : splitDot s ≠ [] := by
  rw [splitDot_eq]; exact Util.split_ne_nil '.' s

theorem joinDot_splitDot (s : Str) : joinDot (splitDot s) = s := by
  rw [splitDot_eq, joinDot_eq]; exact Util.join_split '.' s

theorem splitDot_inj {a b : Str} (h : splitDot a = splitDot b) : a = b := by
  rw [← joinDot_splitDot a, ← joinDot_splitDot b, h]

theorem splitDot_nodot (a : Str) (ha : '.' ∉ a) : splitDot a = [a] := by
  rw [splitDot_eq]; exact Util.split_of_not_mem ha

/-- a path as `split('.')` yields one: at least one component, no dot inside a component -/
def WFPath (p : List Str) : Prop := p ≠ [] ∧ ∀ c ∈ p, '.' ∉ c

theorem joinDot_append (a b : List Str) (ha : a ≠ []) (hb : b ≠ []) :
    joinDot (a ++ b) = joinDot a ++ '.' :: joinDot b := by
  rw [joinDot_eq, joinDot_eq, joinDot_eq, Util.join_append ha hb, List.append_assoc, List.singleton_append]

theorem splitDot_joinDot (p : List Str) (hp : WFPath p) : splitDot (joinDot p) = p := by
  rw [splitDot_eq, joinDot_eq]; exact Util.split_join hp.1 hp.2

theorem wf_splitDot (s : Str) : WFPath (splitDot s) :=
  ⟨splitDot_ne_nil s, fun _ hc => Util.not_mem_of_mem_split (splitDot_eq s ▸ hc)⟩

theorem splitDot_join_append (d : List Str) (hd : WFPath d) (s : Str) :
    splitDot (joinDot d ++ '.' :: s) = d ++ splitDot s := by
  have hwf : WFPath (d ++ splitDot s) :=
    ⟨by simp [hd.1], fun c hc => (List.mem_append.mp hc).elim (hd.2 c) ((wf_splitDot s).2 c)⟩
  rw [← splitDot_joinDot _ hwf, joinDot_append d _ hd.1 (splitDot_ne_nil s), joinDot_splitDot]

/-- `{?p.*}`: the string test `name.startswith(p + '.')` is the path test "strict descendant of p",
    and stripping the prefix strips the path -/
theorem children_match (p : List Str) (hp : WFPath p) (s : Str) :
    ((joinDot p ++ ['.']).isPrefixOf s = true ↔
      (p.isPrefixOf (splitDot s) = true ∧ p.length < (splitDot s).length)) ∧
    ((joinDot p ++ ['.']).isPrefixOf s = true →
      splitDot (s.drop (joinDot p ++ ['.']).length) = (splitDot s).drop p.length) := by
  have key : ∀ t, s = (joinDot p ++ ['.']) ++ t → splitDot s = p ++ splitDot t := fun t ht => by
    rw [ht, List.append_assoc, List.singleton_append, splitDot_join_append p hp]
  refine ⟨⟨?_, ?_⟩, ?_⟩
  · intro h
    obtain ⟨t, ht⟩ := List.isPrefixOf_iff_prefix.mp h
    have hs := key t ht.symm
    rw [hs]
    refine ⟨List.isPrefixOf_iff_prefix.mpr (List.prefix_append _ _), ?_⟩
    simp only [List.length_append]
    have : 0 < (splitDot t).length := List.length_pos_iff.mpr (splitDot_ne_nil t)
    omega
  · rintro ⟨h1, h2⟩
    obtain ⟨r, hr⟩ := List.isPrefixOf_iff_prefix.mp h1
    have hrne : r ≠ [] := by
      intro e
      rw [e, List.append_nil] at hr
      rw [← hr] at h2
      omega
    have : s = joinDot p ++ '.' :: joinDot r := by
      rw [← joinDot_splitDot s, ← hr, joinDot_append p r hp.1 hrne]
    rw [this]
    apply List.isPrefixOf_iff_prefix.mpr
    exact ⟨joinDot r, by simp⟩
  · intro h
    obtain ⟨t, ht⟩ := List.isPrefixOf_iff_prefix.mp h
    have hs := key t ht.symm
    rw [hs, ← ht, List.drop_left, List.drop_left]

theorem splitDot_lastComp (s : Str) :
    splitDot (lastComp s) = (splitDot s).drop ((splitDot s).length - 1) := by
  have hwf := wf_splitDot s
  obtain ⟨init, c, hq⟩ : ∃ init c, splitDot s = init ++ [c] :=
    ⟨_, _, (List.dropLast_concat_getLast hwf.1).symm⟩
  have hc : '.' ∉ c := hwf.2 c (by rw [hq]; simp)
  have hs : s = joinDot (init ++ [c]) := by rw [← hq, joinDot_splitDot]
  rw [hq]
  simp only [List.length_append, List.length_singleton, Nat.add_sub_cancel, List.drop_left]
  by_cases hi : init = []
  · subst hi
    rw [List.nil_append, joinDot_singleton] at hs
    rw [hs, lastComp_nodot _ hc, splitDot_nodot _ hc]
  · rw [joinDot_append init [c] hi (by simp)] at hs
    rw [joinDot_singleton] at hs
    rw [hs, lastComp_append _ _ hc, splitDot_nodot _ hc]

theorem splitQ_render (src q : Str) (hs : '?' ∉ src) (hq : '?' ∉ q) :
    splitQ (src ++ '?' :: q) = some (src, q) := by
  induction src with
  | nil =>
    have : q.contains '?' = false := by simpa using hq
    simp [splitQ, hq]
  | cons c t ih =>
    have hc : c ≠ '?' := fun e => hs (by simp [e])
    have ht : '?' ∉ t := fun e => hs (by simp [e])
    simp [splitQ, hc, ih ht]

/-- induction over `Val` with the hypothesis for every element of an array (the nested inductive provides none) -/
theorem val_ind {P : Val → Prop} (hn : ∀ q, P (.num q)) (hb : ∀ b, P (.bool b)) (hs : ∀ s, P (.str s))
    (ha : ∀ l, (∀ x ∈ l, P x) → P (.arr l)) : ∀ v, P v
  | .num q => hn q
  | .bool b => hb b
  | .str s => hs s
  | .arr l => ha l (go l)
where
  go : ∀ l : List Val, ∀ x ∈ l, P x
    | y :: t, x, h => by
      cases h with
      | head => exact val_ind hn hb hs ha y
      | tail _ h' => exact go t x h'

theorem castScalar_self (k : Kw) (v v' : Val) (h : castScalar k v = some v') :
    v' = v ∧ isArr v = false := by
  cases v with
  | arr l => simp [castScalar] at h
  | _ => cases k <;> simp [castScalar, dtypeOf] at h <;> simp [h, isArr]

theorem castElem_arr (k : Kw) (l : List Val) : castElem k (.arr l) = (castList k l).map Val.arr := by
  rw [castElem]

theorem castElem_scalar (k : Kw) (v : Val) (h : isArr v = false) : castElem k v = castScalar k v := by
  cases v <;> simp_all [castElem, isArr]

theorem castList_cons (k : Kw) (x : Val) (t l' : List Val) :
    castList k (x :: t) = some l' ↔ ∃ a b, castElem k x = some a ∧ castList k t = some b ∧ l' = a :: b := by
  simp only [castList]
  cases castElem k x <;> cases castList k t <;> simp [eq_comm]

theorem castElem_self (k : Kw) (v : Val) : ∀ v', castElem k v = some v' → v' = v := by
  induction v using val_ind with
  | ha l ih =>
    have hl : ∀ l', castList k l = some l' → l' = l := by
      induction l with
      | nil => intro l' h; simpa [castList] using h.symm
      | cons x t iht =>
        intro l' h
        obtain ⟨a, b, hx, ht, rfl⟩ := (castList_cons k x t l').mp h
        rw [ih x (by simp) a hx, iht (fun y hy => ih y (by simp [hy])) b ht]
    intro v' h
    rw [castElem_arr] at h
    obtain ⟨l', hc, rfl⟩ := Option.map_eq_some_iff.mp h
    rw [hl l' hc]
  | _ => intro v' h; exact (castScalar_self k _ v' (by rw [← castElem_scalar k _ rfl]; exact h)).1

theorem castList_idem (k : Kw) : ∀ (l l' : List Val), castList k l = some l' → castList k l' = some l' := by
  intro l l' h
  have he : castElem k (.arr l) = some (.arr l') := by rw [castElem_arr, h]; rfl
  have := castElem_self k _ _ he
  simp only [Val.arr.injEq] at this
  rw [this]; rw [this] at h; exact h

/-- `v` passes the element cast of type `k` (and, a cast changing nothing, comes back as it is) -/
def Conf (k : Kw) (v : Val) : Prop := castElem k v = some v

theorem conf_arr (k : Kw) (l : List Val) : Conf k (.arr l) ↔ ∀ x ∈ l, Conf k x := by
  have hl : castList k l = some l ↔ ∀ x ∈ l, castElem k x = some x := by
    induction l with
    | nil => simp [castList]
    | cons x t ih =>
      rw [castList_cons, List.forall_mem_cons, ← ih]
      constructor
      · rintro ⟨a, b, hx, ht, e⟩
        cases e
        exact ⟨hx, ht⟩
      · rintro ⟨hx, ht⟩
        exact ⟨x, t, hx, ht, rfl⟩
  unfold Conf
  rw [← hl, castElem_arr]
  cases castList k l <;> simp

theorem conf_str (k : Kw) (s t : Str) (h : Conf k (.str s)) : Conf k (.str t) := by
  cases k <;> simp_all [Conf, castElem, castScalar, dtypeOf]

theorem castScalar_eq (k : Kw) (v : Val) :
    castScalar k v = (castElem k v).bind (fun v1 => if isArr v1 then none else some v1) := by
  cases hv : isArr v with
  | true =>
    cases v <;> simp [isArr] at hv
    simp only [castScalar, castElem_arr]
    cases castList k _ <;> simp [isArr]
  | false =>
    rw [castElem_scalar k v hv]
    cases hc : castScalar k v with
    | none => rfl
    | some v' =>
      obtain ⟨rfl, _⟩ := castScalar_self k v v' hc
      simp [hv]

/-- the test `cast_value` applies after cast and slice -/
def dimTest (dims : List Dim) (v : Val) : Option Val :=
  if dims.isEmpty then (if isArr v then none else some v)
  else if checkDims dims (shape v) then some v else none

theorem conforms_eq (k : Kw) (dims : List Dim) (v : Val) :
    conforms k dims v = (castElem k v).bind (dimTest dims) := by
  unfold conforms dimTest
  split
  · rw [castScalar_eq]
  · cases castElem k v <;> rfl

theorem conforms_self (k : Kw) (dims : List Dim) (v v' : Val) (h : conforms k dims v = some v') :
    v' = v ∧ Conf k v := by
  rw [conforms_eq] at h
  cases hc : castElem k v with
  | none => simp [hc] at h
  | some w =>
    obtain rfl := castElem_self k v w hc
    simp only [hc, Option.bind, dimTest] at h
    refine ⟨?_, hc⟩
    -- `dimTest` returns its argument or nothing
    repeat' split at h
    all_goals first | exact (Option.some.inj h).symm | cases h

theorem dtypeOf_typed (k : Kw) (h : isTyped k = true) : dtypeOf k = k := by
  cases k <;> simp_all [isTyped, dtypeOf]

theorem typed_ne {k : Kw} (h : isTyped k = true) : k ≠ .mod ∧ k ≠ .group ∧ k ≠ .imp := by
  cases k <;> simp_all [isTyped]

theorem castValue_typed (n : Node) (v : Val) (hk : isTyped n.kw = true) :
    castValue n v = (castElem n.kw v).bind fun v1 => (sliceValue n.slice v1).bind (dimTest n.dims) := by
  have hm := (typed_ne hk).1
  unfold castValue dimTest
  rw [dtypeOf_typed n.kw hk]
  cases hs : n.slice with
  | nil =>
    cases hd : n.dims.isEmpty with
    | true => simp [hm, castScalar_eq, sliceValue]
    | false => cases castElem n.kw v <;> simp [sliceValue]
  | cons s ss =>
    cases castElem n.kw v with
    | none => simp
    | some v1 =>
      simp only [List.isEmpty_cons, Bool.not_false, Bool.or_true, if_true, Bool.false_eq_true, if_false,
        Option.bind]
      cases sliceValue (s :: ss) v1 with
      | none => rfl
      | some v2 => cases n.dims.isEmpty <;> rfl

theorem castValue_eq_conforms (n : Node) (v : Val) (hs : n.slice = []) (hk : isTyped n.kw = true) :
    castValue n v = conforms n.kw n.dims v := by
  rw [castValue_typed n v hk, conforms_eq, hs]
  cases castElem n.kw v <;> simp [sliceValue]

theorem Conf_slice (k : Kw) (sl : List Sl) (v w : Val) (hc : Conf k v)
    (h : specSlice sl v = some w) : Conf k w := by
  fun_induction specSlice sl v generalizing w with
  | case1 v => cases h; exact hc
  | case2 => cases h
  | case3 n rest l x hx ih => exact ih w ((conf_arr k l).mp hc x (List.mem_of_getElem? hx)) h
  | case4 a b l => cases h; exact (conf_arr k _).mpr (fun x hx => (conf_arr k l).mp hc x (mem_pySlice hx))
  | case5 a b l s2 r2 ih =>
    cases hm : (pySlice l a b).mapM (fun x => specSlice (s2 :: r2) x) with
    | none => simp [hm] at h
    | some rs =>
      simp only [hm, Option.map_some, Option.some.injEq] at h
      subst h
      refine (conf_arr k rs).mpr (fun r hr => ?_)
      obtain ⟨x, hx, hfx⟩ := Util.mem_of_mapM_eq_some hm hr
      exact ih x r ((conf_arr k l).mp hc x (mem_pySlice hx)) hfx
  | case6 n s =>
    cases hx : s[n]? with
    | none => simp [hx] at h
    | some c => simp [hx] at h; subst h; exact conf_str k s _ hc
  | case7 a b s => cases h; exact conf_str k s _ hc
  | case8 => cases h

theorem castValue_inject (n : Node) (vs w w' : Val) (hk : isTyped n.kw = true)
    (hconf : Conf n.kw vs) (hs : specSlice n.slice vs = some w)
    (hc : conforms n.kw n.dims w = some w') : castValue n vs = some w' := by
  have hcw : castElem n.kw w = some w := Conf_slice n.kw n.slice vs w hconf hs
  have hce : castElem n.kw vs = some vs := hconf
  rw [conforms_eq, hcw] at hc
  rw [castValue_typed n vs hk, hce, Option.bind, sliceValue_eq_spec n.slice vs (Or.inr (by simp [hs])), hs]
  exact hc

theorem affList_eq_map (a b : Rat) (l : List Val) : affList a b l = l.map (affVal a b) := by
  induction l with
  | nil => rfl
  | cons x t ih => simp [affList, ih]

theorem scale_conf_float (a b : Rat) (v : Val) :
    Conf .float v → Conf .float (affVal a b v) ∧ shape (affVal a b v) = shape v := by
  induction v using val_ind with
  | hn q => intro _; simp [Conf, affVal, castElem, castScalar, shape]
  | hb x => intro h; simp [Conf, castElem, castScalar] at h
  | hs s => intro h; simp [Conf, castElem, castScalar, dtypeOf] at h
  | ha l ih =>
    intro h
    have hl := (conf_arr .float l).mp h
    simp only [affVal, affList_eq_map, shape, List.length_map]
    refine ⟨(conf_arr .float _).mpr ?_, ?_⟩
    · intro y hy
      obtain ⟨x, hx, rfl⟩ := List.mem_map.mp hy
      exact (ih x hx (hl x hx)).1
    · cases l with
      | nil => rfl
      | cons x t => simp only [List.map_cons, shapeHead]; rw [(ih x (by simp) (hl x (by simp))).2]

theorem scale_conf_floatL (a b : Rat) : ∀ l : List Val, castList .float l = some l →
    castList .float (affList a b l) = some (affList a b l) ∧ (affList a b l).length = l.length ∧
    shapeHead (affList a b l) = shapeHead l := by
  intro l h
  have hc : Conf .float (.arr l) := by rw [Conf, castElem_arr, h]; rfl
  obtain ⟨h1, h2⟩ := scale_conf_float a b (.arr l) hc
  simp only [Conf, affVal, castElem_arr, shape, List.cons.injEq] at h1 h2
  refine ⟨?_, h2.1, h2.2⟩
  cases hx : castList .float (affList a b l) with
  | none => simp [hx] at h1
  | some r => simpa [hx] using h1

theorem conforms_float_scale (dims : List Dim) (a b : Rat) (v : Val)
    (h : conforms .float dims v = some v) : conforms .float dims (affVal a b v) = some (affVal a b v) := by
  have hv : castElem .float v = some v := (conforms_self .float dims v v h).2
  obtain ⟨h1, h2⟩ := scale_conf_float a b v hv
  have ha : isArr (affVal a b v) = isArr v := by cases v <;> rfl
  rw [conforms_eq, hv] at h
  rw [conforms_eq, show castElem .float (affVal a b v) = some (affVal a b v) from h1]
  simp only [Option.bind, dimTest, ha, h2] at h ⊢
  split at h
  · split at h
    · cases h
    · rename_i hd hna
      rw [if_pos hd, if_neg hna]
  · split at h
    · rename_i hd hcd
      rw [if_neg hd, if_pos hcd]
    · cases h

theorem convertVal_conf (tbl : UnitTable) (k : Kw) (dims : List Dim) (v w : Val) (frm to : Option Str)
    (hk : k = .float ∨ to = none) (hv : conforms k dims v = some v)
    (hc : convertVal tbl v frm to = some w) : conforms k dims w = some w := by
  -- along the equations of `convertVal`: only the affine map changes the value, and only floats get there
  unfold convertVal at hc
  split at hc
  · split at hc
    · cases hc; exact hv
    · rcases hk with rfl | hk
      · split at hc
        · split at hc
          · cases hc; exact conforms_float_scale dims _ _ v hv
          · cases hc
        · cases hc
      · cases hk
  · cases hc; exact hv

end SciVerif.C17
