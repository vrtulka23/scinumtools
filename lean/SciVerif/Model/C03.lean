import SciVerif.Model.C03Base

/-!
# C03 — executable model of the unit-expression front end (no Mathlib)

Mirrors, statement by statement, the code of `/repo/src/scinumtools/units`:
`fraction.py` (`Fraction`), `dimensions.py` (`Dimensions`), `unit_solver.py`
(`Atom`, `AtomParser`, `UnitSolver` = `ExpressionSolver` with the operators
`( * /`), `base_units.py` (`get_unit_base`, `BaseUnits.__init__`) and the part of
`quantity.py` (`Quantity.__init__`) that turns a unit string into a number and units.

Strings are `List Char`; Python `int` is `Int`; table magnitudes are exact rationals
(`Rat`), a float power `x ** (n/d)` is kept symbolic as the pair `(x, n/d)`.
-/
namespace SciVerif.C03

/-! ## text of Python ints -/

def digitsVal (s : Str) : Nat := s.foldl (fun a c => 10 * a + (c.toNat - 48)) 0

def parseNat (s : Str) : Option Nat :=
  if s ≠ [] ∧ s.all Char.isDigit = true then some (digitsVal s) else none

/-- Python `int(text)` on texts over `[0-9:+-]`: optional sign, then digits. -/
def parseInt : Str → Option Int
  | '+' :: r => (parseNat r).map Int.ofNat
  | '-' :: r => (parseNat r).map (fun n => - Int.ofNat n)
  | s => (parseNat s).map Int.ofNat

def digitChar (d : Nat) : Char := Char.ofNat (48 + d)

/-- decimal digits of `n`, most significant first (`fuel > n` suffices) -/
def renderNatAux : Nat → Nat → Str
  | 0, _ => []
  | f + 1, n => if n < 10 then [digitChar n] else renderNatAux f (n / 10) ++ [digitChar (n % 10)]

def renderNat (n : Nat) : Str := renderNatAux (n + 1) n

/-- Python `str(int)` -/
def renderInt (i : Int) : Str :=
  if i < 0 then '-' :: renderNat i.natAbs else renderNat i.natAbs

/-- `Fraction.from_string`: `num:den` or `num`. -/
def Frac.fromString (s : Str) : Option Frac :=
  match s.dropWhile (· != ':') with
  | [] => (parseInt s).map (fun n => ⟨n, 1⟩)
  | _ :: b =>
    match parseInt (s.takeWhile (· != ':')), parseInt b with
    | some n, some d => some ⟨n, d⟩
    | _, _ => none

/-- `Fraction.__str__`: rebase, then `num` or `num:den`. -/
def Frac.str (a : Frac) : Str :=
  let r := a.rebase
  if r.num = 0 ∨ r.den = 1 then renderInt r.num else renderInt r.num ++ ':' :: renderInt r.den

/-! ## unit_solver.py: Atom -/

/-- the dict key `unitid`: `#NAME`, `base`, or `prefix:base` (`pre = []`: no prefix) -/
inductive UnitId
  | sys (name : Str)
  | std (pre base : Str)
deriving DecidableEq, Repr

/-- the Python key text -/
def UnitId.text : UnitId → Str
  | .sys n => n
  | .std [] b => b
  | .std p b => p ++ ':' :: b

/-- insertion-ordered `dict` unitid ↦ Fraction -/
abbrev ExpMap := List (UnitId × Frac)

def ExpMap.get (m : ExpMap) (u : UnitId) : Option Frac :=
  match m with
  | [] => none
  | (k, v) :: t => if k = u then some v else ExpMap.get t u

def ExpMap.set (m : ExpMap) (u : UnitId) (e : Frac) : ExpMap :=
  match m with
  | [] => [(u, e)]
  | (k, v) :: t => if k = u then (k, e) :: t else (k, v) :: ExpMap.set t u e

/-- loop body of `Atom.__mul__`: `baseunits[unit] = baseunits[unit]+exp if unit in baseunits else exp` -/
def ExpMap.addEntry (m : ExpMap) (ue : UnitId × Frac) : ExpMap :=
  match m.get ue.1 with
  | some v => m.set ue.1 (v.add ue.2)
  | none => m.set ue.1 ue.2

/-- loop body of `Atom.__truediv__` -/
def ExpMap.subEntry (m : ExpMap) (ue : UnitId × Frac) : ExpMap :=
  match m.get ue.1 with
  | some v => m.set ue.1 (v.sub ue.2)
  | none => m.set ue.1 ue.2.neg

def ExpMap.mergeAdd (a b : ExpMap) : ExpMap := b.foldl ExpMap.addEntry a
def ExpMap.mergeSub (a b : ExpMap) : ExpMap := b.foldl ExpMap.subEntry a

structure Atom where
  mag : Rat
  units : ExpMap
deriving DecidableEq, Repr

def Atom.mul (a b : Atom) : Atom := ⟨a.mag * b.mag, a.units.mergeAdd b.units⟩

/-- `__truediv__`: float division by zero raises -/
def Atom.div (a b : Atom) : Option Atom :=
  if b.mag = 0 then none else some ⟨a.mag / b.mag, a.units.mergeSub b.units⟩

/-! ## unit_solver.py: AtomParser -/

def isMantChar (c : Char) : Bool := c.isDigit || c == '.'
def isExpoChar (c : Char) : Bool := c.isDigit || c == '+' || c == '-'

/-- the part of `s` in front of its maximal trailing run of `p`-characters -/
def dropTrail (p : Char → Bool) (s : Str) : Str := (s.reverse.dropWhile p).reverse
/-- the maximal trailing run of `p`-characters (what `re.search("[…]+$")` returns) -/
def trailRun (p : Char → Bool) (s : Str) : Str := (s.reverse.takeWhile p).reverse

/-- the regular expression `^[-]?([0-9.]+)(e([0-9+-]+)|)$`: sign, mantissa text, exponent text -/
def numberParts (s : Str) : Option (Bool × Str × Option Str) :=
  let neg := s.head? == some '-'
  let r := if neg then s.drop 1 else s
  let m := r.takeWhile isMantChar
  if m = [] then none else
  match r.dropWhile isMantChar with
  | [] => some (neg, m, none)
  | 'e' :: x => if x ≠ [] ∧ x.all isExpoChar = true then some (neg, m, some x) else none
  | _ => none

def pow10 (k : Int) : Rat := if k ≥ 0 then ((10 : Rat) ^ k.toNat) else 1 / ((10 : Rat) ^ (-k).toNat)

/-- Python `float(text)` on a text matched by the regular expression, as the exact decimal value;
    `none` = `ValueError` (two dots, no digit, malformed exponent) -/
def floatOfParts (p : Bool × Str × Option Str) : Option Rat :=
  let (neg, m, x) := p
  let ip := m.takeWhile Char.isDigit
  match m.dropWhile Char.isDigit with
  | [] => fin neg ip [] x
  | _ :: fp => if fp.all Char.isDigit = true then fin neg ip fp x else none
where
  fin (neg : Bool) (ip fp : Str) (x : Option Str) : Option Rat :=
    if ip = [] ∧ fp = [] then none else
    let mant : Rat := (digitsVal (ip ++ fp) : Rat) / ((10 : Rat) ^ fp.length)
    let sgn : Rat := if neg then -1 else 1
    match x with
    | none => some (sgn * mant)
    | some xs => (parseInt xs).map (fun k => sgn * mant * pow10 k)

inductive Err
  | unknownUnit | badPrefix | badExponent | badNumber | paren | tokens | operand | zeroDiv | fuel
  | unknownSys | empty
deriving DecidableEq, Repr

/-- what `AtomParser` returns for a unit text: the key and the exponent -/
def unitParse (T : Tables) (s : Str) : Except Err (UnitId × Frac) :=
  let string := ' ' :: s
  let expTxt := trailRun isExpChar string
  let body := dropTrail isExpChar string
  match (if expTxt = [] then some Frac.one else Frac.fromString expTxt) with
  | none => .error .badExponent
  | some exp =>
    if [' ', '#'].isPrefixOf body then
      -- unitid = string[1:]; if unitid not in QUANTITY_UNITS: raise
      if (T.findSys (body.drop 1)).isSome then .ok (.sys (body.drop 1), exp) else .error .unknownSys
    else
    match findBase T body with
    | none => .error .unknownUnit
    | some base =>
      -- string = string[1:-len(base)]
      let pre := (body.take (body.length - base.sym.length)).drop 1
      if T.prefixKeys.contains pre then
        if admits T base pre then .ok (.std pre base.sym, exp) else .error .badPrefix
      else if pre ≠ [] then .error .badPrefix
      else .ok (.std [] base.sym, exp)

/-- `AtomParser(string)` -/
def atomParse (T : Tables) (s : Str) : Except Err Atom :=
  match numberParts s with
  | some parts =>
    match floatOfParts parts with
    | some q => .ok ⟨q, []⟩
    | none => .error .badNumber
  | none =>
    match unitParse T s with
    | .ok (u, e) => .ok ⟨1, [(u, e)]⟩
    | .error e => .error e

/-! ## solver: ExpressionSolver with operators `par`, `mul`, `truediv` -/

/-- `str.strip()` -/
def strip (s : Str) : Str := dropTrail isSpace (s.dropWhile isSpace)

inductive Tok
  | val (a : Option Atom)     -- an Atom, or Python `None`
  | par (a : Option Atom)     -- OperatorPar with its solved argument
  | mul
  | div
deriving DecidableEq, Repr

/-- `OperatorPar.__init__` after the opening symbol was removed: consume up to the matching
    `)`; `left` is `expr.left` reversed; returns the argument texts and the remaining text -/
def scanPar : (right : Str) → (depth : Nat) → (left : Str) → (args : List Str) →
    Except Err (List Str × Str)
  | [], _, _, _ => .error .paren
  | c :: rest, depth, left, args =>
    if c = '(' then scanPar rest (depth + 1) (c :: left) args
    else if c = ',' ∧ depth = 1 then scanPar rest depth [] (args ++ [strip left.reverse])
    else if c = ')' then
      if depth = 1 then .ok (args ++ [strip left.reverse], rest)
      else scanPar rest (depth - 1) (c :: left) args
    else scanPar rest depth (c :: left) args

/-- `if left := self.expr.pop_left(): self.tokens.append(self.tokens.atom(left))` -/
def flushLeft (T : Tables) (left : Str) (toks : List Tok) : Except Err (List Tok) :=
  let l := strip left.reverse
  if l = [] then .ok toks else
  match atomParse T l with
  | .ok a => .ok (toks ++ [.val (some a)])
  | .error e => .error e

/-- `Tokens.operate((OperatorPar,), ARGS)` -/
def argsPass (toks : List Tok) : List Tok :=
  toks.map (fun t => match t with | .par a => .val a | t => t)

/-- `Tokens.operate((OperatorMul, OperatorTruediv), BINARY)`; `left` is the left stack (top first) -/
def binPass : (left : List Tok) → (right : List Tok) → Except Err (List Tok)
  | left, [] => .ok left.reverse
  | left, .mul :: right =>
    match left, right with
    | .val (some a) :: left', .val (some b) :: right' => binPass (.val (some (a.mul b)) :: left') right'
    | _, _ => .error .operand
  | left, .div :: right =>
    match left, right with
    | .val (some a) :: left', .val (some b) :: right' =>
      match a.div b with
      | some c => binPass (.val (some c) :: left') right'
      | none => .error .zeroDiv
    | _, _ => .error .operand
  | left, t :: right => binPass (t :: left) right

/-- end of `solve`: unprocessed tokens raise; an empty token list yields `None` -/
def finish : List Tok → Except Err (Option Atom)
  | [] => .ok none
  | [.val a] => .ok a
  | _ => .error .tokens

mutual
/-- tokenising loop of `ExpressionSolver.solve`; `left` is `expr.left` reversed -/
def tokenize (T : Tables) : (fuel : Nat) → (right : Str) → (left : Str) → (toks : List Tok) →
    Except Err (List Tok)
  | 0, _, _, _ => .error .fuel
  | fuel + 1, right, left, toks =>
    match right with
    | [] => flushLeft T left toks
    | c :: rest =>
      if c = '(' then
        match flushLeft T left toks with
        | .error e => .error e
        | .ok toks1 =>
          match scanPar rest 1 [] [] with
          | .error e => .error e
          | .ok (args, rest') =>
            match args with
            | [arg] =>
              match solve T fuel arg with
              | .error e => .error e
              | .ok v => tokenize T fuel rest' [] (toks1 ++ [.par v])
            | _ => .error .paren
      else if c = '*' then
        match flushLeft T left toks with
        | .error e => .error e
        | .ok toks1 => tokenize T fuel rest [] (toks1 ++ [.mul])
      else if c = '/' then
        match flushLeft T left toks with
        | .error e => .error e
        | .ok toks1 => tokenize T fuel rest [] (toks1 ++ [.div])
      else tokenize T fuel rest (c :: left) toks
/-- `ExpressionSolver.solve(text)` for the unit solver -/
def solve (T : Tables) : (fuel : Nat) → Str → Except Err (Option Atom)
  | 0, _ => .error .fuel
  | fuel + 1, s =>
    match tokenize T fuel s [] [] with
    | .error e => .error e
    | .ok toks =>
      match binPass [] (argsPass toks) with
      | .error e => .error e
      | .ok out => finish out
end

/-- `UnitSolver(text)`; `None` has no `.baseunits`: error -/
def unitSolver (T : Tables) (s : Str) : Except Err Atom :=
  match solve T (2 * s.length + 2) s with
  | .ok (some a) => .ok a
  | .ok none => .error .empty
  | .error e => .error e

/-! ## base_units.py -/

/-- one factor `x ** (num/den)` of a magnitude, kept symbolic -/
structure Factor where
  base : Rat
  exp : Frac
deriving DecidableEq, Repr

structure Base where
  factor : Factor
  dims : List Frac
  expression : Str
deriving Repr

/-- `get_unit_base(unitid, exp)`; `none` = KeyError / ZeroDivisionError -/
def getUnitBase (T : Tables) (u : UnitId) (e : Frac) : Option Base :=
  -- exp.value(dtype=float) divides unless num==0 or den==1
  if e.den = 0 ∧ e.num ≠ 0 then none else
  let r := e.rebase
  let etxt : Str := if r.num = 1 ∧ r.den = 1 then [] else e.str
  match u with
  | .sys name =>
    match T.findSys name with
    | none => none
    | some row => some ⟨⟨row.mag, e⟩, row.dims.map (·.mul e), name ++ etxt⟩
  | .std pre base =>
    match T.findUnit base with
    | none => none
    | some row =>
      if pre = [] then some ⟨⟨row.mag, e⟩, row.dims.map (·.mul e), base ++ etxt⟩
      else match T.findPrefix pre with
        | none => none
        | some p => some ⟨⟨p.mag * row.mag, e⟩, row.dims.map (·.mul e), pre ++ base ++ etxt⟩

def zeroDims : List Frac := List.replicate 8 Frac.zero
def addDims (a b : List Frac) : List Frac := List.zipWith Frac.add a b
def nodim (d : List Frac) : Bool := d.all (fun f => f.num == 0)

/-- the state accumulated by `BaseUnits.__init__` -/
structure BaseUnits where
  /-- the dict after the loop: zero exponents deleted, the others rebased in place -/
  entries : ExpMap
  factors : List Factor
  dims : List Frac
  expression : List Str
deriving Repr

def BaseUnits.empty : BaseUnits := ⟨[], [], zeroDims, []⟩

/-- the loop of `BaseUnits.__init__` over the dict entries -/
def baseUnitsLoop (T : Tables) : ExpMap → BaseUnits → Option BaseUnits
  | [], acc => some acc
  | (u, e) :: rest, acc =>
    if e.num = 0 then baseUnitsLoop T rest acc else
    match getUnitBase T u e with
    | none => none
    | some b => baseUnitsLoop T rest
        ⟨acc.entries ++ [(u, e.rebase)], acc.factors ++ [b.factor], addDims acc.dims b.dims,
         acc.expression ++ [b.expression]⟩

def baseUnitsOfMap (T : Tables) (m : ExpMap) : Option BaseUnits := baseUnitsLoop T m BaseUnits.empty

/-- `SYMBOL_MULTIPLY.join(expression)`, `None` when empty -/
def joinMul : List Str → Option Str
  | [] => none
  | [x] => some x
  | x :: rest => match joinMul rest with
    | some r => some (x ++ '*' :: r)
    | none => some x

def BaseUnits.expr (b : BaseUnits) : Option Str := joinMul b.expression

/-- `BaseUnits(text)` -/
def baseUnitsOfText (T : Tables) (s : Str) : Except Err BaseUnits :=
  match unitSolver T s with
  | .error e => .error e
  | .ok a => match baseUnitsOfMap T a.units with
    | some b => .ok b
    | none => .error .unknownSys

/-- `Quantity(1, text)`: numeric coefficient, factors moved into the magnitude by the
    "rebase if dimensions are zero" block, and the final base units -/
structure QuantityOut where
  coef : Rat
  factors : List Factor
  base : BaseUnits
deriving Repr

/-- the nodim block of `Quantity.__init__` -/
def nodimLoop (T : Tables) : ExpMap → (keep : ExpMap) → (fs : List Factor) → Option (ExpMap × List Factor)
  | [], keep, fs => some (keep, fs)
  | (u, e) :: rest, keep, fs =>
    match getUnitBase T u e with
    | none => none
    | some b => if nodim b.dims then nodimLoop T rest (keep ++ [(u, e)]) fs
                else nodimLoop T rest keep (fs ++ [b.factor])

def quantityOfText (T : Tables) (s : Str) : Except Err QuantityOut :=
  match unitSolver T s with
  | .error e => .error e
  | .ok a =>
    match baseUnitsOfMap T a.units with
    | none => .error .unknownSys
    | some b =>
      if nodim b.dims then
        match nodimLoop T b.entries [] [] with
        | none => .error .unknownSys
        | some (keep, fs) =>
          match baseUnitsOfMap T keep with
          | none => .error .unknownSys
          | some b2 => .ok ⟨a.mag, fs, b2⟩
      else .ok ⟨a.mag, [], b⟩

end SciVerif.C03
