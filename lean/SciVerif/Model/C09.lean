import SciVerif.Model.C20
/-
Model of temporary custom units (property C09).

Mirrors, statement by statement (code as of the `fix:` commit that wraps the registration
loop of `UnitEnvironment.__init__` in `try … except BaseException: self.close(); raise`):
  * `units/unit_environment.py`  `check_unique_symbols`, `UnitEnvironment.__init__`,
                                 `close`, `__enter__`, `__exit__`
  * `parameter_table.py`         `ParameterTable.append / __delitem__ / __contains__`
                                 (keyed mode; the `Tbl` model of C20 is re-used)
  * Python's `with` protocol     (if `__init__` raises, neither `__enter__` nor `__exit__` runs;
                                 `__exit__` returns None, so a body exception propagates)
Process-wide state: `UNIT_STANDARD` (keyed table), `UNIT_TYPES` (list), `UNIT_PREFIXES` (keys;
never written by the code).

No Mathlib imports: this file is also compiled into the line-protocol driver.
-/
namespace SciVerif.C09
open SciVerif.C20 (Tbl dget dset ddel)

abbrev Sym := String
/-- A conversion class (`UnitType` subclass), identified by name (Python compares by identity). -/
abbrev Ty := String

/-- The `definition` field of a unit: `None`, a string, or a conversion class. -/
inductive Defn where
  | none
  | str (s : String)
  | ty (t : Ty)
deriving DecidableEq, Repr

/-- The `prefixes` field: `False`, `True`, or a list of prefix symbols. -/
inductive Pref where
  | no
  | all
  | list (l : List String)
deriving DecidableEq, Repr

/-- One row of `UNIT_STANDARD` (a `ParameterSettings` object). The magnitude is an opaque
    payload (the `repr` of the Python number) and so is the dimension list (its `repr`;
    entries may be ints or `(num, den)` tuples). -/
structure Row where
  magnitude : String
  dimensions : String
  definition : Defn
  name : String
  prefixes : Pref
deriving DecidableEq, Repr

deriving instance DecidableEq for Tbl

/-- The process-wide tables. -/
structure Globals where
  std : Tbl Sym Row          -- UNIT_STANDARD
  types : List Ty            -- UNIT_TYPES
  prefixes : List String     -- UNIT_PREFIXES.keys()
deriving DecidableEq, Repr

/-- What the caller passes as the definition of one custom unit. -/
inductive UnitDef where
  /-- a `dict`; `none` = key absent -/
  | dict (magnitude : Option String) (dimensions : Option String) (definition : Option Defn)
         (name : Option String) (prefixes : Option Pref)
  /-- a `Quantity`; `broken` = evaluating `unit.magnitude.value*unit.baseunits.magnitude` raises.
      `mag`, `dims` are the results of that evaluation (computed by the real `Quantity`). -/
  | quantity (broken : Bool) (mag : String) (dims : String)
  /-- anything else (a string, `None`, a number, a mapping whose access raises):
      `'name' not in unit` / `unit['name'] = symbol` raises -/
  | other
deriving DecidableEq, Repr

/-- The instance attributes of a `UnitEnvironment`. -/
structure Env where
  new_units : List Sym
  new_types : List Ty
deriving DecidableEq, Repr

/-! ### ParameterTable operations used (same definitions as `C20.Tbl.step`, see `Lemmas/C09Registration`) -/

/-- `UNIT_STANDARD.append(symbol, row)` -/
def tblAppend (t : Tbl Sym Row) (k : Sym) (v : Row) : Tbl Sym Row :=
  ⟨if k ∈ t.keys then t.keys else t.keys ++ [k], dset t.data k v⟩

/-- `del UNIT_STANDARD[symbol]` : `_keys.remove` raises when absent (`none`). -/
def tblDel (t : Tbl Sym Row) (k : Sym) : Option (Tbl Sym Row) :=
  if k ∈ t.keys then some ⟨t.keys.erase k, ddel t.data k⟩ else none

/-! ### check_unique_symbols -/

/-- The prefixed symbols appended in the loop over `UNIT_STANDARD.items()`;
    `none` = `assert prefix in UNIT_PREFIXES` failed. -/
def prefixedSymbols (pfx : List String) : List (Sym × Row) → Option (List String)
  | [] => some []
  | (sym, r) :: rest =>
    match r.prefixes with
    | .list l =>
      if l.all (fun p => decide (p ∈ pfx)) then
        match prefixedSymbols pfx rest with
        | some t => some (l.map (fun p => p ++ sym) ++ t)
        | none => none
      else none
    | .all =>
      match prefixedSymbols pfx rest with
      | some t => some (pfx.map (fun p => p ++ sym) ++ t)
      | none => none
    | .no => prefixedSymbols pfx rest

/-- `units.sort()` : a merge sort by structural recursion (fuel = length), so that the kernel
    can evaluate it; only the emptiness of `dupes` below depends on it. -/
def mergeS : Nat → List String → List String → List String
  | 0, xs, ys => xs ++ ys
  | _ + 1, [], ys => ys
  | _ + 1, xs, [] => xs
  | n + 1, x :: xs, y :: ys =>
    if x ≤ y then x :: mergeS n xs (y :: ys) else y :: mergeS n (x :: xs) ys

def halve : List String → List String × List String
  | [] => ([], [])
  | [a] => ([a], [])
  | a :: b :: t => (a :: (halve t).1, b :: (halve t).2)

def msort : Nat → List String → List String
  | 0, l => l
  | n + 1, l =>
    match l with
    | [] => []
    | [a] => [a]
    | _ => mergeS l.length (msort n (halve l).1) (msort n (halve l).2)

def sortStrings (l : List String) : List String := msort l.length l

/-- `dupes = [x for x in units if x in seen or seen.add(x)]` on the sorted list:
    the elements equal to their predecessor. -/
def dupes : List String → List String
  | [] => []
  | [_] => []
  | a :: b :: t => if a = b then b :: dupes (b :: t) else dupes (b :: t)

/-- `check_unique_symbols()` : `true` = returns True, `false` = raises. -/
def checkUnique (g : Globals) : Bool :=
  match prefixedSymbols g.prefixes g.std.data with
  | none => false
  | some l =>
    let units := sortStrings (g.std.keys ++ l)
    (dupes units).isEmpty

/-! ### UnitEnvironment -/

/-- `isinstance(unit, Quantity)` and evaluating the conversion to a dict raises. -/
def conversionRaises : UnitDef → Bool
  | .quantity true _ _ => true
  | _ => false

/-- The mapping the loop body works on (`none` = not a mapping: the first item access raises).
    A `Quantity` becomes the fresh dict `{'magnitude': …, 'dimensions': …}`. -/
def fieldsOf : UnitDef →
    Option (Option String × Option String × Option Defn × Option String × Option Pref)
  | .quantity _ m d => some (some m, some d, none, none, none)
  | .dict m d df n p => some (m, d, df, n, p)
  | .other => none

/-- ```
    elif unit['definition'] is not None:
        if not isinstance(unit['definition'], str) and unit['definition'] not in UNIT_TYPES:
            UNIT_TYPES.insert(0, unit['definition']); self.new_types.append(unit['definition'])
    ``` -/
def regTypes (g : Globals) (e : Env) : Defn → Globals × Env
  | .ty t => if t ∈ g.types then (g, e)
             else ({ g with types := t :: g.types }, { e with new_types := e.new_types ++ [t] })
  | _ => (g, e)

/-- ```
    UNIT_STANDARD.append(symbol, (unit['magnitude'], unit['dimensions'], …))   # KeyError when absent
    self.new_units.append(symbol)
    ``` -/
def regAppend (g : Globals) (e : Env) (symbol : Sym) (m d : Option String) (defn : Defn)
    (name : String) (pref : Pref) : Globals × Env × Bool :=
  match m, d with
  | some mag, some dims =>
    ({ g with std := tblAppend g.std symbol ⟨mag, dims, defn, name, pref⟩ },
     { e with new_units := e.new_units ++ [symbol] }, true)
  | _, _ => (g, e, false)

/-- One iteration of the registration loop. Result: globals, env, `true` = completed /
    `false` = raised (state as left at the raise). -/
def regOne (g : Globals) (e : Env) (symbol : Sym) (u : UnitDef) : Globals × Env × Bool :=
  -- if isinstance(unit, Quantity): unit = {'magnitude': …, 'dimensions': …}
  if conversionRaises u then (g, e, false) else
  -- if symbol in UNIT_STANDARD: raise
  if symbol ∈ g.std.keys then (g, e, false) else
  match fieldsOf u with
  -- if 'name' not in unit: unit['name'] = symbol        (TypeError for a non-mapping)
  | none => (g, e, false)
  | some (m, d, df, n, p) =>
    let name := n.getD symbol
    -- if 'definition' not in unit: unit['definition'] = None
    let defn := df.getD Defn.none
    let ge := regTypes g e defn
    -- if 'prefixes' not in unit: unit['prefixes'] = False
    let pref := p.getD Pref.no
    regAppend ge.1 ge.2 symbol m d defn name pref

/-- `for symbol, unit in units.items(): …` -/
def regLoop : Globals → Env → List (Sym × UnitDef) → Globals × Env × Bool
  | g, e, [] => (g, e, true)
  | g, e, (symbol, u) :: rest =>
    match regOne g e symbol u with
    | (g', e', true) => regLoop g' e' rest
    | r => r

/-- `for unit in self.new_units: del UNIT_STANDARD[unit]`; `false` = raised part-way. -/
def closeUnits : Globals → List Sym → Globals × Bool
  | g, [] => (g, true)
  | g, k :: ks =>
    match tblDel g.std k with
    | some t => closeUnits { g with std := t } ks
    | none => (g, false)

/-- `for utype in self.new_types: UNIT_TYPES.remove(utype)` (ValueError when absent). -/
def closeTypes : Globals → List Ty → Globals × Bool
  | g, [] => (g, true)
  | g, t :: ts =>
    if t ∈ g.types then closeTypes { g with types := g.types.erase t } ts else (g, false)

/-- `UnitEnvironment.close` -/
def close (g : Globals) (e : Env) : Globals × Bool :=
  match closeUnits g e.new_units with
  | (g1, true) => closeTypes g1 e.new_types
  | r => r

/-- `UnitEnvironment.__init__` : `some env` = constructed, `none` = raised. -/
def init (g : Globals) (units : List (Sym × UnitDef)) : Globals × Option Env :=
  -- self.new_units = []; self.new_types = []; try:
  match regLoop g ⟨[], []⟩ units with
  | (g1, e1, true) =>
    if checkUnique g1 then (g1, some e1)
    else ((close g1 e1).1, none)          -- except BaseException: self.close(); raise
  | (g1, e1, false) => ((close g1 e1).1, none)

/-- `Quantity(1, sym)` for a plain symbol: resolves iff the symbol is a key of the table
    (domain: no other key is a proper suffix of `sym`, no exponent characters; see harness). -/
def resolves (g : Globals) (s : Sym) : Bool :=
  decide (s ∈ g.std.keys) && (dget g.std.data s).isSome

/-! ### Programs (histories with faults) -/

inductive Prog where
  | skip
  | raise                                  -- a statement that raises
  | use (s : Sym)                          -- `Quantity(1, s)` (raises when `s` does not resolve)
  | seq (p q : Prog)                       -- `p; q`
  | scope (units : List (Sym × UnitDef)) (body : Prog)   -- `with UnitEnvironment(units): body`
  | attempt (p : Prog)                     -- `try: p` / `except Exception: pass`
deriving Repr

/-- Observable events, for the correspondence with the real run. -/
inductive Ev where
  | used (s : Sym) (ok : Bool)
  | entered (ok : Bool) (g : Globals)      -- after `__init__` (completed / raised)
  | exited (ok : Bool) (g : Globals)       -- after `__exit__`
  | raised
  | caught
deriving Repr

/-- Run a program: final globals, `true` = completed / `false` = an exception propagates, events. -/
def run : Prog → Globals → Globals × Bool × List Ev
  | .skip, g => (g, true, [])
  | .raise, g => (g, false, [.raised])
  | .use s, g => (g, resolves g s, [.used s (resolves g s)])
  | .seq p q, g =>
    match run p g with
    | (g1, true, ev1) =>
      match run q g1 with
      | (g2, ok, ev2) => (g2, ok, ev1 ++ ev2)
    | r => r
  | .scope units body, g =>
    match init g units with
    | (g1, none) => (g1, false, [.entered false g1])      -- neither __enter__ nor __exit__ runs
    | (g1, some e) =>
      match run body g1 with
      | (g2, ok, ev) =>
        -- __exit__(…): self.close(); returns None, so a body exception propagates
        match close g2 e with
        | (g3, okc) => (g3, ok && okc, .entered true g1 :: ev ++ [.exited okc g3])
  | .attempt p, g =>
    match run p g with
    | (g1, true, ev) => (g1, true, ev)
    | (g1, false, ev) => (g1, true, ev ++ [.caught])

/-! ### Histories: `e = UnitEnvironment(units)` … `e.close()` through the explicit API, lifetimes
overlapping in any way (not necessarily nested) -/

inductive HOp where
  | opn (units : List (Sym × UnitDef))     -- `e = UnitEnvironment(units)`
  | cls (i : Nat)                          -- `close()` of the i-th of the currently open environments
  | use (s : Sym)                          -- `Quantity(1, s)`
deriving Repr

/-- Globals plus the environment objects that are open (in the order they were opened). -/
structure HSt where
  g : Globals
  opens : List Env
deriving DecidableEq, Repr

inductive HEv where
  | opened (ok : Bool) (g : Globals)
  | closed (ok : Bool) (g : Globals)
  | used (s : Sym) (ok : Bool)
  | noop
deriving Repr

/-- Split a list at position `i`: (before, element, after). -/
def pick : List Env → Nat → Option (List Env × Env × List Env)
  | [], _ => none
  | e :: t, 0 => some ([], e, t)
  | e :: t, i + 1 =>
    match pick t i with
    | some (pre, x, post) => some (e :: pre, x, post)
    | none => none

def hstep (s : HSt) : HOp → HSt × HEv
  | .opn units =>
    match init s.g units with
    | (g1, none) => (⟨g1, s.opens⟩, .opened false g1)
    | (g1, some e) => (⟨g1, s.opens ++ [e]⟩, .opened true g1)
  | .cls i =>
    match pick s.opens i with
    | none => (s, .noop)
    | some (pre, e, post) => (⟨(close s.g e).1, pre ++ post⟩, .closed (close s.g e).2 (close s.g e).1)
  | .use sym => (s, .used sym (resolves s.g sym))

def hrun : List HOp → HSt → HSt × List HEv
  | [], s => (s, [])
  | op :: ops, s => ((hrun ops (hstep s op).1).1, (hstep s op).2 :: (hrun ops (hstep s op).1).2)

end SciVerif.C09
