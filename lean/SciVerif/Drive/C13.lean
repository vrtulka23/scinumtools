import SciVerif.Drive.Util
import SciVerif.Model.C13Spec
import SciVerif.Lemmas.C13EscapesRepaired
open Lean SciVerif.Drive

/-! JSON line protocol for the DIP core model (used by the C13 and the C14 drivers). -/
namespace SciVerif.C13.Drive

def s2l (s : String) : Str := s.toList
def l2s (l : Str) : String := String.ofList l

def ratJson (q : Rat) : Json := Json.arr #[jstr (toString q.num), jstr (toString q.den)]

def atomJson : Atom → Json
  | .bool b => Json.mkObj [("b", Json.bool b)]
  | .num q => Json.mkObj [("n", ratJson q)]
  | .str s => Json.mkObj [("s", jstr (l2s s))]

def valJson : Val → Json
  | .none => Json.null
  | .scalar a => atomJson a
  | .array sh el => Json.mkObj [("a", Json.arr #[jarr jnat sh, jarr atomJson el])]

def tyStr : Ty → String
  | .bool => "bool" | .int => "int" | .float => "float" | .str => "str"

def nodeJson (name : Str) (ty : Ty) (info : TyInfo) (units : Option Str) (v : Option Val) : Json :=
  Json.arr #[jstr (l2s name), jstr (tyStr ty), jopt jnat info.precision,
    jopt Json.bool info.unsigned, jopt (fun u => jstr (l2s u)) units, jopt valJson v]

def resJson {α : Type} (f : α → Json) : R (List α) → Json
  | .error .fail => jstr "err"
  | .error .unsupported => jstr "unsupported"
  | .ok l => jarr f l

def getStrL (j : Json) : Except String Str := do pure (s2l (← j.getStr?))

def optJ {α : Type} (f : Json → Except String α) (j : Json) : Except String (Option α) :=
  if j.isNull then pure none else do pure (some (← f j))

def getRat (j : Json) : Except String Rat := do
  match ← getList j with
  | [a, b] =>
    match (← a.getStr?).toInt?, (← b.getStr?).toNat? with
    | some n, some d => if d = 0 then throw "zero denominator" else pure ((n : Rat) / (d : Rat))
    | _, _ => throw s!"bad rational {j}"
  | _ => throw s!"bad rational {j}"

def getAtom (j : Json) : Except String Atom := do
  match j.getObjVal? "b" with
  | .ok b => pure (.bool (← b.getBool?))
  | .error _ =>
    match j.getObjVal? "n" with
    | .ok n => pure (.num (← getRat n))
    | .error _ => pure (.str (← getStrL (← field j "s")))

def getVal (j : Json) : Except String Val := do
  if j.isNull then pure .none
  else match j.getObjVal? "a" with
    | .ok a =>
      match ← getList a with
      | [sh, el] => pure (.array (← getNatList sh) (← (← getList el).mapM getAtom))
      | _ => throw "bad array"
    | .error _ => pure (.scalar (← getAtom j))

def getTy (j : Json) : Except String Ty := do
  match ← j.getStr? with
  | "bool" => pure .bool | "int" => pure .int | "float" => pure .float | "str" => pure .str
  | s => throw s!"bad type {s}"

def getDims (j : Json) : Except String (List Dim) := do
  (← getList j).mapM (fun d => do
    match ← getList d with
    | [a, b] => pure (← optJ (·.getNat?) a, ← optJ (·.getNat?) b)
    | _ => throw "bad dim")

def getInfo (p u : Json) : Except String TyInfo := do
  pure { precision := ← optJ (·.getNat?) p, unsigned := ← optJ (·.getBool?) u }

def getPayload (j : Json) : Except String (Payload Val) := do
  match ← getList j with
  | [Json.str "skip"] => pure .skip
  | [Json.str "group"] => pure .group
  | [Json.str "const"] => pure .const
  | [Json.str "typed", ty, p, u, dims, unit, hasv, v] =>
    let hv ← hasv.getBool?
    let val ← getVal v
    pure (.typed (← getTy ty) (← getInfo p u) (← optJ getDims dims) (← optJ getStrL unit)
      (if hv then some val else none))
  | [Json.str "mod", unit, v] => pure (.mod (← optJ getStrL unit) (← getVal v))
  | _ => throw s!"bad payload {j}"

def getALine (j : Json) : Except String (ALine Val) := do
  match ← getList j with
  | [i, n, p] => pure { indent := ← i.getNat?, name := ← getStrL n, p := ← getPayload p }
  | _ => throw "bad line"

def getUnits (j : Json) : Except String (List UnitRow) := do
  (← getList j).mapM (fun r => do
    match ← getList r with
    | [n, a, b, d] => pure { name := ← getStrL n, factor := ← getRat (Json.arr #[a, b]), dim := ← getIntList d }
    | _ => throw "bad unit row")

def kindStr : Kind → String
  | .empty => "empty" | .unit => "unit" | .constant => "constant" | .group => "group"
  | .mod => "mod" | .table => "table" | .typed t => tyStr t

def rawJson : Raw → Json
  | .text s => jstr (l2s s)
  | .cells _ l => jarr (fun c => jstr (l2s c)) l

def lexJson (nd : Node) : Json :=
  Json.arr #[jstr (kindStr nd.kind), jnat nd.indent, jopt (fun n => jstr (l2s n)) nd.name,
    jopt jnat nd.info.precision, jopt Json.bool nd.info.unsigned,
    jopt (jarr (fun (d : Dim) => Json.arr #[jopt jnat d.1, jopt jnat d.2])) nd.dims,
    jopt rawJson nd.raw, jopt (fun u => jstr (l2s u)) nd.units, Json.bool nd.declared]

def handle (j : Json) : Except String Json := do
  let tbl ← match j.getObjVal? "units" with
    | .ok u => getUnits u
    | .error _ => pure []
  let P := mkParams tbl
  let mut out : List (String × Json) := []
  match j.getObjVal? "text" with
  | .ok t =>
    let text ← getStrL t
    let r := parseText P text
    out := out ++ [("model", resJson (fun (e : ENode) => nodeJson e.name e.ty e.info e.units e.value) r)]
  | .error _ => pure ()
  match j.getObjVal? "lex" with
  | .ok t =>
    let text ← getStrL t
    let r : R (List Node) := do
      let q ← getQueue (stripBlankLines (splitOn '\n' text))
      q.mapM determine
    out := out ++ [("lex", resJson lexJson r)]
  | .error _ => pure ()
  match j.getObjVal? "marks" with
  | .ok t =>
    -- the repaired escape marks of `_determine_node` (Lemmas/C13EscapesRepaired.lean) on one text
    let text ← getStrL t
    out := out ++ [("marks", jstr (l2s (decodeM (encodeM text)))), ("encoded", jstr (l2s (encodeM text)))]
  | .error _ => pure ()
  match j.getObjVal? "lines" with
  | .ok ls =>
    let lines ← (← getList ls).mapM getALine
    let r := specRun P.conv P.unitKnown lines
    out := out ++ [("spec", resJson (fun (e : SNode) => nodeJson e.name e.ty e.info e.units e.value) r)]
  | .error _ => pure ()
  pure (Json.mkObj out)

end SciVerif.C13.Drive
