import SciVerif.Drive.Util
import SciVerif.Model.C17
import SciVerif.Lemmas.C17Checks
import SciVerif.Lemmas.C17InvChecks
import SciVerif.Lemmas.C17Parse
import SciVerif.Lemmas.C17Declared
open Lean SciVerif.Drive

namespace SciVerif.C17.Drive

def toStr (s : String) : Str := s.toList
def ofStr (s : Str) : String := String.ofList s
def jS (s : Str) : Json := Json.str (ofStr s)

def getStr (j : Json) : Except String Str := do pure (toStr (← j.getStr?))
def optOf {α : Type} (f : Json → Except String α) (j : Json) : Except String (Option α) :=
  match j with
  | Json.null => pure none
  | _ => do pure (some (← f j))
def fieldD (j : Json) (k : String) : Json := (j.getObjVal? k).toOption.getD Json.null

partial def getVal (j : Json) : Except String Val := do
  if let .ok q := j.getObjVal? "q" then
    match ← getList q with
    | [n, d] => pure (.num (mkRat (← n.getInt?) (← d.getNat?)))
    | _ => throw "bad q"
  else if let .ok b := j.getObjVal? "b" then pure (.bool (← b.getBool?))
  else if let .ok s := j.getObjVal? "s" then pure (.str (← getStr s))
  else if let .ok a := j.getObjVal? "a" then
    pure (.arr (← (← getList a).mapM getVal))
  else throw s!"bad value {j}"

partial def valJson : Val → Json
  | .num q => Json.mkObj [("q", Json.arr #[jint q.num, jnat q.den])]
  | .bool b => Json.mkObj [("b", Json.bool b)]
  | .str s => Json.mkObj [("s", jS s)]
  | .arr l => Json.mkObj [("a", Json.arr (l.map valJson).toArray)]

def getOptNat (j : Json) : Except String (Option Nat) := optOf (fun x => x.getNat?) j

def getPair (j : Json) : Except String (Option Nat × Option Nat) := do
  match ← getList j with
  | [a, b] => pure (← getOptNat a, ← getOptNat b)
  | _ => throw "bad pair"

def getKw (s : String) : Except String Kw :=
  match s with
  | "bool" => pure .bool | "int" => pure .int | "float" => pure .float | "str" => pure .str
  | "mod" => pure .mod | "group" => pure .group | "import" => pure .imp
  | _ => throw s!"bad keyword {s}"

def kwStr : Kw → String
  | .bool => "bool" | .int => "int" | .float => "float" | .str => "str"
  | .mod => "mod" | .group => "group" | .imp => "import"

def getSl (j : Json) : Except String Sl := do
  match ← getList j with
  | [Json.str "idx", n] => pure (.idx (← n.getNat?))
  | [Json.str "rng", a, b] => pure (.rng (← getOptNat a) (← getOptNat b))
  | _ => throw s!"bad slice {j}"

def getNode (j : Json) : Except String Node := do
  pure { name := ← getStr (← field j "name"),
         indent := ← (← field j "indent").getNat?,
         kw := ← getKw (← (← field j "kw").getStr?),
         dims := ← (← getList (fieldD j "dims" |> fun x => if x == Json.null then Json.arr #[] else x)).mapM getPair,
         raw := ← optOf getVal (fieldD j "raw"),
         ref := ← optOf getStr (fieldD j "ref"),
         slice := ← (← getList (fieldD j "slice" |> fun x => if x == Json.null then Json.arr #[] else x)).mapM getSl,
         unitsRaw := ← optOf getStr (fieldD j "unit"),
         value := none,
         defined := (fieldD j "defined").getBool?.toOption.getD false,
         constant := false, condition := none, format := none, tags := [], options := [],
         description := none, imported := false }

def getItem (j : Json) : Except String Item := do
  match ← (← field j "t").getStr? with
  | "node" => pure (.node (← getNode j))
  | "unit" =>
    if fieldD j "ref" == Json.null then
      pure (.unitdef (← getStr (← field j "name")) (← getVal (← field j "value")) (← optOf getStr (fieldD j "unit")))
    else
      pure (.unitref (← getStr (← field j "name")) (← getStr (← field j "ref")) (← optOf getStr (fieldD j "unit")))
  | "optref" => pure (.optref (← getStr (← field j "ref")) (← optOf getStr (fieldD j "unit")))
  | "unitimp" => pure (.unitimp (← getStr (← field j "source")) (← optOf getStr (fieldD j "name")))
  | "case" =>
    let indent ← (← field j "indent").getNat?
    match ← (← field j "kind").getStr? with
    | "cond" => pure (.case indent (.cond (← optOf getVal (fieldD j "raw")) (← optOf getStr (fieldD j "ref"))))
    | "else" => pure (.case indent .els)
    | "end" => pure (.case indent .fin)
    | k => throw s!"bad case kind {k}"
  | "prop" =>
    match ← (← field j "p").getStr? with
    | "constant" => pure (.prop .constant)
    | "condition" => pure (.prop (.condition (← getStr (← field j "v"))))
    | "format" => pure (.prop (.format (← getStr (← field j "v"))))
    | "tags" => pure (.prop (.tags (← (← getList (← field j "v")).mapM getStr)))
    | "option" => pure (.prop (.option (← getVal (← field j "v")) (← optOf getStr (fieldD j "unit"))))
    | "description" => pure (.prop (.description (← getStr (← field j "v"))))
    | p => throw s!"bad prop {p}"
  | t => throw s!"bad item {t}"

def optJ {α : Type} (f : α → Json) : Option α → Json
  | none => Json.null
  | some a => f a

def optsJson (l : List (Val × Option Str)) : Json :=
  jarr (fun (o : Val × Option Str) => Json.arr #[valJson o.1, optJ jS o.2]) l

def nodeJson (n : Node) : Json :=
  Json.mkObj [("name", jS n.name), ("kw", jstr (kwStr n.kw)), ("unit", optJ jS n.unitsRaw),
    ("value", optJ valJson n.value), ("constant", Json.bool n.constant),
    ("condition", optJ jS n.condition), ("format", optJ jS n.format),
    ("tags", jarr jS n.tags), ("options", optsJson n.options), ("description", optJ jS n.description),
    ("dims", jarr (fun (d : Dim) => Json.arr #[optJ jnat d.1, optJ jnat d.2]) n.dims)]

def getRat (q : Json) : Except String Rat := do
  match ← getList q with
  | [n, m] => pure (mkRat (← n.getInt?) (← m.getNat?))
  | _ => throw "bad rational"

def getTbl (j : Json) : Except String UnitTable := do
  (← getList j).mapM (fun e => do
    match ← getList e with
    | [s, d, a, b] => pure (← getStr s, ← d.getNat?, ← getRat a, ← getRat b)
    | _ => throw "bad unit entry")

/-! specification input -/

def getPath (j : Json) : Except String (List Str) := do (← getList j).mapM getStr

def getSQuery (j : Json) : Except String SQuery := do
  match ← getList j with
  | [Json.str "all"] => pure .all
  | [Json.str "children", p] => pure (.children (← getPath p))
  | [Json.str "exact", p] => pure (.exact (← getPath p))
  | _ => throw s!"bad query {j}"

def getSVal (j : Json) : Except String SVal := do
  if let .ok v := j.getObjVal? "lit" then pure (.lit (← getVal v))
  else
    pure (.inj (← optOf getStr (fieldD j "source")) (← getSQuery (← field j "query"))
      (← (← getList (← field j "slices")).mapM getSl))

def getStmt (j : Json) : Except String SStmt := do
  let path ← getPath (fieldD j "path" |> fun x => if x == Json.null then Json.arr #[] else x)
  match ← (← field j "t").getStr? with
  | "def" => pure (.defn path (← getKw (← (← field j "kw").getStr?))
      (← (← getList (← field j "dims")).mapM getPair) (← getSVal (← field j "v"))
      (← optOf getStr (fieldD j "unit")))
  | "decl" => pure (.decl path (← getKw (← (← field j "kw").getStr?))
      (← (← getList (← field j "dims")).mapM getPair) (← optOf getStr (fieldD j "unit")))
  | "mod" => pure (.modl path (← getSVal (← field j "v")) (← optOf getStr (fieldD j "unit")))
  | "imp" => pure (.imp path (← optOf getStr (fieldD j "source")) (← getSQuery (← field j "query")))
  | "constant" => pure (.constant path)
  | "condition" => pure (.condition path (← getStr (← field j "v")))
  | "format" => pure (.format path (← getStr (← field j "v")))
  | "tags" => pure (.tags path (← (← getList (← field j "v")).mapM getStr))
  | "option" => pure (.option path (← getSVal (← field j "v")) (← optOf getStr (fieldD j "unit")))
  | "unitdef" => pure (.unitdef (← getStr (← field j "name")) (← getSVal (← field j "v")) (← optOf getStr (fieldD j "unit")))
  | "unitimp" => pure (.unitimp (← getStr (← field j "source")) (← optOf getStr (fieldD j "name")))
  | "case" => pure (.caseCond (← getSVal (← field j "v")))
  | "else" => pure .caseElse
  | "end" => pure .caseEnd
  | "description" => pure (.description path (← getStr (← field j "v")))
  | t => throw s!"bad stmt {t}"

def snodeJson (n : SNode) : Json :=
  Json.mkObj [("name", jS (joinDot n.path)), ("kw", jstr (kwStr n.kw)), ("unit", optJ jS n.unit),
    ("value", optJ valJson n.value), ("constant", Json.bool n.constant),
    ("condition", optJ jS n.condition), ("format", optJ jS n.format),
    ("tags", jarr jS n.tags), ("options", optsJson n.options), ("description", optJ jS n.description),
    ("dims", jarr (fun (d : Dim) => Json.arr #[optJ jnat d.1, optJ jnat d.2]) n.dims)]

def envJson (e : Env) : Json :=
  Json.mkObj [("nodes", jarr nodeJson e.nodes),
    ("units", jarr (fun (u : Str × Val × Option Str) => Json.arr #[jS u.1, valJson u.2.1, optJ jS u.2.2]) e.units)]

abbrev UnitDefs := List (Str × Val × Option Str)

/-- remote sources are parsed on their own, in order, each seeing the sources before it -/
def parseSources (tbl : UnitTable) : List Json → List (Str × List Node) → List (Str × UnitDefs) →
    Except String (List (Str × List Node) × List (Str × UnitDefs))
  | [], acc, ua => pure (acc, ua)
  | j :: rest, acc, ua => do
    let name ← getStr (← field j "name")
    let items ← (← getList (← field j "items")).mapM getItem
    match parseC tbl { Env.empty with sources := acc, srcUnits := ua } items with
    | .error e => throw s!"source: {e}"
    | .ok env =>
      -- `withSource`: the installation step of C17_refinement_with_source_partial / C17_inv_with_source
      let e' := withSource { Env.empty with sources := acc, srcUnits := ua } name env
      parseSources tbl rest e'.sources e'.srcUnits

def specSources (tbl : UnitTable) : List Json → List (Str × List SNode) → List (Str × UnitDefs) →
    Except String (Option (List (Str × List SNode) × List (Str × UnitDefs)))
  | [], acc, ua => pure (some (acc, ua))
  | j :: rest, acc, ua => do
    let name ← getStr (← field j "name")
    let stmts ← (← getList (← field j "stmts")).mapM getStmt
    match sRunC tbl (⟨[], acc, false, [], ua⟩, none) stmts with
    | .error _ => pure none
    | .ok (env, _) =>
      let s' := sWithSource ⟨[], acc, false, [], ua⟩ name env
      specSources tbl rest s'.sources s'.srcUnits

/-- name of `env.nodes[-1]` before every line of the main text (what a property line acts on) -/
def lastTrace (tbl : UnitTable) : CEnv → List Item → List Json
  | _, [] => []
  | c, it :: rest =>
    optJ (fun (n : Node) => jS n.name) c.env.nodes.getLast? ::
      (match stepC tbl c it with
       | .ok c' => lastTrace tbl c' rest
       | .error _ => [])

def runModel (tbl : UnitTable) (j : Json) : Except String Json := do
  let srcs ← getList (fieldD j "sources" |> fun x => if x == Json.null then Json.arr #[] else x)
  match parseSources tbl srcs [] [] with
  | .error e => pure (Json.mkObj [("err", jstr e)])
  | .ok (sources, srcUnits) =>
    let env0 : Env := { Env.empty with sources := sources, srcUnits := srcUnits }
    let baseJ := fieldD j "base"
    let mainItems ← (← getList (← field j "main")).mapM getItem
    let srcJson := jarr (fun (s : Str × List Node) => Json.mkObj [("name", jS s.1), ("nodes", jarr nodeJson s.2)]) sources
    if baseJ == Json.null then
      let tr := Json.arr (lastTrace tbl ⟨env0, none⟩ mainItems).toArray
      match parseC tbl env0 mainItems with
      | .error e => pure (Json.mkObj [("err", jstr e), ("sources", srcJson), ("trace", tr)])
      | .ok env => pure (Json.mkObj [("env", envJson env), ("sources", srcJson), ("trace", tr)])
    else
      let baseItems ← (← getList baseJ).mapM getItem
      match parseC tbl env0 baseItems with
      | .error e => pure (Json.mkObj [("base_err", jstr e), ("sources", srcJson)])
      | .ok benv =>
        let tr := Json.arr (lastTrace tbl ⟨benv, none⟩ mainItems).toArray
        match parseC tbl benv mainItems with
        | .error e => pure (Json.mkObj [("err", jstr e), ("base", envJson benv), ("sources", srcJson), ("trace", tr)])
        | .ok env => pure (Json.mkObj [("env", envJson env), ("base", envJson benv), ("sources", srcJson), ("trace", tr)])

def serrStr : SErr → String
  | .rejected => "rejected"
  | .outside => "outside"

def runSpec (tbl : UnitTable) (j : Json) : Except String Json := do
  let srcs ← getList (fieldD j "sources" |> fun x => if x == Json.null then Json.arr #[] else x)
  match ← specSources tbl srcs [] [] with
  | none => pure (jstr "outside")
  | some (sources, srcUnits) =>
    let baseJ := fieldD j "base"
    let baseStmts ← if baseJ == Json.null then pure [] else (← getList baseJ).mapM getStmt
    let mainStmts ← (← getList (← field j "main")).mapM getStmt
    match sRunC tbl (⟨[], sources, false, [], srcUnits⟩, none) baseStmts with
    | .error _ => pure (jstr "outside")       -- the base itself must be a valid program
    | .ok (benv, _) =>
      if benv.mayReject then pure (jstr "outside") else
      match sRunC tbl (benv, none) mainStmts with
      | .error e => pure (jstr (serrStr e))
      | .ok (env, _) =>
        -- a declared node without value makes the real parse fail in its validation loop (C16)
        if env.nodes.any (fun n => n.value.isNone) then pure (jstr "outside") else
        pure (Json.mkObj [("nodes", jarr snodeJson env.nodes), ("mayReject", Json.bool env.mayReject),
          ("base", jarr snodeJson benv.nodes),
          ("units", jarr (fun (u : Str × Val × Option Str) => Json.arr #[jS u.1, valJson u.2.1, optJ jS u.2.2]) env.units),
          ("sources", jarr (fun (s : Str × List SNode) => Json.mkObj [("name", jS s.1), ("nodes", jarr snodeJson s.2)]) sources)])

/-- plain slicing probe: model `slice_value` and the Python-slice specification -/
def runSlice (j : Json) : Except String Json := do
  let v ← getVal (← field j "v")
  let sl ← (← getList (← field j "slices")).mapM getSl
  pure (Json.mkObj [("model", optJ valJson (sliceValue sl v)),
                    ("spec", optJ valJson (specSlice sl v))])

def blankNode (nm : Str) : Node :=
  { name := nm
    indent := 0
    kw := Kw.int
    dims := []
    raw := none
    ref := none
    slice := []
    unitsRaw := none
    value := none
    defined := false
    constant := false
    condition := none
    format := none
    tags := []
    options := []
    description := none
    imported := false }

def runQuery (j : Json) : Except String Json := do
  let names ← (← getList (← field j "names")).mapM getStr
  let q ← getStr (← field j "q")
  let ns : List Node := names.map blankNode
  pure (jarr (fun (n : Node) => jS n.name) (query ns (parseQuery q)))

/-! ### tie of the refinement theorems' own definitions to the programs that are run

`C17_refinement_nested_imports_partial` speaks about the line record `impAt i pre source q` and the
destination `impDest parents i pre`; `C17_refinement_checked_partial` about the check `fragRunB`.
For every import line of a main program the driver evaluates these definitions where the model
stands when it reaches the line, and compares them with the line record the harness built from the
program text and with the destination of the specification statement (which is compared with the
real code by the environment comparison). -/

/-- the import lines of a program with the hierarchy stack the model holds when it reaches them -/
def impSites (tbl : UnitTable) : CEnv → List Item → List (List (Nat × Str) × Node)
  | _, [] => []
  | c, it :: rest =>
    let here := match it with
      | .node n => if n.kw = .imp then [(c.env.parents, n)] else []
      | _ => []
    here ++ (match stepC tbl c it with
      | .ok c' => impSites tbl c' rest
      | .error _ => [])

def tieOne (x : (List (Nat × Str) × Node) × (List Str × Option Str × SQuery)) : Json :=
  let ps := x.1.1
  let n := x.1.2
  let dest := x.2.1
  let source := x.2.2.1
  let q := x.2.2.2
  let pre : List Str := match (splitDotBrace n.name).dropLast with
    | [] => []
    | p :: _ => splitDot p
  let a := impAt n.indent pre source q
  Json.mkObj [
    ("line", Json.bool (decide (a.name = n.name) && decide (a.ref = n.ref) && decide (a.indent = n.indent))),
    ("dest", Json.bool (decide (impDest ps n.indent pre = dest))),
    ("indent", jnat n.indent)]

/-! #### the nested check `runNB` on the program that is run

The main program (line records + specification statements, as the harness sends them) is read as
a list of `NLine`s; it counts as covered by `C17_refinement_nested_checked_partial` when every
line is expressible, the line records `NLine.item` produces ARE the records that are run
(field by field), and `runNB` accepts. -/

def slEqB : Sl → Sl → Bool
  | .idx a, .idx b => a == b
  | .rng a b, .rng c d => a == c && b == d
  | _, _ => false

def slsEqB : List Sl → List Sl → Bool
  | [], [] => true
  | a :: t, b :: u => slEqB a b && slsEqB t u
  | _, _ => false

def nodeEqB (a b : Node) : Bool :=
  decide (a.name = b.name) && a.indent == b.indent && decide (a.kw = b.kw) && decide (a.dims = b.dims) &&
  (optJ valJson a.raw == optJ valJson b.raw) && decide (a.ref = b.ref) && slsEqB a.slice b.slice &&
  decide (a.unitsRaw = b.unitsRaw) && (optJ valJson a.value == optJ valJson b.value) &&
  a.defined == b.defined && a.constant == b.constant && decide (a.condition = b.condition) &&
  decide (a.format = b.format) && decide (a.tags = b.tags) && (a.options.isEmpty && b.options.isEmpty) &&
  decide (a.description = b.description) && a.imported == b.imported

def itemsMatch : List Item → List Item → Bool
  | [], [] => true
  | .node a :: t, .node b :: u => nodeEqB a b && itemsMatch t u
  | .prop _ :: t, .prop _ :: u => itemsMatch t u      -- the same `PropLine` by construction
  | _, _ => false

def stmtPath? : SStmt → Option (List Str)
  | .constant p => some p
  | .condition p _ => some p
  | .format p _ => some p
  | .tags p _ => some p
  | .option p _ _ => some p
  | .description p _ => some p
  | _ => none

def toNLines : List Item → List SStmt → Option (List NLine)
  | [], [] => some []
  | [], _ :: _ => none
  | .node n :: its, ss =>
    if n.kw = .group then (toNLines its ss).map (fun r => .base (.group n.indent n.name) :: r)
    else match ss with
      | [] => none
      | s :: ss' =>
        if n.kw = .imp then
          match s with
          | .imp dest source q =>
            let pre : List Str := match (splitDotBrace n.name).dropLast with
              | [] => []
              | p :: _ => splitDot p
            (toNLines its ss').map (fun r => .imp n.indent pre dest source q :: r)
          | _ => none
        else (toNLines its ss').map (fun r => .base (.stmt n.indent n.name s) :: r)
  | .prop p :: its, s :: ss' =>
    match stmtPath? s with
    | some path => (toNLines its ss').map (fun r => .base (.prop path p) :: r)
    | none => none
  | _, _ => none

def nestedCover (tbl : UnitTable) (benv : Env) (items : List Item) (stmts : List SStmt) : String :=
  match toNLines items stmts with
  | none => "inexpressible"
  | some ls =>
    match ls.mapM NLine.item with
    | none => "inexpressible"
    | some its =>
      if !itemsMatch its items then "records-differ"
      else if runNB tbl benv ls then "accepts" else "refuses"

/-- the declared-node fragment (C17_refinement_declared_partial) on the program that is run: every
    statement passes `litFragB`, the line records `concD` builds are, field by field, the records
    the model is run on, and `invDB` accepts the environment the program starts from -/
def declCover (tbl : UnitTable) (benv : Env) (items : List Item) (stmts : List SStmt) : String :=
  if !stmts.all litFragB then "outside-fragment"
  else match stmts.mapM concD with
    | none => "outside-fragment"
    | some its =>
      if !itemsMatch its items then "records-differ"
      else if invDB tbl benv then "accepts" else "env-refused"

def runTie (tbl : UnitTable) (mj sj : Json) : Except String Json := do
  let srcs ← getList (fieldD mj "sources" |> fun x => if x == Json.null then Json.arr #[] else x)
  match parseSources tbl srcs [] [] with
  | .error _ => pure Json.null
  | .ok (sources, srcUnits) =>
    let env0 : Env := { Env.empty with sources := sources, srcUnits := srcUnits }
    let baseJ := fieldD mj "base"
    let mainItems ← (← getList (← field mj "main")).mapM getItem
    let mainStmts ← (← getList (← field sj "main")).mapM getStmt
    let baseItems ← if baseJ == Json.null then pure [] else (← getList baseJ).mapM getItem
    match (if baseJ == Json.null then Except.ok env0 else parseC tbl env0 baseItems) with
    | .error _ => pure Json.null
    | .ok benv =>
      let sites := impSites tbl ⟨benv, none⟩ mainItems
      let imps := mainStmts.filterMap (fun s => match s with
        | .imp d so q => some (d, so, q)
        | _ => none)
      let frag := fragRunB tbl (absEnv benv) mainStmts
      -- `invB` (C17_inv_decidable): the invariant the refinement theorems assume of the initial
      -- environment, evaluated on the environment the main program starts from (parsed remote
      -- sources, parsed base), and on the environment the model ends in
      let invFinal : Json := match parseC tbl benv mainItems with
        | .ok env => Json.bool (invB tbl env)
        | .error _ => Json.null
      let badNodes := (benv.nodes ++ benv.sources.flatMap (fun s => s.2)).filter (fun n => !goodB tbl n)
      -- the base stage of C17_refinement_on_base_partial: `invB` on the environment the base text
      -- starts from, `runNB` on the base text read as `NLine`s
      let baseNested : Json ← if baseJ == Json.null then pure Json.null else do
        let sb := fieldD sj "base"
        let baseStmts ← if sb == Json.null then pure [] else (← getList sb).mapM getStmt
        pure (jstr (nestedCover tbl env0 baseItems baseStmts))
      pure (Json.mkObj [("imports", Json.arr ((sites.zip imps).map tieOne).toArray),
                        ("frag", Json.bool frag),
                        ("nested", jstr (nestedCover tbl benv mainItems mainStmts)),
                        ("inv0", Json.bool (invB tbl env0)),
                        ("declared", jstr (declCover tbl benv mainItems mainStmts)),
                        ("declared_has_decl", Json.bool (mainStmts.any (fun s => match s with
                          | .decl .. => true
                          | _ => false))),
                        ("base_nested", baseNested),
                        ("inv", Json.bool (invB tbl benv)),
                        ("inv_bad", jarr (fun (n : Node) => jS n.name) badNodes),
                        ("inv_declared", Json.bool (badNodes.any (fun n => n.value.isNone))),
                        ("inv_final", invFinal)])

def handle (j : Json) : Except String Json := do
  let k ← (← field j "k").getStr?
  match k with
  | "prog" =>
    let tbl ← getTbl (← field j "tbl")
    let m ← runModel tbl (← field j "model")
    let s ← runSpec tbl (← field j "spec")
    let t ← runTie tbl (← field j "model") (← field j "spec")
    pure (Json.mkObj [("model", m), ("spec", s), ("tie", t)])
  | "slice" => runSlice j
  | "query" => runQuery j
  | _ => throw s!"C17: unknown kind {k}"

end SciVerif.C17.Drive
