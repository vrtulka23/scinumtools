import SciVerif.Lemmas.C10Isotopes

/-!
# C10 — facts about the regenerated periodic table (whole table, `decide +kernel`)
-/
namespace SciVerif.C10.Facts
open SciVerif.C10

/-- a row of the generated table: symbol, Z, isotopes (A, mass, abundance) -/
abbrev Row := List Char × Nat × List (Nat × (Int × Nat) × (Int × Nat))

/-- no number of the list is in the bit set `seen`, none occurs twice -/
def distinctFrom : Nat → List Nat → Bool
  | _, [] => true
  | seen, a :: t => !seen.testBit a && distinctFrom (seen ||| 1 <<< a) t

theorem nodup_of_distinctFrom (l : List Nat) (seen : Nat) (h : distinctFrom seen l = true) :
    l.Nodup ∧ ∀ a ∈ l, seen.testBit a = false := by
  fun_induction distinctFrom seen l with
  | case1 => exact ⟨List.nodup_nil, fun _ h => nomatch h⟩
  | case2 seen a t ih =>
    simp only [Bool.and_eq_true, Bool.not_eq_true'] at h
    obtain ⟨hn, hseen⟩ := ih h.2
    have hbit : ∀ b, (seen ||| 1 <<< a).testBit b = false → seen.testBit b = false ∧ b ≠ a := by
      intro b hb
      rw [Nat.testBit_or, Bool.or_eq_false_iff] at hb
      refine ⟨hb.1, ?_⟩
      rintro rfl
      simp at hb
    exact ⟨List.nodup_cons.mpr ⟨fun hm => (hbit a (hseen a hm)).2 rfl, hn⟩,
      List.forall_mem_cons.mpr ⟨h.1, fun b hb => (hbit b (hseen b hb)).1⟩⟩

/-- a number for a symbol; it need not be injective: distinct numbers can only come from
    distinct symbols, which is the direction the check uses -/
def symCode (s : List Char) : Nat := s.foldl (fun a c => a * 256 + c.toNat) 0

/-- symbols pairwise distinct; per element: at least one isotope, mass numbers pairwise distinct,
    non-zero and not below the proton number; no zero denominator.  Written with bit sets and
    `Nat.blt`/`Nat.ble` because the kernel evaluates these on GMP numbers (comparing the 118
    symbols as character lists takes six times as long as everything here). -/
def wfBool (tbl : List Row) : Bool :=
  distinctFrom 0 (tbl.map fun e => symCode e.1) &&
  tbl.all fun e =>
    !e.2.2.isEmpty && distinctFrom 0 (e.2.2.map (·.1)) &&
    e.2.2.all fun i => Nat.blt 0 i.1 && Nat.ble e.2.1 i.1 && Nat.blt 0 i.2.1.2 && Nat.blt 0 i.2.2.2

/-- Stated for any row translation `f` that keeps symbol, proton number and mass numbers, so that the
    kernel runs the check on the raw table and never evaluates the `Rat`s of `liveTable`. -/
theorem wellformed_of_check (raw : List Row) (f : Row → Elem) (hsym : ∀ e, (f e).sym = e.1)
    (hZ : ∀ e, (f e).Z = e.2.1) (hA : ∀ e, (f e).isos.map (·.A) = e.2.2.map (·.1))
    (h : wfBool raw = true) :
    TableWF (raw.map f) ∧ ∀ el ∈ raw.map f, el.isos ≠ [] ∧ ∀ i ∈ el.isos, i.A ≠ 0 ∧ el.Z ≤ i.A := by
  simp only [wfBool, Bool.and_eq_true, List.all_eq_true, Bool.not_eq_true', Nat.blt_eq,
    Nat.ble_eq] at h
  obtain ⟨hs, hrow⟩ := h
  have hsyms : ((raw.map f).map (·.sym)).Nodup := by
    have e : (raw.map f).map (·.sym) = raw.map (·.1) := by
      rw [List.map_map]; exact List.map_congr_left fun e _ => hsym e
    have : ((raw.map (·.1)).map symCode).Nodup := by
      rw [List.map_map]; exact (nodup_of_distinctFrom _ 0 hs).1
    rw [e]; exact this.of_map symCode fun _ _ hne heq => hne (congrArg symCode heq)
  have hel : ∀ el ∈ raw.map f, (el.isos.map (·.A)).Nodup ∧ el.isos ≠ [] ∧
      ∀ i ∈ el.isos, i.A ≠ 0 ∧ el.Z ≤ i.A := by
    intro el hmem
    obtain ⟨e, he, rfl⟩ := List.mem_map.mp hmem
    obtain ⟨⟨hne, hd⟩, hiso⟩ := hrow e he
    refine ⟨by rw [hA]; exact (nodup_of_distinctFrom _ 0 hd).1, ?_, ?_⟩
    · intro h0
      have := hA e
      rw [h0, List.map_nil, eq_comm, List.map_eq_nil_iff] at this
      rw [this] at hne
      cases hne
    · intro i hi
      have : i.A ∈ e.2.2.map (·.1) := hA e ▸ List.mem_map_of_mem hi
      obtain ⟨r, hr, hrA⟩ := List.mem_map.mp this
      have := hiso r hr
      rw [← hrA, hZ]
      exact ⟨Nat.ne_of_gt this.1.1.1, this.1.1.2⟩
  exact ⟨⟨hsyms, fun el hm => (hel el hm).1⟩, fun el hm => (hel el hm).2⟩

theorem table_raw_wellformed : wfBool Gen.table = true := by decide +kernel

theorem liveTable_wellformed :
    TableWF liveTable ∧ ∀ el ∈ liveTable, el.isos ≠ [] ∧ ∀ i ∈ el.isos, i.A ≠ 0 ∧ el.Z ≤ i.A :=
  wellformed_of_check Gen.table _ (fun _ => rfl) (fun _ => rfl)
    (fun e => by simp only [List.map_map]; rfl) table_raw_wellformed

theorem table_wellformed : TableWF liveTable := liveTable_wellformed.1

theorem table_isotopes_found : ∀ el ∈ liveTable, el.isos ≠ [] ∧ ∀ i ∈ el.isos, i.A ≠ 0 ∧ el.Z ≤ i.A :=
  liveTable_wellformed.2

end SciVerif.C10.Facts
