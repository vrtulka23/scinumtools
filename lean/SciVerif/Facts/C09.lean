import SciVerif.Generated.C09Tables
import SciVerif.Lemmas.C09Programs

/-!
The hypothesis of the C09 theorems holds for the tables the library actually starts with (`realG`,
generated from the live tables of a fresh interpreter), so the theorems apply to them.
-/
namespace SciVerif.C09

/-- The live `UNIT_STANDARD` satisfies the ParameterTable invariant (`_keys` = dict key order). -/
theorem C09_real_tables_wf : WF realG := by
  -- two literal lists of 153 strings: the kernel compares them as literals (`rfl`); `decide` would run `String.decEq` on each
  show realKeys = realData.map Prod.fst
  rfl

/-- Restoration, instantiated at the real tables: every program leaves them exactly as found. -/
theorem C09_restored_real (p : Prog) : (run p realG).1 = realG :=
  (run_restored p realG C09_real_tables_wf).1

end SciVerif.C09
