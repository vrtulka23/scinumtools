import SciVerif.Generated.C03Tables
import SciVerif.Lemmas.C03Table

/-! C03 table fact `factUnique`: the kernel decides `checkUnique` over the whole regenerated table. -/
namespace SciVerif.C03.Facts
open SciVerif.C03

theorem C03_fact_unique : factUnique Gen.tables = true :=
  factUnique_of_check Gen.tables (by decide +kernel)

end SciVerif.C03.Facts
