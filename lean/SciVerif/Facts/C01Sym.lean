import SciVerif.Lemmas.C01Text
import SciVerif.Lemmas.C01Tokens

/-!
# Facts decided by the kernel over `Generated/C01Tables.lean`: what the tokenizer proof needs of
  the regenerated operator table, and (`fact_atombase_ops`) what the methods of the stock atom class
  compute.  `rowFact` is stated with the table-independent `earlierOK`, `clashChars`, `stdPar` of
  `Lemmas/C01Text.lean`; the rows are addressed by the positions found in `Lemmas/C01Tokens.lean` (`idxOf_*`).
-/
namespace SciVerif.C01
open SciVerif.C01.Gen

/-- a character of the inside of a literal or a blank: no operator symbol may start with one -/
def plain (c : Char) : Bool := isDigit c || c == '.' || c == ' '

/-- the symbol does not start with a digit, `.` or a blank, and if it starts with `e` its second
    character is not a digit (so no symbol can start inside a literal such as `1e5`) -/
def symStartOK (r : OpRow) : Bool :=
  match r.symbol with
  | [] => false
  | c :: cs => !plain c && (c != 'e' || (match cs with | [] => false | d :: _ => !isDigit d))

/-- The row called `name` has symbol `sym` and parenthesis spec `par`; no EARLIER row's symbol is a
    prefix of `sym`; and the only way an earlier row can win at a position where `sym` stands is
    that the text continues with `*` or `=` (`**` before `*`, `!=` before `!`, `<=`/`>=` before
    `<`/`>`). -/
def rowFact (tbl : Table) (name : String) (sym : List Char) (par : Option ParSpec) : Bool :=
  match tbl.rows[idxOf tbl name]? with
  | some row =>
      row.symbol == sym && row.par == par &&
      earlierOK (tbl.rows.take (idxOf tbl name)) sym &&
      (clashChars (tbl.rows.take (idxOf tbl name)) sym).all (fun c => c == '*' || c == '=')
  | none => false

theorem fact_sym_start : dflt.rows.all symStartOK = true := by decide +kernel

theorem fact_binary (o : B2) : rowFact dflt o.name o.sym none = true := by
  rw [rowFact, idxOf_B2]
  cases o <;> decide +kernel

theorem fact_sign (s : Bool) :
    rowFact dflt (if s then "sub" else "add") (if s then ['-'] else ['+']) none = true := by
  rw [rowFact, idxOf_sign]
  cases s <;> decide +kernel

theorem fact_not : rowFact dflt "not" ['!'] none = true := by
  rw [rowFact, idxOf_not]
  decide +kernel

theorem fact_fn1 (f : F1) : rowFact dflt f.name f.sym (some (stdPar 1)) = true := by
  rw [rowFact, idxOf_F1]
  cases f <;> decide +kernel

theorem fact_fn2 (g : F2) : rowFact dflt g.name g.sym (some (stdPar 2)) = true := by
  rw [rowFact, idxOf_F2]
  cases g <;> decide +kernel

theorem fact_fn1_noclash (f : F1) : clashChars (dflt.rows.take (idxOf dflt f.name)) f.sym = [] := by
  rw [idxOf_F1]
  cases f <;> decide +kernel

theorem fact_fn2_noclash (g : F2) : clashChars (dflt.rows.take (idxOf dflt g.name)) g.sym = [] := by
  rw [idxOf_F2]
  cases g <;> decide +kernel

/-- Every method of the stock `AtomBase` applies exactly the Python operation of the same
    meaning to the two operand values, in this order (regenerated by abstract probing with symbolic
    float scalars): in particular `__eq__` is `==`, not an approximate comparison.  This is the atom
    algebra the float evaluation of terms in the correspondence (`eval_float`) stands for. -/
theorem fact_atombase_ops : atomBaseOps =
    [("__add__", "L + R"), ("__sub__", "L - R"), ("__mul__", "L * R"), ("__truediv__", "L / R"),
     ("__pow__", "L ** R"), ("__neg__", "-L"), ("log", "np.log(L)"), ("log10", "np.log10(L)"),
     ("sqrt", "np.sqrt(L)"), ("sin", "np.sin(L)"), ("cos", "np.cos(L)"), ("tan", "np.tan(L)"),
     ("logical_and", "L and R"), ("logical_or", "L or R"), ("logical_not", "not bool(L)"),
     ("__eq__", "L == R"), ("__ne__", "L != R"), ("__le__", "L <= R"), ("__ge__", "L >= R"),
     ("__lt__", "L < R"), ("__gt__", "L > R")] := rfl

end SciVerif.C01
