import SciVerif.Generated.C04Tables

/-! The fact about the regenerated unit, prefix and system tables that C04 rests on, decided by
    the kernel in one pass over `Generated/C04Tables.lean`. -/
namespace SciVerif.C04

theorem Gen.factors_wellformed :
    ∀ r ∈ Gen.factors, 0 < r.mag ∧ r.dims.length = 8 ∧ ∀ d ∈ r.dims, d.2 ≠ 0 := by
  decide +kernel

end SciVerif.C04
