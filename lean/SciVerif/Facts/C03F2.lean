import SciVerif.Generated.C03Tables

/-! C03 table fact `factF2`, decided by the kernel over the whole regenerated table. -/
namespace SciVerif.C03.Facts
open SciVerif.C03

theorem C03_fact_F2 : factF2 Gen.tables = true := by decide +kernel

end SciVerif.C03.Facts
