import SciVerif.Facts.C03Unique

/-! C03 table fact `factF1`: the kernel decides `checkF1` over the whole regenerated table. -/
namespace SciVerif.C03.Facts
open SciVerif.C03

theorem C03_fact_F1 : factF1 Gen.tables = true :=
  factF1_of_check Gen.tables (Bool.and_eq_true_iff.mp C03_fact_unique).1 (by decide +kernel)

end SciVerif.C03.Facts
